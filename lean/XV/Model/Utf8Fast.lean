/-
Linear-time evaluation of `XV.Model.Utf8.transcodeFrom` for the compiled driver.
`fromLoop` appends to the end of its accumulators (quadratic on a 16K-character block);
`fromLoopFast` conses and reverses once.  The `@[csimp]` equation below is PROVED, so the
compiler may replace one by the other; the logical definition used by every theorem stays
`transcodeFrom`.
-/
import XV.Model.Utf8
namespace XV.Model.Utf8

/-- `l.length < t` without walking the whole list (the raw window is up to 48K bytes long and `decodeStep`
asks this once per multi-byte character) -/
def shorter : List Nat → Nat → Bool
  | _, 0 => false
  | [], _ + 1 => true
  | _ :: r, t + 1 => shorter r t

theorem shorter_eq : ∀ (l : List Nat) (t : Nat), shorter l t = decide (l.length < t) := by
  intro l
  induction l with
  | nil => intro t; cases t <;> simp [shorter]
  | cons a r ih => intro t; cases t with
    | zero => simp [shorter]
    | succ t => simp [shorter, ih]

/-- `decodeStep` with the bounded length test -/
def decodeStepFast : List Nat → Step
  | [] => .more
  | b0 :: rest =>
    let t := tb b0
    if shorter rest t then .more
    else if (indTest t &&& b0) != ind t then .exc .formatError
    else match t, rest with
      | 1, b1 :: _ =>
          if trailBad b1 then .exc .formatError
          else .val (sub32 (b0 * 64 + b1) (off 1)) 2
      | 2, b1 :: b2 :: _ =>
          if b0 == 0xE0 && b1 < 0xA0 then .exc .invalid3
          else if trailBad b1 then .exc .formatError
          else if trailBad b2 then .exc .formatError
          else if b0 == 0xED && b1 ≥ 0xA0 then .exc .irregular3
          else .val (sub32 ((b0 * 64 + b1) * 64 + b2) (off 2)) 3
      | 3, b1 :: b2 :: b3 :: _ =>
          if (b0 == 0xF0 && b1 < 0x90) || (b0 == 0xF4 && b1 > 0x8F) then .exc .invalid4
          else if trailBad b1 then .exc .formatError
          else if trailBad b2 then .exc .formatError
          else if trailBad b3 then .exc .formatError
          else .val (sub32 (((b0 * 64 + b1) * 64 + b2) * 64 + b3) (off 3)) 4
      | _, _ => .exc .exceedsLimit

@[csimp] theorem decodeStep_eq_fast : @decodeStep = @decodeStepFast := by
  funext bs
  cases bs with
  | nil => rfl
  | cons b0 rest =>
    rw [decodeStep.eq_def, decodeStepFast.eq_def]
    simp only [shorter_eq, decide_eq_true_eq]
    by_cases hs : rest.length < tb b0
    · rw [if_pos hs, if_pos hs]
    rw [if_neg hs, if_neg hs]
    by_cases hl : ((indTest (tb b0) &&& b0) != ind (tb b0)) = true
    · rw [if_pos hl, if_pos hl]
    rw [if_neg hl, if_neg hl]
    -- the two (identical) pattern matches are distinct auxiliary definitions: each case of the pattern evaluates both
    generalize tb b0 = t
    match t, rest with
    | 0, _ | 1, [] | 1, _ :: _ | 2, [] | 2, [_] | 2, _ :: _ :: _ | 3, [] | 3, [_] | 3, [_, _] | 3, _ :: _ :: _ :: _
    | _ + 4, _ => rfl

def fromLoopFast : Nat → List Nat → Nat → List Nat → List Nat → Nat → Res
  | 0, _, _, rc, rs, eaten => .ok rc.reverse rs.reverse eaten
  | fuel + 1, src, room, rc, rs, eaten =>
    if room = 0 then .ok rc.reverse rs.reverse eaten else
    match src with
    | [] => .ok rc.reverse rs.reverse eaten
    | b0 :: rest =>
      if b0 ≤ 127 then fromLoopFast fuel rest (room - 1) (b0 :: rc) (1 :: rs) (eaten + 1)
      else match decodeStep (b0 :: rest) with
        | .more => .ok rc.reverse rs.reverse eaten
        | .exc e => .exc e
        | .val v n =>
          if v < 65536 then
            fromLoopFast fuel ((b0 :: rest).drop n) (room - 1) (v :: rc) (n :: rs) (eaten + n)
          else if v > 0x10FFFF then
            if rc.length > 32 then .ok rc.reverse rs.reverse eaten else .exc .badSrcSeq
          else if room < 2 then .ok rc.reverse rs.reverse eaten
          else
            let w := v - 0x10000
            fromLoopFast fuel ((b0 :: rest).drop n) (room - 2)
              ((w % 1024 + 0xDC00) :: (w / 1024 + 0xD800) :: rc) (0 :: n :: rs) (eaten + n)

def transcodeFromFast (src : List Nat) (maxChars : Nat) : Res :=
  fromLoopFast src.length src maxChars [] [] 0

theorem fromLoopFast_eq : ∀ (fuel : Nat) (src : List Nat) (room : Nat) (rc rs : List Nat) (eaten : Nat),
    fromLoopFast fuel src room rc rs eaten = fromLoop fuel src room rc.reverse rs.reverse eaten := by
  intro fuel
  induction fuel with
  | zero => intros; simp [fromLoopFast, fromLoop]
  | succ fuel ih =>
    intro src room rc rs eaten
    unfold fromLoopFast fromLoop
    by_cases hr : room = 0
    · simp [hr]
    · simp only [hr, if_false]
      cases src with
      | nil => rfl
      | cons b0 rest =>
        simp only []
        by_cases hb : b0 ≤ 127
        · simp only [hb, if_true]; rw [ih]; simp
        · simp only [hb, if_false]
          cases hd : decodeStep (b0 :: rest) with
          | more => rfl
          | exc e => rfl
          | val v n =>
            simp only []
            by_cases h1 : v < 65536
            · simp only [h1, if_true]; rw [ih]; simp
            · simp only [h1, if_false]
              by_cases h2 : v > 0x10FFFF
              · simp only [h2, if_true, List.length_reverse]
              · simp only [h2, if_false]
                by_cases h3 : room < 2
                · simp only [h3, if_true]
                · simp only [h3, if_false]; rw [ih]; simp

@[csimp] theorem transcodeFrom_eq_fast : @transcodeFrom = @transcodeFromFast := by
  funext src m
  simp [transcodeFrom, transcodeFromFast, fromLoopFast_eq]

end XV.Model.Utf8
