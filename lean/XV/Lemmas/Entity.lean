/-
C19 — the entity-expansion model (XV.Model.Entity) against its Spec (XV.Spec.Entity).

The Spec first: `Expands` is deterministic and additive over `++`, and an entity on a reference chain needs fewer
expansions than the text the chain starts in.  Then three facts about the loop.  `Outcome`: what the error field says
afterwards (no error means an expansion exists; `.depth` does not occur, because `measure` drops at every push).
`scan_of_expands`: without a limit a text that has an expansion is delivered exactly.  `Sim`: the run with limit `l` is
the run without one until the count passes `l`, and stops there.  `Outcome` and `Sim` are proved for one level of
`scanItems` with the recursion into a pushed entity (`recur`) as a parameter, then carried through `scan` and `scanDoc`.
-/
import XV.Model.Entity
namespace XV.Lemmas.Entity
open XV.Spec.Entity XV.Model.Entity

theorem get_mem_names {tbl : Table} {n : Name} {v : Text} (h : tbl.get n = some v) : n ∈ names tbl := by
  fun_induction Table.get tbl n with
  | case1 => cases h
  | case2 => exact List.mem_cons_self
  | case3 _ _ _ _ _ ih => exact List.mem_cons_of_mem _ (ih h)

theorem expands_det {tbl : Table} {cs : Bool} {t : Text} {o o' : List Nat} {k k' : Nat}
    (h : Expands tbl cs t o k) (h' : Expands tbl cs t o' k') : o = o' ∧ k = k' := by
  induction h generalizing o' k' with
  | nil => cases h'; exact ⟨rfl, rfl⟩
  | ch _ ih => cases h' with | ch h2 => obtain ⟨rfl, rfl⟩ := ih h2; exact ⟨rfl, rfl⟩
  | special _ ih => cases h' with | special h2 => obtain ⟨rfl, rfl⟩ := ih h2; exact ⟨rfl, rfl⟩
  | ref hg _ _ ih1 ih2 =>
    cases h' with
    | ref hg' h1' h2' =>
      cases hg.symm.trans hg'
      obtain ⟨rfl, rfl⟩ := ih1 h1'
      obtain ⟨rfl, rfl⟩ := ih2 h2'
      exact ⟨rfl, rfl⟩

theorem expands_append {tbl : Table} {cs : Bool} {t1 t2 : Text} {o1 o2 : List Nat} {k1 k2 : Nat}
    (h1 : Expands tbl cs t1 o1 k1) (h2 : Expands tbl cs t2 o2 k2) :
    Expands tbl cs (t1 ++ t2) (o1 ++ o2) (k1 + k2) := by
  induction h1 with
  | nil => simpa using h2
  | ch _ ih => exact .ch ih
  | @special c t o k _ ih => exact Nat.add_right_comm k k2 _ ▸ Expands.special (c := c) ih
  | @ref n v t oa ka ob kb hg ha _ _ ih2 =>
    rw [show ka + kb + 1 + k2 = ka + (kb + k2) + 1 by omega, List.append_assoc]
    exact .ref hg ha ih2

theorem expands_split {tbl : Table} {cs : Bool} {t1 t2 : Text} {o : List Nat} {k : Nat}
    (h : Expands tbl cs (t1 ++ t2) o k) :
    ∃ o1 k1 o2 k2, Expands tbl cs t1 o1 k1 ∧ Expands tbl cs t2 o2 k2 ∧ o = o1 ++ o2 ∧ k = k1 + k2 := by
  induction t1 generalizing o k with
  | nil => exact ⟨[], 0, o, k, .nil, h, rfl, (Nat.zero_add k).symm⟩
  | cons it rest ih =>
    cases h with
    | ch h' =>
      obtain ⟨o1, k1, o2, k2, a, b, rfl, d⟩ := ih h'
      exact ⟨_, k1, o2, k2, .ch a, b, rfl, d⟩
    | special h' =>
      obtain ⟨o1, k1, o2, k2, a, b, rfl, rfl⟩ := ih h'
      exact ⟨_, _, o2, k2, .special a, b, rfl, Nat.add_right_comm ..⟩
    | ref hg hv h' =>
      obtain ⟨o1, k1, o2, k2, a, b, rfl, rfl⟩ := ih h'
      exact ⟨_, _, o2, k2, .ref hg hv a, b, (List.append_assoc ..).symm, by omega⟩

theorem expands_ref_mem {tbl : Table} {cs : Bool} {t : Text} {o : List Nat} {k : Nat} {n : Name}
    (h : Expands tbl cs t o k) (hn : n ∈ refs t) :
    ∃ v o' k', tbl.get n = some v ∧ Expands tbl cs v o' k' ∧ k' < k := by
  induction h with
  | nil => cases hn
  | ch _ ih => exact ih hn
  | special _ ih =>
    obtain ⟨v, o', k', a, b, c⟩ := ih hn
    exact ⟨v, o', k', a, b, Nat.lt_add_right _ c⟩
  | @ref m v t o1 k1 o2 k2 hg h1 _ _ ih2 =>
    rcases List.mem_cons.1 hn with rfl | hn
    · exact ⟨v, o1, k1, hg, h1, by omega⟩
    · obtain ⟨v', o', k', a, b, c⟩ := ih2 hn
      exact ⟨v', o', k', a, b, by omega⟩

theorem expands_chain_mem {tbl : Table} {cs : Bool} {t : Text} {c : List Name} (hc : Chain tbl t c) :
    ∀ {o : List Nat} {k : Nat}, Expands tbl cs t o k →
      ∀ n ∈ c, ∃ v o' k', tbl.get n = some v ∧ Expands tbl cs v o' k' ∧ k' < k := by
  induction hc with
  | one hn =>
    intro o k h n hmem
    cases List.mem_singleton.1 hmem
    exact expands_ref_mem h hn
  | @cons t m v c hn hg _ ih =>
    intro o k h n hmem
    obtain ⟨v', o', k', a, b, lt⟩ := expands_ref_mem h hn
    cases hg.symm.trans a
    rcases List.mem_cons.1 hmem with rfl | hmem
    · exact ⟨v, o', k', hg, b, lt⟩
    · obtain ⟨v2, o2, k2, a2, b2, lt2⟩ := ih b n hmem
      exact ⟨v2, o2, k2, a2, b2, Nat.lt_trans lt2 lt⟩

theorem selfRef_not_expands {tbl : Table} {cs : Bool} {t : Text} {n : Name} (h : SelfRef tbl t n) :
    ¬ ∃ o k, Expands tbl cs t o k := by
  rintro ⟨o, k, he⟩
  obtain ⟨p, q, v, c1, hg, c2⟩ := h
  -- an entity on a chain needs strictly fewer expansions than the text the chain starts in: `n` fewer than itself
  obtain ⟨v1, o1, k1, a1, b1, _⟩ := expands_chain_mem c1 he n (by simp)
  cases hg.symm.trans a1
  obtain ⟨v2, o2, k2, a2, b2, lt2⟩ := expands_chain_mem c2 b1 n (by simp)
  cases hg.symm.trans a2
  exact Nat.lt_irrefl _ ((expands_det b1 b2).2 ▸ lt2)

variable (cfg : Cfg) (tbl : Table) (content : Bool)

theorem scanItems_stuck (recur) (below top) (t : Text) (st : St)
    (h : st.err.isSome = true) : scanItems cfg tbl content recur below top t st = st := by
  cases t with
  | nil => rfl
  | cons it rest => simp [scanItems, h]

theorem scan_succ (f : Nat) (below top) (t : Text) (st : St) :
    scan cfg tbl content (f + 1) below top t st = scanItems cfg tbl content (scan cfg tbl content f) below top t st := rfl

/-- Only with budget left: `scan … 0` overwrites an error that is already there with `.depth`. -/
theorem scan_stuck (f : Nat) (below top) (t : Text) (st : St)
    (h : st.err.isSome = true) : scan cfg tbl content (f + 1) below top t st = st :=
  scanItems_stuck _ _ _ _ _ _ _ _ h

theorem scanDoc_stuck (f : Nat) (d : Doc) (st : St) (h : st.err.isSome = true) :
    scanDoc cfg tbl (f + 1) d st = st := by
  induction d with
  | nil => rfl
  | cons seg rest ih => rw [scanDoc, scan_stuck _ _ _ _ _ _ _ _ h, ih]

theorem isSome_of_ne_none {α} {o : Option α} (h : o ≠ none) : o.isSome = true :=
  Option.isSome_iff_ne_none.2 h

section eqs
variable (recur : List Name → Option Name → Text → St → St)
  (below : List Name) (top : Option Name)

theorem scanItems_ch {st : St} (h : st.err = none) (c : Nat) (rest : Text) :
    scanItems cfg tbl content recur below top (.ch c :: rest) st =
      scanItems cfg tbl content recur below top rest { st with outRev := c :: st.outRev } := by
  simp [scanItems, h]

theorem scanItems_special_cs {st : St} (h : st.err = none) (hcs : cfg.countSpecial = true) (c : Nat) (rest : Text) :
    scanItems cfg tbl content recur below top (.special c :: rest) st =
      if overLimit cfg (st.count + 1) = true then { st with count := st.count + 1, err := some .limit }
      else scanItems cfg tbl content recur below top rest { st with count := st.count + 1, outRev := c :: st.outRev } := by
  simp [scanItems, h, hcs]

theorem scanItems_special_ncs {st : St} (h : st.err = none) (hcs : cfg.countSpecial = false) (c : Nat) (rest : Text) :
    scanItems cfg tbl content recur below top (.special c :: rest) st =
      scanItems cfg tbl content recur below top rest { st with outRev := c :: st.outRev } := by
  simp [scanItems, h, hcs]

theorem scanItems_ref_none {st : St} (h : st.err = none) {n : Name} (hg : tbl.get n = none) (rest : Text) :
    scanItems cfg tbl content recur below top (.ref n :: rest) st = { st with err := some (.notFound n) } := by
  simp [scanItems, h, hg]

theorem scanItems_ref_rec {st : St} (h : st.err = none) {n : Name} {v : Text} (hg : tbl.get n = some v)
    (hb : n ∈ below) (rest : Text) :
    scanItems cfg tbl content recur below top (.ref n :: rest) st = { st with err := some (.recursive n) } := by
  simp [scanItems, h, hg, hb]

theorem scanItems_ref_push {st : St} (h : st.err = none) {n : Name} {v : Text} (hg : tbl.get n = some v)
    (hb : n ∉ below) (rest : Text) :
    scanItems cfg tbl content recur below top (.ref n :: rest) st =
      if overLimit cfg (st.count + 1) = true then
        { st with pushes := st.pushes + 1, count := st.count + 1, err := some .limit }
      else scanItems cfg tbl content recur below top rest
        (recur (pushBelow below top) (some n) v
          { st with pushes := st.pushes + 1, count := st.count + 1, se := st.se + (if content then 1 else 0) }) := by
  simp [scanItems, h, hg, hb]
end eqs

theorem overLimit_none {cfg : Cfg} (h : cfg.limit = none) (c : Nat) : overLimit cfg c = false := by
  simp [overLimit, h]

theorem overLimit_some {cfg : Cfg} {l : Nat} (h : cfg.limit = some l) (c : Nat) : overLimit cfg c = decide (c > l) := by
  simp [overLimit, h]

/-! The cases of `fun_induction scanItems` below are the ten branches of the definition, in its order: 1 empty text,
2 stuck on an error, 3 `ch`, 4–6 `special` (counted and over the limit, counted, not counted), 7–10 `ref` (undeclared,
recursive, over the limit, pushed). -/

/-- the counter only grows, and by at least the number of reader pushes: every push is counted -/
def Grow (s s' : St) : Prop := s.count ≤ s'.count ∧ s'.pushes + s.count ≤ s'.count + s.pushes

theorem scanItems_grow (recur) (below top)
    (hrec : ∀ b tp v s, Grow s (recur b tp v s)) (t : Text) (st : St) :
    Grow st (scanItems cfg tbl content recur below top t st) := by
  fun_induction scanItems cfg tbl content recur below top t st with
  | case10 _ _ _ n v _ _ _ _ st2 _ ih =>
    have := hrec (pushBelow below top) (some n) v st2
    simp +zetaDelta only [Grow] at *; omega
  | _ => simp +zetaDelta only [Grow] at *; omega

theorem scan_grow (fuel : Nat) :
    ∀ (below top) (t : Text) (st : St), Grow st (scan cfg tbl content fuel below top t st) := by
  induction fuel with
  | zero => intro _ _ _ st; simp only [Grow, scan]; omega
  | succ f ih => exact fun below top => scanItems_grow cfg tbl content _ below top ih

theorem scanDoc_grow (fuel : Nat) (d : Doc) (st : St) :
    Grow st (scanDoc cfg tbl fuel d st) := by
  fun_induction scanDoc cfg tbl fuel d st with
  | case1 st => simp only [Grow]; omega
  | case2 c t _ st ih =>
    have := scan_grow cfg tbl c fuel [] none t st
    simp only [Grow] at *; omega

def cnt (D S : List Name) : Nat := D.countP (· ∉ S)

theorem cnt_lt {D S S' : List Name} {n : Name} (hD : n ∈ D) (hS : n ∉ S) (hS' : n ∈ S') (hsub : ∀ x ∈ S, x ∈ S') :
    cnt D S' < cnt D S := by
  have mono (l : List Name) : cnt l S' ≤ cnt l S :=
    List.countP_mono_left fun x _ => by simpa using mt (hsub x)
  obtain ⟨l₁, l₂, rfl⟩ := List.append_of_mem hD
  have h1 := mono l₁
  have h2 := mono l₂
  unfold cnt at *
  rw [List.countP_append, List.countP_append, List.countP_cons_of_neg (by simpa using hS'),
    List.countP_cons_of_pos (by simpa using hS)]
  omega

/-- What bounds the depth of the reader stack: the declared names that are not below the current reader, plus those that
    are not on the stack at all (neither below nor the current reader's own).  At a push the whole stack goes below, so
    the second number becomes the first; and the new second number is smaller than the old first, because the pushed name
    was not below.  It may have been the current reader's own, since the recursion test skips the top of the stack: every
    name is paid for twice. -/
def measure (tbl : Table) (below : List Name) (top : Option Name) : Nat :=
  cnt (names tbl) below + cnt (names tbl) (pushBelow below top)

theorem measure_push {tbl : Table} {below : List Name} {top : Option Name} {n : Name} {v : Text}
    (hg : tbl.get n = some v) (hb : n ∉ below) :
    measure tbl (pushBelow below top) (some n) < measure tbl below top := by
  have : cnt (names tbl) (n :: pushBelow below top) < cnt (names tbl) below :=
    cnt_lt (get_mem_names hg) hb List.mem_cons_self fun x hx => by cases top <;> simp [pushBelow, hx]
  rw [measure, Nat.add_comm]
  exact Nat.add_lt_add_right this _

theorem measure_doc : measure tbl [] none < fuelFor tbl := by
  simp [measure, pushBelow, cnt, names, fuelFor]; omega

def Referenced (tbl : Table) (t : Text) (n : Name) : Prop :=
  n ∈ refs t ∨ ∃ m v, tbl.get m = some v ∧ n ∈ refs v

theorem refs_append (t1 t2 : Text) : refs (t1 ++ t2) = refs t1 ++ refs t2 := by
  induction t1 with
  | nil => rfl
  | cons it rest ih => cases it <;> simp [refs, ih]

theorem Referenced.append_left {tbl t1 n} (t2 : Text) (h : Referenced tbl t1 n) : Referenced tbl (t1 ++ t2) n :=
  h.imp_left fun h => refs_append t1 t2 ▸ List.mem_append_left _ h

theorem Referenced.append_right {tbl t2 n} (t1 : Text) (h : Referenced tbl t2 n) : Referenced tbl (t1 ++ t2) n :=
  h.imp_left fun h => refs_append t1 t2 ▸ List.mem_append_right _ h

/-- What the error field after scanning `t` from an error-free state says about `t`.  No error: `t` has an expansion.
    `.notFound n`: `n` is undeclared and referenced, in `t` or in the text of some declared entity, reachable from `t` or
    not (`Referenced`; this weak form is what `Outcome.ref` and `Outcome.append` can hand on without tracking chains).
    `.limit`: only that a limit is set.  `.recursive _`: nothing.  `.depth` cannot be the outcome. -/
def Outcome (cfg : Cfg) (tbl : Table) (t : Text) : Option Err → Prop
  | none => ∃ o k, Expands tbl cfg.countSpecial t o k
  | some .limit => cfg.limit ≠ none
  | some (.notFound n) => tbl.get n = none ∧ Referenced tbl t n
  | some (.recursive _) => True
  | some .depth => False

theorem Outcome.append {cfg : Cfg} {tbl : Table} {t1 t2 : Text} {e1 e : Option Err} (h1 : Outcome cfg tbl t1 e1)
    (h2 : e1 = none → Outcome cfg tbl t2 e) (he : e1 ≠ none → e = e1) : Outcome cfg tbl (t1 ++ t2) e := by
  cases e1 with
  | some x =>
    cases he nofun
    cases x with
    | notFound n => exact ⟨h1.1, h1.2.append_left t2⟩
    | _ => exact h1
  | none =>
    obtain ⟨o1, k1, a⟩ := h1
    cases e with
    | none => obtain ⟨o2, k2, b⟩ := h2 rfl; exact ⟨_, _, expands_append a b⟩
    | some x =>
      cases x with
      | notFound n => exact ⟨(h2 rfl).1, (h2 rfl).2.append_right t1⟩
      | _ => exact h2 rfl

theorem Outcome.ref {cfg : Cfg} {tbl : Table} {n : Name} {v : Text} {e : Option Err} (hg : tbl.get n = some v)
    (h : Outcome cfg tbl v e) : Outcome cfg tbl [.ref n] e := by
  cases e with
  | none => obtain ⟨o, k, a⟩ := h; exact ⟨_, _, .ref hg a .nil⟩
  | some x =>
    cases x with
    | notFound m => exact ⟨h.1, .inr (h.2.elim (fun h => ⟨n, v, hg, h⟩) id)⟩
    | _ => exact h

theorem scanItems_outcome (recur) (below top)
    (hrec : ∀ n v s, tbl.get n = some v → n ∉ below → s.err = none →
      Outcome cfg tbl v (recur (pushBelow below top) (some n) v s).err)
    (t : Text) (st : St) (hst : st.err = none) :
    Outcome cfg tbl t (scanItems cfg tbl content recur below top t st).err := by
  fun_induction scanItems cfg tbl content recur below top t st with
  | case1 => rw [hst]; exact ⟨_, _, .nil⟩
  | case2 _ _ _ h => rw [hst] at h; cases h
  | case3 rest _ _ c ih =>
    exact Outcome.append (e1 := none) (t1 := [.ch c]) ⟨_, _, .ch .nil⟩ (fun _ => ih hst) nofun
  | case5 rest _ _ c _ _ _ ih | case6 rest _ _ c _ ih =>
    exact Outcome.append (e1 := none) (t1 := [.special c]) ⟨_, _, .special .nil⟩ (fun _ => ih hst) nofun
  | case4 _ _ _ _ _ _ ho | case9 _ _ _ _ _ _ _ _ ho =>
    exact fun hl => Bool.false_ne_true ((overLimit_none hl _).symm.trans ho)
  | case7 _ _ _ n hg => exact ⟨hg, .inl List.mem_cons_self⟩
  | case8 => trivial
  | case10 rest _ _ n v hg hb _ _ st2 st3 ih =>
    refine Outcome.append (t1 := [.ref n]) (Outcome.ref hg (hrec n v st2 hg hb hst)) ih fun h3 => ?_
    rw [scanItems_stuck _ _ _ _ _ _ _ _ (isSome_of_ne_none h3)]

/-- The reader stack never gets deeper than the measure: a push needs an entity that is declared and not below, and
    `measure_push` charges it. -/
theorem scan_outcome (fuel : Nat) :
    ∀ (below top) (t : Text) (st : St), measure tbl below top < fuel → st.err = none →
      Outcome cfg tbl t (scan cfg tbl content fuel below top t st).err := by
  induction fuel with
  | zero => intro _ _ _ _ h; cases h
  | succ f ih =>
    intro below top t st hm
    exact scanItems_outcome cfg tbl content _ below top
      (fun n v s hg hb => ih _ _ v s (by have := measure_push (top := top) hg hb; omega)) t st

theorem scanDoc_outcome (fuel : Nat) (hf : fuelFor tbl ≤ fuel) (d : Doc) (st : St) (hst : st.err = none) :
    Outcome cfg tbl d.flatten (scanDoc cfg tbl fuel d st).err := by
  fun_induction scanDoc cfg tbl fuel d st with
  | case1 => rw [hst]; exact ⟨_, _, .nil⟩
  | case2 c t rest st ih =>
    refine Outcome.append (scan_outcome cfg tbl c fuel [] none t st (Nat.lt_of_lt_of_le (measure_doc tbl) hf) hst) ih
      fun h1 => ?_
    obtain ⟨f, rfl⟩ : ∃ f, fuel = f + 1 := ⟨fuel - 1, by have := measure_doc tbl; omega⟩
    rw [scanDoc_stuck _ _ _ _ _ (isSome_of_ne_none h1)]

/-- The invariant of `scan_of_expands`, with `k` the count of the text being scanned: every entity on the reader stack
    has an expansion that needs at least `k` expansions.  An entity of that text needs fewer, so it is not on the stack. -/
def OnStack (tbl : Table) (cs : Bool) (S : List Name) (k : Nat) : Prop :=
  ∀ m ∈ S, ∃ v o' k', tbl.get m = some v ∧ Expands tbl cs v o' k' ∧ k ≤ k'

theorem OnStack.mono {tbl cs S k k'} (h : OnStack tbl cs S k) (hk : k' ≤ k) : OnStack tbl cs S k' := by
  intro m hm
  obtain ⟨v, o, k2, a, b, c⟩ := h m hm
  exact ⟨v, o, k2, a, b, Nat.le_trans hk c⟩

/-- What `scan_of_expands` concludes: `r` is `st` with the characters `o` delivered and `k` more expansions counted, and
    no error.  Of `pushes` and `se` it says nothing. -/
def Delivers (o : List Nat) (k : Nat) (st r : St) : Prop :=
  r.err = none ∧ r.outRev = o.reverse ++ st.outRev ∧ r.count = st.count + k

/-- Without a limit a text that has an expansion is delivered exactly.  An entity of the text cannot be on the reader
    stack (`OnStack`: everything there needs at least as many expansions as the whole text), so no recursion is
    reported, and the budget `measure` suffices as in `scan_outcome`. -/
theorem scan_of_expands {tbl : Table} {cs : Bool} {t : Text} {o : List Nat} {k : Nat} (h : Expands tbl cs t o k) :
    ∀ (content : Bool) (f : Nat) (below : List Name) (top : Option Name) (st : St),
      st.err = none → measure tbl below top ≤ f → OnStack tbl cs (pushBelow below top) k →
      Delivers o k st (scan ⟨none, cs⟩ tbl content (f + 1) below top t st) := by
  induction h with
  | nil => exact fun _ _ _ _ st hst _ _ => ⟨hst, rfl, rfl⟩
  | @ch c t o k _ ih =>
    intro content f below top st hst hm hon
    rw [scan_succ, scanItems_ch _ _ _ _ _ _ hst, ← scan_succ]
    obtain ⟨h1, h2, h3⟩ := ih content f below top { st with outRev := c :: st.outRev } hst hm hon
    exact ⟨h1, by rw [h2]; simp, h3⟩
  | @special c t o k _ ih =>
    intro content f below top st hst hm hon
    have e : scanItems ⟨none, cs⟩ tbl content (scan ⟨none, cs⟩ tbl content f) below top (.special c :: t) st =
        scanItems ⟨none, cs⟩ tbl content (scan ⟨none, cs⟩ tbl content f) below top t
          { st with count := st.count + spw cs, outRev := c :: st.outRev } := by
      cases cs
      · exact scanItems_special_ncs _ _ _ _ _ _ hst rfl c t
      · rw [scanItems_special_cs _ _ _ _ _ _ hst rfl, overLimit_none rfl, if_neg Bool.false_ne_true]; rfl
    rw [scan_succ, e, ← scan_succ]
    obtain ⟨h1, h2, h3⟩ := ih content f below top { st with count := st.count + spw cs, outRev := c :: st.outRev }
      hst hm (hon.mono (Nat.le_add_right k (spw cs)))
    exact ⟨h1, by rw [h2]; simp, by rw [h3]; simp only []; omega⟩
  | @ref n v t o1 k1 o2 k2 hg h1 _ ih1 ih2 =>
    intro content f below top st hst hm hon
    have hb : n ∉ below := by
      intro hmem
      obtain ⟨v', o', k', a, b, c⟩ := hon n (by cases top <;> simp [pushBelow, hmem])
      cases hg.symm.trans a
      have := (expands_det h1 b).2
      omega
    have hlt := measure_push (top := top) hg hb
    obtain ⟨f', rfl⟩ : ∃ f', f = f' + 1 := ⟨f - 1, by omega⟩
    rw [scan_succ, scanItems_ref_push _ _ _ _ _ _ hst hg hb, overLimit_none rfl, if_neg Bool.false_ne_true,
      ← scan_succ]
    have hon1 : OnStack tbl cs (pushBelow (pushBelow below top) (some n)) k1 := by
      intro m hm
      rcases List.mem_cons.1 hm with rfl | hm
      · exact ⟨v, o1, k1, hg, h1, Nat.le_refl _⟩
      · exact (hon.mono (by omega)) m hm
    obtain ⟨e1, e2, e3⟩ := ih1 content f' (pushBelow below top) (some n)
      { st with pushes := st.pushes + 1, count := st.count + 1, se := st.se + (if content then 1 else 0) }
      hst (by omega) hon1
    obtain ⟨g1, g2, g3⟩ := ih2 content (f' + 1) below top _ e1 hm (hon.mono (by omega))
    exact ⟨g1, by rw [g2, e2]; simp, by rw [g3, e3]; simp only []; omega⟩

theorem scanDoc_of_expands (cs : Bool) (f : Nat) (hf : fuelFor tbl ≤ f + 1) (d : Doc) (st : St)
    {o : List Nat} {k : Nat} (h : Expands tbl cs d.flatten o k) (hst : st.err = none) :
    Delivers o k st (scanDoc ⟨none, cs⟩ tbl (f + 1) d st) := by
  fun_induction scanDoc ⟨none, cs⟩ tbl (f + 1) d st generalizing o k with
  | case1 => cases h; exact ⟨hst, rfl, rfl⟩
  | case2 c t rest st ih =>
    obtain ⟨o1, k1, o2, k2, h1, h2, rfl, rfl⟩ := expands_split h
    obtain ⟨e1, e2, e3⟩ := scan_of_expands h1 c f [] none st hst
      (by have := measure_doc tbl; omega) (fun m hm => nomatch hm)
    obtain ⟨g1, g2, g3⟩ := ih h2 e1
    exact ⟨g1, by rw [g2, e2]; simp, by rw [g3, e3]; omega⟩

/-- `a` = state reached without a limit, `b` = state reached with limit `l` from the same start -/
def Sim (l : Nat) (a b : St) : Prop :=
  (a.count ≤ l → b = a) ∧ (l < a.count → b.err = some .limit ∧ b.count = l + 1)

theorem sim_same {l : Nat} {s : St} (h : s.count ≤ l) : Sim l s s := ⟨fun _ => rfl, fun h' => by omega⟩

/-- the limited run has stopped at `l + 1` while the unlimited one, `a`, goes on from a state `a'` beyond that -/
theorem sim_cut {l : Nat} {a a' b : St} (hg : Grow a' a) (hc : l < a'.count) (he : b.err = some .limit)
    (hbc : b.count = l + 1) : Sim l a b :=
  ⟨fun h => by have := hg.1; omega, fun _ => ⟨he, hbc⟩⟩

/-- Related states stay related when both runs go on (`f` without, `g` with the limit): either they are the same state,
    or the limited run has stopped and stays where it is while the other one only grows. -/
theorem Sim.seq {l : Nat} {a b : St} {f g : St → St} (h : Sim l a b) (hf : Grow a (f a))
    (hg : ∀ s : St, s.err.isSome = true → g s = s) (hfg : a.count ≤ l → Sim l (f a) (g a)) : Sim l (f a) (g b) := by
  by_cases hc : a.count ≤ l
  · rw [h.1 hc]; exact hfg hc
  · obtain ⟨b1, b2⟩ := h.2 (by omega)
    rw [hg b (by rw [b1]; rfl)]
    exact sim_cut hf (by omega) b1 b2

theorem scanItems_sim (cs : Bool) (l : Nat) (recurA recurB) (below top)
    (hsim : ∀ b tp v s, s.count ≤ l → Sim l (recurA b tp v s) (recurB b tp v s))
    (hgrow : ∀ b tp v s, Grow s (recurA b tp v s)) (t : Text) (st : St) (hle : st.count ≤ l) :
      Sim l (scanItems ⟨none, cs⟩ tbl content recurA below top t st)
            (scanItems ⟨some l, cs⟩ tbl content recurB below top t st) := by
  have grow := scanItems_grow ⟨none, cs⟩ tbl content recurA below top hgrow
  fun_induction scanItems ⟨none, cs⟩ tbl content recurA below top t st with
  | case1 => exact sim_same hle
  | case2 _ _ _ he => rw [scanItems_stuck ⟨some l, cs⟩ _ _ _ _ _ _ _ he]; exact sim_same hle
  | case3 rest st hst c ih =>
    rw [scanItems_ch ⟨some l, cs⟩ _ _ _ _ _ (by simpa using hst)]; exact ih hle
  | case4 _ _ _ _ _ _ ho => cases ho
  | case5 rest st hst c hcs st1 _ ih =>
    rw [scanItems_special_cs ⟨some l, cs⟩ _ _ _ _ _ (by simpa using hst) hcs, overLimit_some rfl]
    simp only [decide_eq_true_eq]
    split
    · exact sim_cut (grow rest _) (by assumption) rfl (by simp only []; omega)
    · exact ih (by simp +zetaDelta only []; omega)
  | case6 rest st hst c hcs ih =>
    rw [scanItems_special_ncs ⟨some l, cs⟩ _ _ _ _ _ (by simpa using hst) (by simpa using hcs)]; exact ih hle
  | case7 rest st hst n hg => rw [scanItems_ref_none ⟨some l, cs⟩ _ _ _ _ _ (by simpa using hst) hg]; exact sim_same hle
  | case8 rest st hst n v hg hb => rw [scanItems_ref_rec ⟨some l, cs⟩ _ _ _ _ _ (by simpa using hst) hg hb]; exact sim_same hle
  | case9 _ _ _ _ _ _ _ _ ho => cases ho
  | case10 rest st hst n v hg hb st1 _ st2 st3 ih =>
    rw [scanItems_ref_push ⟨some l, cs⟩ _ _ _ _ _ (by simpa using hst) hg hb, overLimit_some rfl]
    simp only [decide_eq_true_eq]
    have g2 : Grow st2 st3 := hgrow _ _ _ _
    have g := grow rest st3
    have hc2 : st2.count = st.count + 1 := rfl
    split
    · exact sim_cut g (by have := g2.1; omega) rfl (by simp only []; omega)
    · exact (hsim (pushBelow below top) (some n) v st2 (by omega)).seq g (scanItems_stuck ⟨some l, cs⟩ _ _ _ _ _ _) ih

theorem scan_sim (cs : Bool) (l : Nat) (fuel : Nat) :
    ∀ (below top) (t : Text) (st : St), st.count ≤ l →
      Sim l (scan ⟨none, cs⟩ tbl content fuel below top t st) (scan ⟨some l, cs⟩ tbl content fuel below top t st) := by
  induction fuel with
  | zero => exact fun _ _ _ _ h => sim_same h
  | succ f ih =>
    exact fun below top => scanItems_sim tbl content cs l _ _ below top ih (scan_grow _ _ _ _)

theorem scanDoc_sim (cs : Bool) (l : Nat) (f : Nat) (d : Doc) :
    ∀ (st : St), st.count ≤ l →
      Sim l (scanDoc ⟨none, cs⟩ tbl (f + 1) d st) (scanDoc ⟨some l, cs⟩ tbl (f + 1) d st) := by
  induction d with
  | nil => exact fun st h => sim_same h
  | cons seg rest ih =>
    intro st h
    obtain ⟨c, t⟩ := seg
    simp only [scanDoc]
    exact (scan_sim tbl c cs l (f + 1) [] none t st h).seq (scanDoc_grow ..) (scanDoc_stuck ⟨some l, cs⟩ _ _ _) (ih _)

end XV.Lemmas.Entity
