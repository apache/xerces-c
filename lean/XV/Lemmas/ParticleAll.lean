/-
C08 — `AllContentModel`.  The loop of `validateContent` (first-match lookup, `elementSeen` flags, `numRequiredSeen`
counter) is a derivative computation on the all-group of the members not seen yet; `Unseen` relates the flags to a
list of those members, `allLoop_iff` is the invariant.  Names of members are distinct, so the lookup finds the one
member a child can match.  `buildChildList_members`: what the constructor collects from an `All` tree.
Core Lean only.
-/
import XV.Lemmas.Particle
import XV.Model.Particle
namespace XV.Lemmas.ParticleAll
open XV.Spec.Particle XV.Model.Particle XV.Lemmas.Particle

variable {α : Type} [DecidableEq α]

/-- a child matches a member when the names are equal (URI id and local part) -/
def EqM : α → α → Prop := fun x a => x = a

theorem all_cons_iff (rs : List (α × Bool)) (x : α) (w : List α) :
    PLang EqM (.all rs) (x :: w) ↔ ∃ m, m ∈ rs ∧ m.1 = x ∧ PLang EqM (.all (rs.erase m)) w := by
  simp only [all_cons_inv, EqM, eq_comm]

omit [DecidableEq α] in
theorem all_nil_iff (rs : List (α × Bool)) : PLang EqM (.all rs) ([] : List α) ↔ rs.all (fun m => m.2) = true :=
  (nullable_iff (.all rs)).symm

/-- the flags `ss` of `elementSeen` and a list `rs` of the members not seen yet: `rs` holds, once each, the members
    whose flag is not set.  Only which members are in `rs` matters, not how it was computed: the loop invariant
    `allLoop_iff` holds for every such list. -/
def Unseen (ms : List (α × Bool)) (ss : List Bool) (rs : List (α × Bool)) : Prop :=
  ss.length = ms.length ∧ rs.Nodup ∧ ∀ m, m ∈ rs ↔ ∃ i : Nat, ms[i]? = some m ∧ ss[i]? = some false

omit [DecidableEq α] in
theorem Unseen.init {ms : List (α × Bool)} (hnd : (ms.map (·.1)).Nodup) :
    Unseen ms (List.replicate ms.length false) ms := by
  refine ⟨List.length_replicate, hnd.of_map _ fun _ _ h e => h (e ▸ rfl), fun m => ?_⟩
  rw [List.mem_iff_getElem?]
  refine exists_congr fun i => iff_self_and.2 fun h => ?_
  rw [List.getElem?_replicate, if_pos (List.getElem?_eq_some_iff.1 h).1]

omit [DecidableEq α] in
theorem index_unique {ms : List (α × Bool)} (hnd : (ms.map (·.1)).Nodup) {i j : Nat} {m m' : α × Bool}
    (hi : ms[i]? = some m) (hj : ms[j]? = some m') (e : m.1 = m'.1) : i = j := by
  refine (List.getElem?_inj (l := ms.map (·.1)) ?_ hnd).1 ?_
  · rw [List.length_map]; exact (List.getElem?_eq_some_iff.1 hi).1
  · rw [List.getElem?_map, List.getElem?_map, hi, hj, Option.map_some, Option.map_some, e]

theorem Unseen.step {ms rs : List (α × Bool)} {ss : List Bool} (hnd : (ms.map (·.1)).Nodup) (h : Unseen ms ss rs)
    {i : Nat} {m : α × Bool} (hi : ms[i]? = some m) : Unseen ms (ss.set i true) (rs.erase m) := by
  refine ⟨List.length_set.trans h.1, h.2.1.erase m, fun m' => ?_⟩
  rw [h.2.1.mem_erase_iff, h.2.2]
  constructor
  · rintro ⟨hne, j, hj, hs⟩
    have hij : i ≠ j := fun e => hne (Option.some.inj ((e ▸ hj).symm.trans hi))
    exact ⟨j, hj, by rwa [List.getElem?_set_ne hij]⟩
  · rintro ⟨j, hj, hs⟩
    have hij : i ≠ j := fun e => by
      subst e; rw [List.getElem?_set_self'] at hs; cases h' : ss[i]? <;> simp [h'] at hs
    rw [List.getElem?_set_ne hij] at hs
    exact ⟨fun e => hij (index_unique hnd hi hj (e ▸ rfl)), j, hj, hs⟩

theorem findChild_none (x : α) (cs : List α) (k : Nat) (h : findChild x cs k = none) : x ∉ cs := by
  fun_induction findChild x cs k with
  | case1 => simp
  | case2 => cases h
  | case3 c cs k e ih => exact List.not_mem_cons_of_ne_of_not_mem (Ne.symm e) (ih h)

theorem findChild_some (x : α) (cs : List α) (k j : Nat) (h : findChild x cs k = some j) :
    ∃ i, j = k + i ∧ cs[i]? = some x := by
  fun_induction findChild x cs k with
  | case1 => cases h
  | case2 => exact ⟨0, Option.some.inj h.symm, rfl⟩
  | case3 c cs k e ih =>
    obtain ⟨i, rfl, hi⟩ := ih h
    exact ⟨i + 1, by omega, hi⟩

theorem required_erase {l : List (α × Bool)} {m : α × Bool} (hm : m ∈ l) :
    (l.filter (fun m => !m.2)).length = ((l.erase m).filter (fun m => !m.2)).length + (if m.2 = true then 0 else 1) := by
  rw [((List.perm_cons_erase hm).filter _).length_eq, List.filter_cons]
  cases m.2 <;> rfl

omit [DecidableEq α] in
theorem all_opt_iff (rs : List (α × Bool)) :
    rs.all (fun m => m.2) = true ↔ (rs.filter (fun m => !m.2)).length = 0 := by
  simp [List.filter_eq_nil_iff]

/-- the model of an all-group with member list `ms` (what the constructor builds, see `buildChildList_members`) -/
def allModelOf (ms : List (α × Bool)) (hasOptionalContent : Bool) : AllModel α :=
  { children := ms.map (·.1), childOptional := ms.map (·.2),
    numRequired := (ms.filter (fun m => !m.2)).length, hasOptionalContent := hasOptionalContent }

/-- the loop invariant: the loop is a derivative computation on the all-group of the members not seen yet.  When the
    counter `n` and the required members among those add up to all required members, the loop ends with all required
    members seen iff the remaining children are a word of that all-group -/
theorem allLoop_iff (ms : List (α × Bool)) (hoc : Bool) (hnd : (ms.map (·.1)).Nodup) (w : List α)
    (out : Nat) (ss : List Bool) (rs : List (α × Bool)) (hrs : Unseen ms ss rs) (n : Nat)
    (hn : n + (rs.filter (fun m => !m.2)).length = (ms.filter (fun m => !m.2)).length) :
    (match allLoop (allModelOf ms hoc) w out ss n with
     | .error _ => False
     | .ok n' => n' = (allModelOf ms hoc).numRequired)
    ↔ PLang EqM (.all rs) w := by
  induction w generalizing out ss rs n with
  | nil =>
    simp only [allLoop, allModelOf]
    rw [all_nil_iff, all_opt_iff]
    omega
  | cons x w ih =>
    rw [all_cons_iff, allLoop]
    simp only [allModelOf]
    cases hf : findChild x (ms.map (·.1)) 0 with
    | none =>
      refine ⟨False.elim, fun ⟨m, hm, e, _⟩ => findChild_none x _ 0 hf ?_⟩
      obtain ⟨i, hi, _⟩ := (hrs.2.2 m).1 hm
      exact e ▸ List.mem_map_of_mem (List.mem_of_getElem? hi)
    | some j =>
      obtain ⟨i, rfl, hi⟩ := findChild_some x _ 0 j hf
      obtain ⟨m, hm, rfl⟩ : ∃ m, ms[i]? = some m ∧ m.1 = x := by simpa [List.getElem?_map] using hi
      obtain ⟨b, hb⟩ : ∃ b, ss[i]? = some b :=
        ⟨_, List.getElem?_eq_getElem (hrs.1 ▸ (List.getElem?_eq_some_iff.1 hm).1)⟩
      simp only [Nat.zero_add, List.getD_eq_getElem?_getD, hb, List.getElem?_map, hm, Option.map_some, Option.getD_some]
      -- names are distinct: an unseen member named like the child is `m`, and then the flag of `m` is not set
      have huniq : ∀ m', m' ∈ rs → m'.1 = m.1 → b = false ∧ m' = m := fun m' hm' e => by
        obtain ⟨j, hj, hs⟩ := (hrs.2.2 m').1 hm'
        obtain rfl := index_unique hnd hm hj e.symm
        exact ⟨Option.some.inj (hb.symm.trans hs), Option.some.inj (hj.symm.trans hm)⟩
      cases b with
      | true => exact ⟨False.elim, fun ⟨m', hm', e, _⟩ => Bool.noConfusion (huniq m' hm' e).1⟩
      | false =>
        have hmem : m ∈ rs := (hrs.2.2 m).2 ⟨i, hm, hb⟩
        refine (ih (out + 1) (ss.set i true) _ (hrs.step hnd hm) _ ?_).trans
          ⟨fun h => ⟨m, hmem, rfl, h⟩, fun ⟨m', hm', e, h⟩ => (huniq m' hm' e).2 ▸ h⟩
        rw [← hn, required_erase hmem]
        split <;> omega

/-- the trees `convertContentSpecTree` produces below (and including) an `All` node -/
def xAllShape : XNode α → Bool
  | .leaf _ => true
  | .unary .ZeroOrOne (.leaf _) => true
  | .bin .All x y => xAllShape x && xAllShape y
  | _ => false

omit [DecidableEq α] in
theorem buildChildList_members (x : XNode α) (h : xAllShape x = true) (cs : List α) (os : List Bool) (n : Nat) :
    buildChildList x (cs, os, n) =
      some (cs ++ x.allMembers.map (·.1), os ++ x.allMembers.map (·.2), n + (x.allMembers.filter (fun m => !m.2)).length) := by
  fun_induction xAllShape x generalizing cs os n with
  | case1 => rfl
  | case2 => rfl
  | case3 x y ihx ihy =>
    rw [Bool.and_eq_true] at h
    simp only [buildChildList, ihx h.1, ihy h.2, XNode.allMembers, List.map_append, List.filter_append,
      List.length_append, List.append_assoc, Nat.add_assoc]
  | case4 => cases h

end XV.Lemmas.ParticleAll
