/- C12: the intrinsic transcoders meet `Good`.  The table transcoders through C05's facts about the generated tables
(the binary search is a lookup, the tables' shape) and one Boolean check per table, which also shows that a table gives
back every unit it accepts except its best-fit records. -/
import XV.Lemmas.Formatter
import XV.Props.C05
namespace XV.Lemmas.Formatter
open XV.Model.Formatter XV.Model.ByteCodec XV.Lemmas.ByteCodec XV.Gen.ByteTables XV.Gen.Escapes XV.Spec.Unescape Rd
open XV.Spec.Escaping

theorem good_utf8 : Good utf8Coder := ⟨by intro c _ _; simp [utf8Coder]; omega, by intro c _ _; rfl,
  .inl (by intro c _ _; simp [utf8Coder]; omega), by intro _ c h; simp [utf8Coder]; omega⟩
theorem good_utf16 : Good utf16Coder := ⟨by intro c _ _; rfl, by intro c _ _; rfl, .inl (by intro c _ _; rfl), by intro _ c h; rfl⟩
theorem good_latin1 : Good latin1Coder := ⟨by intro c _ _; simp [latin1Coder]; omega, by intro c _ _; rfl,
  .inr (by intro c _ _; simp [latin1Coder]; omega), by intro h; simp [latin1Coder] at h⟩
theorem good_ascii : Good asciiCoder := ⟨by intro c _ _; simp [asciiCoder]; omega, by intro c _ _; rfl,
  .inr (by intro c _ _; simp [asciiCoder]; omega), by intro h; simp [asciiCoder] at h⟩

/-- the next `n` records of a to-table have the keys `k`, `k + 1`, … and, from key 32 on, a non-zero byte: with `k = 0` and
`n = 127` every printable ASCII unit is representable -/
def keysFrom : List (Nat × Nat) → Nat → Nat → Bool
  | _, _, 0 => true
  | [], _, _ + 1 => false
  | p :: t, k, n + 1 => p.1 == k && (k < 32 || p.2 != 0) && keysFrom t (k + 1) n

theorem keysFrom_lookup : ∀ (l : List (Nat × Nat)) (k n : Nat), keysFrom l k n = true →
    ∀ c, k ≤ c → c < k + n → 32 ≤ c → lookup l c ≠ 0
  | _, _, 0, _, c, h1, h2, _ => by omega
  | [], _, _ + 1, h, _, _, _, _ => by simp [keysFrom] at h
  | p :: t, k, n + 1, h, c, h1, h2, h3 => by
    simp only [keysFrom, Bool.and_eq_true, Bool.or_eq_true, beq_iff_eq, decide_eq_true_eq, bne_iff_ne] at h
    rw [lookup_cons]
    by_cases hc : c = k
    · rw [if_pos (by omega)]; rcases h.1.2 with h | h; omega; exact h
    · rw [if_neg (by omega)]; exact keysFrom_lookup t (k + 1) n h.2 c (by omega) (by omega) h3

/-- the only units a table transcoder accepts but does not give back: the "best fit" entries of the to-tables
(fullwidth forms U+FF01..U+FF5E written as ASCII, U+0110, U+203E, and U+0085 in IBM1047) -/
def bestFit (u : Nat) : Bool := (0xFF01 ≤ u && u ≤ 0xFF5E) || u == 0x110 || u == 0x203E || u == 0x85

/-- no record of the to-table is for a surrogate, and its byte (0: none) decodes back to its unit unless it is a best-fit record.
`N` is the from-table packed into one number (`ByteCodec.pack`): the kernel reaches the n-th element of a list in n
steps, every time, and a digit of a number by a division. -/
def toTableOK (N : Nat) (to : List (Nat × Nat)) : Bool :=
  to.all (fun p => (p.1 < 0xD800 || 0xDFFF < p.1) && (p.2 == 0 || N / 65536 ^ p.2 % 65536 == p.1 || bestFit p.1))

def tableOK (t : Table) : Bool :=
  t.fromTable.all (· < 65536) && keysFrom t.toTable 0 127 && toTableOK (pack 65536 t.fromTable) t.toTable

theorem all_tables_ok : ∀ t ∈ all, tableOK t = true := by decide +kernel

theorem table_record (t : Table) (ht : t ∈ all) (p : Nat × Nat) (hp : p ∈ t.toTable) :
    (p.1 < 0xD800 ∨ 0xDFFF < p.1) ∧ (p.2 ≠ 0 → bestFit p.1 = false → t.fromTable.getD p.2 0xFFFF = p.1) := by
  have h := all_tables_ok t ht
  simp only [tableOK, toTableOK, Bool.and_eq_true, List.all_eq_true, Bool.or_eq_true, decide_eq_true_eq, beq_iff_eq] at h
  obtain ⟨⟨hv, _⟩, hto⟩ := h
  have hlen : p.2 < t.fromTable.length := by
    rw [(XV.Props.C05.bytetables_wellformed t ht).2.1]; exact (XV.Props.C05.bytetables_to_consistent t ht p hp).1
  refine ⟨(hto p hp).1, fun h0 hb => ?_⟩
  rw [← pack_digit 0xFFFF _ hv _ hlen]
  rcases (hto p hp).2 with (h | h) | h
  · exact absurd h h0
  · exact h
  · rw [hb] at h; cases h

theorem table_back (t : Table) (ht : t ∈ all) (u : Nat) (hu : u < 65536) (hr : (tableCoder t).rep u = true)
    (hb : bestFit u = false) : (tableCoder t).back u = u := by
  have hl := XV.Props.C05.xlatOneTo_is_lookup t ht
  have hmod : u % 65536 = u := Nat.mod_eq_of_lt hu
  simp only [tableCoder, canTranscodeTo, hmod, hl, decide_eq_true_eq] at hr ⊢
  exact (table_record t ht _ (lookup_mem t.toTable u hr)).2 hr hb

theorem good_table (t : Table) (ht : t ∈ all) : Good (tableCoder t) := by
  have hl := XV.Props.C05.xlatOneTo_is_lookup t ht
  have hrep : ∀ c, c < 65536 → (tableCoder t).rep c = decide (lookup t.toTable c ≠ 0) := fun c hc => by
    simp only [tableCoder, canTranscodeTo, Nat.mod_eq_of_lt hc, hl]
  have hascii : ∀ c, 32 ≤ c → c < 127 → (tableCoder t).rep c = true := fun c h1 h2 => by
    have h := all_tables_ok t ht
    simp only [tableOK, Bool.and_eq_true] at h
    rw [hrep c (by omega), decide_eq_true_eq]
    exact keysFrom_lookup _ 0 127 h.1.2 c (by omega) (by omega) h1
  refine ⟨hascii, fun c h1 h2 => ?_, .inr fun c h1 h2 => ?_, fun h => by simp [tableCoder] at h⟩
  · exact table_back t ht c (by omega) (hascii c h1 h2) (by simp [bestFit]; omega)
  · rw [hrep c (by omega), lookup_eq_zero fun p hp hc => by have := (table_record t ht p hp).1; omega]
    simp

end XV.Lemmas.Formatter
