/-
The iterators, tag-name lists and ranges of C14 against XV.Spec.Views; XV.Props.C14 restates the theorems under the names the check
audits.  A NodeIterator is a position in `docOrder root` (`posOf`): nextNode, previousNode and removeNode of the code are `specNext`,
`specPrev` and `specRemove` at that position.  The cache of a tag-name list is a `Cursor` into the matching elements (`CacheAt`);
`ListInv` says that every cache is stale or such a cursor, and every step of `Reach` keeps it.  Each range fix-up of the code is `mapBP`
of one rule for a boundary point (DOM Range 2.12 for the insertions and deletions), so that `BoundsOK` is kept point by point.  The
order of boundary points comes from XV.Lemmas.ViewsOrder, `clone_pure` from XV.Lemmas.ViewsContent.
-/
import XV.Lemmas.Views
import XV.Lemmas.ViewsOrder
import XV.Lemmas.ViewsContent
import XV.Props.C13
namespace XV.Lemmas.ViewsMain
open XV.Model.Dom XV.Spec.Dom XV.Model.Views XV.Spec.Views XV.Lemmas.Dom XV.Lemmas.Views XV.Lemmas.ViewsOrder XV.Lemmas.ViewsContent

/-- the position of DOM Traversal 1.1.1 that an iterator state stands for -/
def posOf (it : Iter) : Pos := ⟨it.cur, it.fwd⟩

def IterOK (s : Store) (it : Iter) : Prop := ∀ c, it.cur = some c → c ∈ docOrder s it.root

def atPos (it : Iter) (p : Pos) : Iter := { it with cur := p.ref, fwd := p.after }

theorem ahead_suffix (l : List NodeId) (p : Pos) : p.ahead l <:+ l := by
  fun_cases Pos.ahead l p
  · exact List.suffix_refl l
  · exact (List.drop_suffix _ _).trans (List.dropWhile_suffix _)
  · exact List.dropWhile_suffix _

theorem ahead_head {l : List NodeId} (hnd : l.Nodup) {c : NodeId} (hc : c ∈ l) (after : Bool) :
    (Pos.ahead l ⟨some c, after⟩).head? = if after then succIn l c else some c := by
  obtain ⟨pre, rest, hL, hcp, _⟩ := nodup_split hnd hc
  simp only [Pos.ahead, hL, dropWhile_ne_split pre rest c hcp, succIn_split pre rest c hcp]
  cases after <;> rfl

/-- looking backwards is looking forwards in the reversed list, from the other side of the reference node -/
theorem behind_eq_ahead {l : List NodeId} (hnd : l.Nodup) {c : NodeId} (hc : c ∈ l) (after : Bool) :
    Pos.behind l ⟨some c, after⟩ = Pos.ahead l.reverse ⟨some c, !after⟩ := by
  obtain ⟨pre, rest, hL, hcp, hcr⟩ := nodup_split hnd hc
  have hr : l.reverse = rest.reverse ++ c :: pre.reverse := by rw [hL]; simp
  simp only [Pos.behind, Pos.ahead, hr, dropWhile_ne_split _ _ c (fun hm => hcr (List.mem_reverse.mp hm))]
  rw [hL, takeWhile_ne_split pre rest c hcp]
  cases after <;> simp

theorem behind_subset {l : List NodeId} (hnd : l.Nodup) (p : Pos) (hp : ∀ c, p.ref = some c → c ∈ l) :
    ∀ x, x ∈ p.behind l → x ∈ l := by
  obtain ⟨ref, after⟩ := p
  cases ref with
  | none => exact fun _ hx => nomatch hx
  | some c =>
    rw [behind_eq_ahead hnd (hp c rfl)]
    exact fun x hx => List.mem_reverse.mp ((ahead_suffix _ _).subset hx)

/-- `walk_find` for a search that starts with the first node ahead of a position in (a rearrangement `L` of) the document order:
the fuel `s.size + 1` is enough -/
theorem walk_ahead {β : Type} {s : Store} (h : WF s) (r : NodeId) {L : List NodeId} (hnd : L.Nodup)
    (hlen : L.length = (docOrder s r).length) (nxt : NodeId → Option NodeId) (hnxt : ∀ y, y ∈ L → nxt y = succIn L y)
    (p : NodeId → Bool) (found : NodeId → β) (d : β) (loop : Nat → NodeId → β)
    (hloop : ∀ f y, loop (f + 1) y = examine p found d (loop f) (nxt y)) (pos : Pos) :
    examine p found d (loop (s.size + 1)) (pos.ahead L).head? = (((pos.ahead L).find? p).map found).getD d := by
  obtain ⟨pre, hL⟩ := ahead_suffix L pos
  exact walk_find hnd nxt hnxt p found d loop hloop _ pre _ hL.symm
    (Nat.le_trans (ahead_suffix L pos).length_le (hlen ▸ docOrder_length_le h r))

/-- nextNode() of the code is `specNext` on the document order of the root -/
theorem nextNode_spec (s : Store) (h : WF s) (it : Iter) (hok : IterOK s it) (hd : it.detached = false) :
    it.nextNode s = (atPos it (specNext (iterAccepts s it.w it.filt) (docOrder s it.root) (posOf it)).1,
      .node (specNext (iterAccepts s it.w it.filt) (docOrder s it.root) (posOf it)).2) := by
  have hnd := docOrder_nodup h it.root
  have hcand : (if !it.fwd && it.cur.isSome then it.cur else nextRaw s it.root it.cur true) =
      ((posOf it).ahead (docOrder s it.root)).head? := by
    unfold posOf
    cases hc : it.cur with
    | none => simp [Pos.ahead, nextRaw, docOrder_head h]
    | some c =>
      rw [ahead_head hnd (hok c hc), ← nextRaw_true_spec h (hok c hc)]
      cases it.fwd <;> rfl
  unfold Iter.nextNode specNext
  rw [if_neg (by rw [hd]; exact Bool.false_ne_true), nextLoop_succ, hcand,
    walk_ahead h it.root hnd rfl (fun y => nextRaw s it.root (some y) true) (fun _ hy => nextRaw_true_spec h hy) _ _ _
      (fun f y => nextLoop s it f (some y) true) (fun f y => by rw [nextLoop_succ]; rfl)]
  cases ((posOf it).ahead (docOrder s it.root)).find? (iterAccepts s it.w it.filt) <;> rfl

/-- previousNode() of the code is `specPrev`: the search of `nextNode_spec`, on the reversed document order -/
theorem previousNode_spec (s : Store) (h : WF s) (it : Iter) (hok : IterOK s it) (hd : it.detached = false) :
    it.previousNode s = (atPos it (specPrev (iterAccepts s it.w it.filt) (docOrder s it.root) (posOf it)).1,
      .node (specPrev (iterAccepts s it.w it.filt) (docOrder s it.root) (posOf it)).2) := by
  unfold Iter.previousNode specPrev
  rw [if_neg (by rw [hd]; exact Bool.false_ne_true)]
  cases hc : it.cur with
  | none => cases it; cases hc; rfl
  | some c =>
    have hnd := docOrder_nodup h it.root
    have hcL := List.mem_reverse.mpr (hok c hc)
    have hndr : (docOrder s it.root).reverse.Nodup := List.pairwise_reverse.mpr (hnd.imp Ne.symm)
    have hprev : ∀ y, y ∈ (docOrder s it.root).reverse → prevRaw s it.root y = succIn (docOrder s it.root).reverse y :=
      fun y hy => by rw [prevRaw_spec h (List.mem_reverse.mp hy), succIn_reverse hnd (List.mem_reverse.mp hy)]
    have hb : (posOf it).behind (docOrder s it.root) = Pos.ahead (docOrder s it.root).reverse ⟨some c, !it.fwd⟩ := by
      unfold posOf; rw [hc]; exact behind_eq_ahead hnd (hok c hc) _
    have hcand : (if it.fwd then it.cur else prevRaw s it.root c) = ((posOf it).behind (docOrder s it.root)).head? := by
      rw [hb, ahead_head hndr hcL, ← hprev c hcL, hc]
      cases it.fwd <;> rfl
    have hr : (posOf it).ref = some c := hc
    simp only [hr]
    rw [prevLoop_succ, hcand, hb, walk_ahead h it.root hndr (List.length_reverse ..) (prevRaw s it.root) hprev _ _ _
      (fun f y => prevLoop s it f y false) (fun f y => by rw [prevLoop_succ]; rfl)]
    cases (Pos.ahead (docOrder s it.root).reverse ⟨some c, !it.fwd⟩).find? (iterAccepts s it.w it.filt) <;> simp [atPos, hc]

theorem removeNode_fields (s : Store) (it : Iter) (node : NodeId) :
    (it.removeNode s node).root = it.root ∧ (it.removeNode s node).w = it.w ∧
    (it.removeNode s node).filt = it.filt ∧ (it.removeNode s node).detached = it.detached := by
  unfold Iter.removeNode
  repeat' split
  all_goals exact ⟨rfl, rfl, rfl, rfl⟩

theorem removeNode_unstepped (s : Store) (it : Iter) (node : NodeId) (hc : it.cur = none) : it.removeNode s node = it := by
  unfold Iter.removeNode matchNodeOrParent
  rw [hc]
  cases it.detached <;> rfl

/-- removeNode(node) of the (repaired) code, for a proper descendant `node` of the root, is the robustness rule `specRemove` of
DOM Traversal 1.1.1.2 for the block `docOrder node` of the list `docOrder root` -/
theorem removeNode_spec (s : Store) (h : WF s) (it : Iter) (hok : IterOK s it) (hd : it.detached = false) (node : NodeId)
    (hn : node ∈ (docOrder s it.root).tail) :
    it.removeNode s node = atPos it (specRemove (docOrder s it.root) (docOrder s node) (posOf it)) := by
  obtain ⟨root, w, filt, cur, fwd, det⟩ := it
  cases cur with
  | none => exact removeNode_unstepped s _ node rfl
  | some c =>
    have hn' := (mem_tail_docOrder h root node).mp hn
    have hnL : node ∈ docOrder s root := anc_mem_docOrder h hn'.2
    have hms := matchChain_spec h (node := node) (mem_docOrder_anc h root c (hok c rfl))
    obtain ⟨t, hblk⟩ : ∃ t, docOrder s node = node :: t := ⟨_, docOrder_unfold h node⟩
    cases hd
    simp only [Iter.removeNode, matchNodeOrParent, Bool.false_eq_true, if_false, specRemove, posOf, atPos]
    by_cases hcb : (docOrder s node).contains c = true
    · rw [hms.1 ⟨hn'.1, hn'.2, mem_docOrder_anc h node c (List.contains_iff_mem.mp hcb)⟩]
      simp only [prevRaw_spec h hnL, nextRaw_false_spec h hnL]
      rw [hblk] at hcb ⊢
      simp only [if_pos hcb]
      cases fwd with
      | true => rfl
      | false =>
        simp only [Bool.false_eq_true, if_false]
        cases (afterBlock (docOrder s root) (node :: t)).head? <;> rfl
    · rw [hms.2 fun hh => hcb (List.contains_iff_mem.mpr (anc_mem_docOrder h hh.2.2))]
      rw [hblk] at hcb ⊢
      simp only [if_neg hcb]

/-- A removal anywhere else (the root itself, one of its ancestors, another tree) leaves the iterator alone. -/
theorem iterator_remove_outside (s : Store) (h : WF s) (it : Iter) (hok : IterOK s it) (node : NodeId)
    (hn : node ∉ (docOrder s it.root).tail) : it.removeNode s node = it := by
  cases hc : it.cur with
  | none => exact removeNode_unstepped s it node hc
  | some c =>
    have hms := matchChain_spec h (node := node) (mem_docOrder_anc h it.root c (hok c hc))
    unfold Iter.removeNode matchNodeOrParent
    rw [hc]
    simp only [hms.2 fun hh => hn ((mem_tail_docOrder h it.root node).mpr ⟨hh.1, hh.2.1⟩)]
    cases it.detached <;> rfl

theorem specNext_in (acc : NodeId → Bool) (l : List NodeId) (p : Pos) (P : NodeId → Prop) (hl : ∀ x, x ∈ p.ahead l → P x)
    (hp : ∀ c, p.ref = some c → P c) :
    (∀ x, (specNext acc l p).2 = some x → P x ∧ acc x = true) ∧ ∀ c, (specNext acc l p).1.ref = some c → P c := by
  fun_cases specNext acc l p with
  | case1 z hf =>
    have hz := hl z (List.mem_of_find?_eq_some hf)
    exact ⟨fun x hx => by cases hx; exact ⟨hz, List.find?_some hf⟩, fun c hc => by cases hc; exact hz⟩
  | case2 => exact ⟨fun _ hx => (nomatch hx), hp⟩

theorem specPrev_in (acc : NodeId → Bool) (l : List NodeId) (p : Pos) (P : NodeId → Prop) (hl : ∀ x, x ∈ p.behind l → P x)
    (hp : ∀ c, p.ref = some c → P c) :
    (∀ x, (specPrev acc l p).2 = some x → P x ∧ acc x = true) ∧ ∀ c, (specPrev acc l p).1.ref = some c → P c := by
  fun_cases specPrev acc l p with
  | case1 => exact ⟨fun _ hx => (nomatch hx), hp⟩
  | case2 _ _ z hf =>
    have hz := hl z (List.mem_of_find?_eq_some hf)
    exact ⟨fun x hx => by cases hx; exact ⟨hz, List.find?_some hf⟩, fun c hc => by cases hc; exact hz⟩
  | case3 => exact ⟨fun _ hx => (nomatch hx), hp⟩

/-- An iterator never returns a node that is not in its root's subtree, nor one its filter does not accept, and its
reference node stays in the root's subtree. -/
theorem iterator_in_subtree (s : Store) (h : WF s) (it : Iter) (hok : IterOK s it) (hd : it.detached = false) :
    (∀ it' x, it.nextNode s = (it', .node (some x)) →
        x ∈ docOrder s it.root ∧ iterAccepts s it.w it.filt x = true) ∧
    (∀ it' x, it.previousNode s = (it', .node (some x)) →
        x ∈ docOrder s it.root ∧ iterAccepts s it.w it.filt x = true) ∧
    IterOK s (it.nextNode s).1 ∧ IterOK s (it.previousNode s).1 := by
  have hn := specNext_in (iterAccepts s it.w it.filt) (docOrder s it.root) (posOf it) (· ∈ docOrder s it.root)
    (ahead_suffix _ _).subset hok
  have hp := specPrev_in (iterAccepts s it.w it.filt) (docOrder s it.root) (posOf it) (· ∈ docOrder s it.root)
    (behind_subset (docOrder_nodup h it.root) _ hok) hok
  rw [nextNode_spec s h it hok hd, previousNode_spec s h it hok hd]
  exact ⟨fun _ x he => hn.1 x (IterRes.node.inj (Prod.mk.inj he).2), fun _ x he => hp.1 x (IterRes.node.inj (Prod.mk.inj he).2), hn.2, hp.2⟩

/-- After the fix-up for the removal of the subtree of `node` the reference node is still in the root's subtree and no
longer inside the subtree that goes away: the iterator does not stand on a removed node. -/
theorem iterator_remove_leaves_subtree (s : Store) (h : WF s) (it : Iter) (hok : IterOK s it) (hd : it.detached = false)
    (node : NodeId) (hn : node ∈ (docOrder s it.root).tail) :
    ∀ c, (it.removeNode s node).cur = some c → c ∈ docOrder s it.root ∧ c ∉ docOrder s node := by
  have htg := remove_targets h (anc_mem_docOrder h ((mem_tail_docOrder h it.root node).mp hn).2)
  obtain ⟨t, hblk⟩ : ∃ t, docOrder s node = node :: t := ⟨_, docOrder_unfold h node⟩
  rw [removeNode_spec s h it hok hd node hn]
  intro c' (hc' : (specRemove (docOrder s it.root) (docOrder s node) (posOf it)).ref = some c')
  cases hc : (posOf it).ref with
  | none => simp only [specRemove, hc] at hc'; exact nomatch hc'
  | some c =>
    rw [hblk] at hc' htg ⊢
    simp only [specRemove, hc] at hc'
    split at hc'
    · split at hc'
      · exact htg.1 c' hc'
      · split at hc'
        · rename_i nx hnx
          cases hc'
          exact htg.2 c' hnx
        · exact htg.1 c' hc'
    · rename_i hcb
      cases hc.symm.trans hc'
      exact ⟨hok c' hc, fun hm => hcb (List.contains_iff_mem.mpr hm)⟩

/-- The repaired removeNode against `removeNodeAsIs`, the current C++ (`none` = it dereferences a null pointer): the two agree on every
attached iterator that has been stepped, and differ exactly on one that has not been stepped yet (DESIGN §5 F5), where
`removeNodeAsIs` is `none` (by construction of `matchNodeOrParentAsIs`) and removeNode leaves the iterator as it is: the position "before
the first node" survives every removal. -/
theorem iterator_total (s : Store) (it : Iter) (node : NodeId) :
    (it.cur.isSome = true → it.detached = false → it.removeNodeAsIs s node = some (it.removeNode s node)) ∧
    (it.cur = none → it.removeNodeAsIs s node = none) ∧
    (it.cur = none → it.removeNode s node = it) := by
  refine ⟨?_, ?_, removeNode_unstepped s it node⟩
  · intro hc hd
    obtain ⟨c, hcur⟩ := Option.isSome_iff_exists.mp hc
    -- on a stepped iterator the two searches are the same search; after it the two functions have the same branches
    have hm : matchNodeOrParentAsIs s it node = some (matchNodeOrParent s it node) := by
      simp only [matchNodeOrParentAsIs, matchNodeOrParent, hcur]
    unfold Iter.removeNodeAsIs
    rw [hm]
    fun_cases Iter.removeNode s it node <;> simp_all
  · intro hcur
    simp [Iter.removeNodeAsIs, matchNodeOrParentAsIs, hcur]

/-- the matching elements below the root, with the candidate test of the code (`current != fRootNode && …`) -/
def matchList (s : Store) (dl : DeepList) : List NodeId := (docOrder s dl.root).tail.filter (deepP s dl)

/-- `matchList` is getElementsByTagName of the Spec: the root is not among its own descendants, the test `current != fRootNode`
removes nothing -/
theorem matchList_eq (s : Store) (h : WF s) (dl : DeepList) : matchList s dl = matching s dl.tag dl.root := by
  unfold matchList matching
  apply List.filter_congr
  intro x hx
  have := ((mem_tail_docOrder h dl.root x).mp hx).1
  simp [deepP, this]

def matchesAfter (s : Store) (dl : DeepList) : Option NodeId → List NodeId
  | some c => (afterIn (docOrder s dl.root) c).filter (deepP s dl)
  | none => []

/-- the cache (fCurrentNode, fCurrentIndexPlus1) agrees with the tree: the cached node is the match number `idx` (or the
root / nothing before the first match) -/
def Consistent (s : Store) (dl : DeepList) : Prop :=
  ∃ done, matchList s dl = done ++ matchesAfter s dl dl.cur ∧ dl.idx = done.length ∧
    (∀ c, dl.cur = some c → c ∈ docOrder s dl.root) ∧ (done ≠ [] → done.getLast? = dl.cur)

def CacheOK (s : Store) (chg : Nat) (dl : DeepList) : Prop :=
  dl.changes ≤ chg ∧ (dl.changes = chg → Consistent s dl)

/-- the cache state (`cur`, `idx`) of the list `dl` agrees with the tree: it is a cursor into the matching elements below the root
(`Consistent s dl` is `CacheAt s dl dl.cur dl.idx`, by definition) -/
def CacheAt (s : Store) (dl : DeepList) (cur : Option NodeId) (idx : Nat) : Prop :=
  Cursor (docOrder s dl.root) (deepP s dl) cur idx

theorem cacheAt_root {s : Store} (h : WF s) (dl : DeepList) : CacheAt s dl (some dl.root) 0 := by
  unfold CacheAt
  rw [docOrder_unfold h dl.root]
  exact cursor_root ..

theorem deepP_congr (s : Store) (dl dl' : DeepList) (hr : dl'.root = dl.root) (ht : dl'.tag = dl.tag) :
    deepP s dl' = deepP s dl := by
  funext n; simp [deepP, hr, ht]

theorem consistent_congr (s : Store) (dl dl' : DeepList) (hr : dl'.root = dl.root) (ht : dl'.tag = dl.tag)
    (hc : dl'.cur = dl.cur) (hi : dl'.idx = dl.idx) : Consistent s dl → Consistent s dl' := by
  intro (h : CacheAt s dl dl.cur dl.idx)
  show Cursor (docOrder s dl'.root) (deepP s dl') dl'.cur dl'.idx
  rw [hr, hc, hi, deepP_congr s dl dl' hr ht]
  exact h

theorem nextMatching_after {s : Store} (h : WF s) (dl : DeepList) {c : NodeId} (hc : c ∈ docOrder s dl.root) :
    nextMatching s dl (s.size + 1) c = (matchesAfter s dl (some c)).head? := by
  have hnd := docOrder_nodup h dl.root
  obtain ⟨pre, rest, hL, hcp, _⟩ := nodup_split hnd hc
  have hlen := docOrder_length_le h dl.root
  rw [hL] at hlen
  show _ = ((afterIn (docOrder s dl.root) c).filter (deepP s dl)).head?
  rw [nextMatching_succ, nextRaw_true_spec h hc,
    show succIn (docOrder s dl.root) c = rest.head? by rw [hL, succIn_split pre rest c hcp],
    show afterIn (docOrder s dl.root) c = rest by rw [hL, afterIn_split pre rest c hcp], List.head?_filter,
    walk_find hnd _ (fun _ hy => nextRaw_true_spec h hy) _ _ _ _ (nextMatching_succ s dl) rest (pre ++ [c]) _
      (by rw [hL]; simp) (by simp at hlen; omega)]
  cases rest.find? (deepP s dl) <;> rfl

theorem matchesAfter_length (s : Store) (h : WF s) (dl : DeepList) (c : NodeId) (hc : c ∈ docOrder s dl.root) :
    (matchesAfter s dl (some c)).length < s.size + 1 := by
  obtain ⟨pre, rest, hL, hcp, _⟩ := nodup_split (docOrder_nodup h dl.root) hc
  have hlen := docOrder_length_le h dl.root
  show ((afterIn (docOrder s dl.root) c).filter (deepP s dl)).length < s.size + 1
  rw [hL] at hlen ⊢
  rw [afterIn_split pre rest c hcp]
  have := List.length_filter_le (deepP s dl) rest
  simp at hlen
  omega

/-- The counting loop of cacheItem, in a state that agrees with the tree, at most `index + 1` matches behind it (exactly that many only
when the last turn found one: `nx`): it ends in a state that agrees with the tree again, on the match number `index` if it reports a
match, and at the end of the matches, still short of `index + 1`, if it does not. -/
theorem countLoop_spec {s : Store} (h : WF s) (dl : DeepList) (index f : Nat) (cur : Option NodeId) (i : Nat) (nx : Option NodeId)
    (hc : CacheAt s dl cur i) (hi : i ≤ index + 1) (hnx : nx = none → i < index + 1) (hcur : cur = none → nx = none)
    (hf : (matchesAfter s dl cur).length < f) :
    ∃ cur' j nx', countLoop s dl index f cur i nx = (cur', j, nx') ∧ CacheAt s dl cur' j ∧
      (nx' ≠ none → j = index + 1) ∧ (nx' = none → j = (matchList s dl).length ∧ j < index + 1) := by
  fun_induction countLoop s dl index f cur i nx with
  | case1 => exact absurd hf (Nat.not_lt_zero _)
  | case2 =>
    cases hcur rfl
    exact ⟨_, _, _, rfl, hc, fun hn => absurd rfl hn, fun _ => ⟨cursor_end hc rfl, hnx rfl⟩⟩
  | case3 f i nx c hlt hm =>
    rw [nextMatching_after h dl (cursor_mem hc)] at hm
    exact ⟨_, _, _, rfl, hc, fun hn => absurd rfl hn, fun _ => ⟨cursor_end hc (List.head?_eq_none_iff.mp hm), hlt⟩⟩
  | case4 f i nx c hlt n hm ih =>
    rw [nextMatching_after h dl (cursor_mem hc)] at hm
    obtain ⟨R, hR⟩ := List.head?_eq_some_iff.mp hm
    obtain ⟨hc', hR'⟩ := cursor_step (docOrder_nodup h dl.root) hc hR
    refine ih hc' hlt (fun hn => nomatch hn) (fun hn => nomatch hn) ?_
    rw [hR] at hf
    exact (show matchesAfter s dl (some n) = R from hR') ▸ Nat.lt_of_succ_lt_succ hf
  | case5 f i nx c hge => exact ⟨_, _, _, rfl, hc, fun _ => by omega, fun hn => absurd (hnx hn) hge⟩

/-- cacheItem when it counts from a state (`c0`, `i0`) that agrees with the tree and lies before `index` (the result has the
shape it has in `DeepList.item`) -/
theorem item_run (s : Store) (h : WF s) (chg : Nat) (dl : DeepList) (index : Nat) (c0 : Option NodeId) (i0 : Nat)
    (hstart : CacheAt s dl c0 i0) (hi : i0 < index + 1) (res : DeepList × Option NodeId)
    (hres : res = match countLoop s dl index (s.size + 1) c0 i0 none with
      | (cur, i, nx) => ({ dl with changes := chg, cur := cur, idx := i }, match nx with
        | some _ => cur
        | none => none)) :
    res.2 = (matchList s dl)[index]? ∧ CacheOK s chg res.1 ∧ res.1.root = dl.root ∧ res.1.tag = dl.tag ∧
    (res.2 = none → res.1.idx = (matchList s dl).length) := by
  obtain ⟨cur, j, nx, hr, hc, hsome, hnone⟩ := countLoop_spec h dl index (s.size + 1) c0 i0 none hstart (Nat.le_of_lt hi)
    (fun _ => hi) (fun _ => rfl) (by
      cases c0 with
      | none => exact Nat.succ_pos _
      | some c => exact matchesAfter_length s h dl c (cursor_mem hstart))
  rw [hres, hr]
  cases nx with
  | none =>
    obtain ⟨hj, hlt⟩ := hnone rfl
    exact ⟨(List.getElem?_eq_none (by omega)).symm, ⟨Nat.le_refl _, fun _ => hc⟩, rfl, rfl, fun _ => hj⟩
  | some n =>
    cases hsome (fun hn => nomatch hn)
    obtain ⟨m, rfl, hm⟩ := cursor_val hc
    exact ⟨hm.symm, ⟨Nat.le_refl _, fun _ => hc⟩, rfl, rfl, fun hn => nomatch hn⟩

/-- One query item(index) — whatever the cache holds, stale or not — returns the element number `index` of the matching
elements of the CURRENT tree in document order, and leaves a cache that agrees with the tree. -/
theorem deeplist_item_spec (s : Store) (h : WF s) (chg : Nat) (dl : DeepList) (hok : CacheOK s chg dl) (index : Nat) :
    (dl.item s chg index).2 = (matching s dl.tag dl.root)[index]? ∧
    CacheOK s chg (dl.item s chg index).1 ∧
    (dl.item s chg index).1.root = dl.root ∧ (dl.item s chg index).1.tag = dl.tag ∧
    ((dl.item s chg index).2 = none → (dl.item s chg index).1.idx = (matching s dl.tag dl.root).length) := by
  rw [← matchList_eq s h dl]
  have fromRoot := item_run s h chg dl index (some dl.root) 0 (cacheAt_root h dl) (Nat.succ_pos _)
  unfold DeepList.item
  generalize hf : ((chg != dl.changes) || decide (dl.idx > index + 1)) = fresh
  cases fresh with
  | true =>
    -- the tree changed, or the element asked for lies before the cached node: from scratch
    exact fromRoot _ rfl
  | false =>
    have hch : chg = dl.changes := by simpa using (Bool.or_eq_false_iff.mp hf).1
    have hgt : dl.idx ≤ index + 1 := by simpa using (Bool.or_eq_false_iff.mp hf).2
    have hcons : CacheAt s dl dl.cur dl.idx := hok.2 hch.symm
    by_cases heq : index + 1 = dl.idx
    · -- the cached node is the one asked for
      rw [if_pos (by simpa using heq)]
      rw [← heq] at hcons
      obtain ⟨m, hcur, hm⟩ := cursor_val hcons
      exact ⟨hcur.trans hm.symm, hok, rfl, rfl, fun hn => nomatch hcur.symm.trans hn⟩
    · rw [if_neg (by simpa using heq)]
      exact item_run s h chg dl index dl.cur dl.idx hcons (by omega) _ rfl

/-- getLength() — again whatever the cache holds — is the number of matching elements of the current tree (for documents of
fewer than INT_MAX nodes: the C++ preloads with item(INT_MAX)). -/
theorem deeplist_length_spec (s : Store) (h : WF s) (chg : Nat) (dl : DeepList) (hok : CacheOK s chg dl)
    (hsz : s.size < intMax) :
    (dl.length s chg).2 = (matching s dl.tag dl.root).length ∧ CacheOK s chg (dl.length s chg).1 ∧
    (dl.length s chg).1.root = dl.root ∧ (dl.length s chg).1.tag = dl.tag := by
  unfold DeepList.length
  obtain ⟨_, hok1, hr1, ht1, _⟩ := deeplist_item_spec s h chg dl hok 0
  obtain ⟨hres2, hok2, hr2, ht2, hex2⟩ := deeplist_item_spec s h chg (dl.item s chg 0).1 hok1 intMax
  rw [hr1, ht1] at hres2 hex2
  have hlen : (matching s dl.tag dl.root).length ≤ s.size := by
    unfold matching
    have h1 := List.length_filter_le (tagMatches s dl.tag) (docOrder s dl.root).tail
    have h2 := docOrder_length_le h dl.root
    simp at h1
    omega
  have hnone : ((dl.item s chg 0).1.item s chg intMax).2 = none := by
    rw [hres2]; exact List.getElem?_eq_none (by omega)
  exact ⟨hex2 hnone, hok2, by rw [hr2, hr1], by rw [ht2, ht1]⟩

/-- the operations of the protocol that concern tag-name lists: any C13 mutation, creation of a list, item(i), getLength() -/
inductive LOp
  | dom (op : Op)
  | mk (root : NodeId) (tag : List Nat)
  | item (k i : Nat)
  | len (k : Nat)

def LOp.toVOp : LOp → VOp
  | .dom op => .dom op
  | .mk r t => .mkList r t
  | .item k i => .listItem k i
  | .len k => .listLen k

/-- one step of the (repaired) model -/
def lstep (v : VState) (o : LOp) : VState × VRes := vop {} v o.toVOp

/-- side conditions of one operation: a mutation that advances a change counter advances the one of document `d` (mutations
of OTHER documents are not covered by the theorem), a list is created on a node of `d`, getLength is asked of a store of
fewer than INT_MAX nodes -/
def OpOK (d : NodeId) (v : VState) : LOp → Prop
  | .dom op => opBumps {} op = true → bumpDoc v.store op = some d
  | .mk root _ => docOf v.store root = d
  | .item _ _ => True
  | .len _ => v.store.size < intMax

/-- the states reachable from freshly created documents by ANY interleaving of C13 mutations, creations of tag-name lists
and queries (subject to `OpOK`: counted mutations are mutations of document `d`) -/
inductive Reach (d : NodeId) : VState → Prop
  | init (n : Nat) : Reach d { store := init n }
  | step {v : VState} (o : LOp) : Reach d v → OpOK d v o → Reach d (lstep v o).1

/-- Invariant of a document `d` with its live tag-name lists: the store is well-formed, every list belongs to `d` and its
cache is either stamped with a past value of `d`'s change counter or agrees with the tree, and as long as the counter is
still 0 nothing has ever been linked (lists are created with the stamp 0). -/
structure ListInv (d : NodeId) (v : VState) : Prop where
  wf : WF v.store
  lists : ∀ dl, dl ∈ v.lists → dl.doc = d ∧ CacheOK v.store (changesOf v d) dl
  virgin : changesOf v d = 0 → ∀ x, kids v.store x = []

theorem changesOf_bumped (v v' : VState) (d : NodeId) (h : v'.chg = bump v.chg d) :
    changesOf v' d = changesOf v d + 1 := by
  unfold changesOf
  rw [h]
  unfold bump
  generalize v.chg = chg
  induction chg with
  | nil => simp
  | cons p t ih =>
    by_cases hp : p.1 = d
    · simp [hp]
    · have hb : (p.1 == d) = false := by simp [hp]
      simp only [List.any_cons, hb, Bool.false_or, List.find?_cons, List.map_cons] at ih ⊢
      by_cases hany : (t.any fun p => p.1 == d) = true
      · simp only [hany, if_true] at ih ⊢
        simp only [hb, Bool.false_eq_true, if_false, List.find?_cons]
        exact ih
      · simp only [hany, Bool.false_eq_true, if_false] at ih ⊢
        have hd : ((d, 1) : NodeId × Nat).1 == d := by simp
        simp only [List.find?_cons, hd] at ih ⊢
        exact ih

/-- what notifications may change of a state: the iterators, the ranges and the crash flag -/
def Notified (v v' : VState) : Prop := ∃ i r c, v' = { v with iters := i, ranges := r, crashed := c }

theorem Notified.trans {a b c : VState} : Notified a b → Notified b c → Notified a c := by
  rintro ⟨_, _, _, rfl⟩ ⟨_, _, _, rfl⟩; exact ⟨_, _, _, rfl⟩

theorem Notified.set {v v1 : VState} (h : Notified v v1) (s' : Store) (f : List (NodeId × Nat) → List (NodeId × Nat)) :
    Notified { v with store := s', chg := f v.chg } { v1 with store := s', chg := f v1.chg } := by
  obtain ⟨_, _, _, rfl⟩ := h; exact ⟨_, _, _, rfl⟩

theorem notify_frame (cfg : Cfg) (v : VState) (s : Store) (ev : Ev) : Notified v (notify cfg v s ev) := by
  unfold notify
  cases ev <;> simp only <;> (try split) <;> exact ⟨_, _, _, rfl⟩

theorem notifyAll_frame (cfg : Cfg) (log : Log) (v : VState) : Notified v (notifyAll cfg v log) :=
  List.foldlRecOn (motive := Notified v) log _ ⟨_, _, _, rfl⟩ fun v' hv' e _ => hv'.trans (notify_frame cfg v' e.1 e.2)

theorem splitNotify_frame (cfg : Cfg) (v : VState) (s s' : Store) (t k off : Nat) :
    Notified v (splitNotify cfg v s s' t k off) := by
  unfold splitNotify
  cases parentOf s t with
  | none => simp only; split <;> exact notify_frame ..
  | some p =>
    simp only [Option.isNone_some, Bool.false_eq_true, false_and, if_false]
    refine Notified.trans ?_ (notify_frame ..)
    split
    · exact (notify_frame ..).trans ⟨_, _, _, rfl⟩
    · exact notify_frame ..

/-- A C13 step as the tag-name lists see it: a failed one changes nothing; a successful one installs the new store and, if the operation
counts, advances a change counter. -/
theorem vstep_frame (v : VState) (op : Op) :
    Notified (if (step v.store op).2.isOk = true then
        { v with store := (step v.store op).1, chg := if opBumps {} op = true then bumpFor v.store v.chg op else v.chg } else v)
      (vstep {} v op).1 := by
  unfold vstep
  simp only
  generalize (step v.store op).1 = s'
  generalize (step v.store op).2 = res
  cases hok : res.isOk with
  | false => exact ⟨_, _, _, rfl⟩
  | true =>
    simp only [Bool.not_true, Bool.false_eq_true, if_false, if_true]
    refine Notified.set ?_ s' fun c => if opBumps {} op = true then bumpFor v.store c op else c
    split
    · exact splitNotify_frame ..
    · exact notifyAll_frame ..

/-- `s'` shows the tag-name lists what `s` shows them: the document orders, the tag test on the ids of `s`, the child lists -/
def SameShape (s s' : Store) : Prop :=
  (∀ r, docOrder s' r = docOrder s r) ∧ (∀ tag x, x < s.size → tagMatches s' tag x = tagMatches s tag x) ∧
  (∀ x, kids s' x = kids s x)

theorem sameShape_refl (s : Store) : SameShape s s := ⟨fun _ => rfl, fun _ _ _ => rfl, fun _ => rfl⟩

theorem shape_createNode (s : Store) (h : WF s) (d : NodeId) (chk : Option (List Nat)) (mk : NodeRec)
    (hmk : mk.children = []) : SameShape s (createNode s d chk mk).1 := by
  have ha : SameShape s (s.alloc mk).1 :=
    ⟨docOrder_alloc s h mk hmk, fun tag x hx => tagMatches_alloc s mk tag x hx, kids_alloc s mk hmk⟩
  unfold createNode
  repeat' split
  all_goals first | exact sameShape_refl s | exact ha

theorem shape_charDataOp (s : Store) (t : NodeId) (op : CDOp) : SameShape s (charDataOp s t op).1 := by
  have hd : ∀ d, SameShape s (setDataOf s t d) := fun d =>
    ⟨docOrder_setDataOf s t d, fun tag x _ => tagMatches_setDataOf s t d tag x, kids_setDataOf s t d⟩
  unfold charDataOp
  repeat' split
  all_goals first | exact sameShape_refl s | exact hd _

theorem nonbump_shape (s : Store) (h : WF s) (op : Op) (hb : opBumps {} op = false) : SameShape s (step s op).1 := by
  cases op with
  | createElement | createText | createComment | createCDATA | createPI | createAttribute | createFragment
  | createEntityRef => exact shape_createNode s h _ _ _ rfl
  | substringData | appendData | insertData | deleteData | replaceData | setData => exact shape_charDataOp s _ _
  | _ => cases hb

theorem consistent_of_shape (s s' : Store) (h : WF s) (dl : DeepList)
    (hdo : ∀ r, docOrder s' r = docOrder s r)
    (htm : ∀ x, x < s.size → tagMatches s' dl.tag x = tagMatches s dl.tag x) :
    Consistent s dl → Consistent s' dl := by
  intro (hc : CacheAt s dl dl.cur dl.idx)
  show Cursor (docOrder s' dl.root) (deepP s' dl) dl.cur dl.idx
  rw [hdo]
  refine cursor_congr (fun x hx => ?_) hc
  unfold deepP
  rw [htm x (tail_docOrder_lt_size h hx)]

/-- a C13 operation keeps the invariant: either it advances the counter of `d`, so that every stamp lies in the past, or it
changes nothing the lists look at -/
theorem listInv_dom (d : NodeId) (v : VState) (hinv : ListInv d v) (op : Op)
    (hok : opBumps {} op = true → bumpDoc v.store op = some d) : ListInv d (vstep {} v op).1 := by
  -- the state after the step, written out; `ListInv` does not look at the three fields that `hv` leaves open
  obtain ⟨_, _, _, hv⟩ := vstep_frame v op
  rw [hv]
  cases hres : (step v.store op).2.isOk with
  | false => exact ⟨hinv.wf, hinv.lists, hinv.virgin⟩
  | true =>
    rw [if_pos rfl]
    have hwf := XV.Props.C13.wf_step v.store hinv.wf op
    cases hb : opBumps {} op with
    | true =>
      have hcnt := changesOf_bumped v { v with chg := bump v.chg d } d rfl
      rw [if_pos rfl, bumpFor, hok hb]
      refine ⟨hwf, fun dl hdl => ?_, fun h0 => absurd h0 (hcnt ▸ Nat.succ_ne_zero _)⟩
      obtain ⟨hd, hle, _⟩ := hinv.lists dl hdl
      exact ⟨hd, hcnt ▸ Nat.le_succ_of_le hle, fun he => absurd (he ▸ hle) (hcnt ▸ Nat.not_succ_le_self _)⟩
    | false =>
      have hshape := nonbump_shape v.store hinv.wf op hb
      refine ⟨hwf, fun dl hdl => ?_, fun h0 x => ?_⟩
      · obtain ⟨hd, hle, hcons⟩ := hinv.lists dl hdl
        exact ⟨hd, hle, fun he => consistent_of_shape v.store _ hinv.wf dl hshape.1 (hshape.2.1 dl.tag) (hcons he)⟩
      · exact (hshape.2.2 x).trans (hinv.virgin h0 x)

/-- a list created on a node of `d` carries the stamp 0: if that is still the counter of `d`, nothing has ever been linked -/
theorem listInv_mk (d : NodeId) (v : VState) (hinv : ListInv d v) (root : NodeId) (tag : List Nat)
    (hok : docOf v.store root = d) : ListInv d (lstep v (.mk root tag)).1 := by
  simp only [lstep, LOp.toVOp, vop]
  split
  · exact hinv
  · split
    · exact hinv
    · refine ⟨hinv.wf, fun dl hdl => ?_, hinv.virgin⟩
      rcases List.mem_append.mp hdl with hdl | hdl
      · exact hinv.lists dl hdl
      · cases List.mem_singleton.mp hdl
        refine ⟨hok, Nat.zero_le _, fun he => cursor_none ?_⟩
        show (docOrder v.store root).tail.filter _ = []
        rw [docOrder_unfold hinv.wf root, hinv.virgin he.symm root]
        rfl

theorem item_doc (s : Store) (c : Nat) (dl : DeepList) (i : Nat) : (dl.item s c i).1.doc = dl.doc := by
  fun_cases DeepList.item s c dl i <;> rfl

theorem length_doc (s : Store) (c : Nat) (dl : DeepList) : (dl.length s c).1.doc = dl.doc := by
  unfold DeepList.length
  simp only
  rw [item_doc, item_doc]

theorem listInv_set {d : NodeId} {v : VState} (hinv : ListInv d v) {k : Nat} {dl dl' : DeepList}
    (hk : v.lists[k]? = some dl) (hdoc : dl'.doc = dl.doc) (hc : CacheOK v.store (changesOf v dl.doc) dl') :
    ListInv d { v with lists := v.lists.set k dl' } := by
  have hd := (hinv.lists dl (List.mem_of_getElem? hk)).1
  refine ⟨hinv.wf, fun dl2 h2 => ?_, hinv.virgin⟩
  rcases List.mem_or_eq_of_mem_set h2 with hm | rfl
  · exact hinv.lists dl2 hm
  · exact ⟨hdoc.trans hd, hd ▸ hc⟩

/-- A query through the protocol: the list number `k`, if it is alive, answers `q` and its new state takes the place of the old
one.  If `q` keeps the document and the cache in order and answers `val`, the invariant is kept and the answer is `val`. -/
theorem lstep_query {α : Type} {d : NodeId} {v : VState} (hinv : ListInv d v) (k : Nat) (q : DeepList → DeepList × α)
    (res : α → VRes) (val : DeepList → α)
    (hq : ∀ dl, CacheOK v.store (changesOf v dl.doc) dl →
      (q dl).1.doc = dl.doc ∧ CacheOK v.store (changesOf v dl.doc) (q dl).1 ∧ (q dl).2 = val dl)
    (r : VState × VRes)
    (hr : r = match v.lists[k]? with
      | none => (v, .dead)
      | some dl =>
        if !dl.alive v.store then (v, .dead) else
        let (dl', a) := q dl
        ({ v with lists := v.lists.set k dl' }, res a)) :
    ListInv d r.1 ∧ ∀ dl, v.lists[k]? = some dl → dl.alive v.store = true → r.2 = res (val dl) := by
  subst hr
  cases hk : v.lists[k]? with
  | none => exact ⟨hinv, fun _ hh => nomatch hh⟩
  | some dl =>
    obtain ⟨hd, hcache⟩ := hinv.lists dl (List.mem_of_getElem? hk)
    obtain ⟨hdoc, hcache', hval⟩ := hq dl (by rw [hd]; exact hcache)
    refine ⟨?_, fun dl' hh halive => ?_⟩
    · simp only
      split
      · exact hinv
      · exact listInv_set hinv hk hdoc hcache'
    · cases hh
      simp only [halive, Bool.not_true, Bool.false_eq_true, if_false]
      rw [hval]

/-- One step: the invariant is kept, and a query answers from the CURRENT tree: item(i) is the i-th matching element in
document order computed afresh, getLength() their number. -/
theorem deeplist_step (d : NodeId) (v : VState) (hinv : ListInv d v) (o : LOp) (hok : OpOK d v o) :
    ListInv d (lstep v o).1 ∧
    (∀ k i dl, o = .item k i → v.lists[k]? = some dl → dl.alive v.store = true →
      (lstep v o).2 = .node ((matching v.store dl.tag dl.root)[i]?)) ∧
    (∀ k dl, o = .len k → v.lists[k]? = some dl → dl.alive v.store = true →
      (lstep v o).2 = .num (matching v.store dl.tag dl.root).length) := by
  cases o with
  | dom op => exact ⟨listInv_dom d v hinv op hok, fun _ _ _ hh => (nomatch hh), fun _ _ hh => (nomatch hh)⟩
  | mk root tag => exact ⟨listInv_mk d v hinv root tag hok, fun _ _ _ hh => (nomatch hh), fun _ _ hh => (nomatch hh)⟩
  | item k i =>
    have hq := lstep_query hinv k (fun dl => dl.item v.store (changesOf v dl.doc) i) .node _ (fun dl hc =>
      have hs := deeplist_item_spec v.store hinv.wf _ dl hc i
      ⟨item_doc .., hs.2.1, hs.1⟩) (lstep v (.item k i)) rfl
    exact ⟨hq.1, fun k' i' dl hh => by cases hh; exact hq.2 dl, fun _ _ hh => (nomatch hh)⟩
  | len k =>
    have hq := lstep_query hinv k (fun dl => dl.length v.store (changesOf v dl.doc)) (fun n => .num n) _ (fun dl hc =>
      have hs := deeplist_length_spec v.store hinv.wf _ dl hc hok
      ⟨length_doc .., hs.2.1, hs.1⟩) (lstep v (.len k)) rfl
    exact ⟨hq.1, fun _ _ _ hh => (nomatch hh), fun k' dl hh => by cases hh; exact hq.2 dl⟩

theorem listInv_init (d n : Nat) : ListInv d { store := init n } := by
  refine ⟨XV.Props.C13.wf_init n, ?_, ?_⟩
  · intro dl hdl; cases hdl
  · intro _ x
    show parentKids (init n) x = []
    unfold parentKids
    rw [get_init]
    by_cases hx : x < n
    · rw [if_pos hx]
    · rw [if_neg hx]

/-- After ANY interleaving of C13 mutations, creations of tag-name lists and queries (`LOp`; the content operations of a range, which
also change the tree, are not among them), run by the repaired model (`lstep`, configuration `{}`), item(i) and getLength() of a live
tag-name list answer as if computed afresh on the current tree: the i-th element / the number of the matching elements of `docOrder`
of the root — the cache (fCurrentNode, fCurrentIndexPlus1, fChanges) is unobservable.
False of the current C++ for renameNode, which does not advance the change counter (witness: the examples on `listRun` in
XV.Props.C14); the model advances it. -/
theorem deeplist_cache_transparent (d : NodeId) (v : VState) (hr : Reach d v) :
    ListInv d v ∧
    (∀ k i dl, v.lists[k]? = some dl → dl.alive v.store = true →
      (lstep v (.item k i)).2 = .node ((matching v.store dl.tag dl.root)[i]?)) ∧
    (∀ k dl, v.lists[k]? = some dl → dl.alive v.store = true → v.store.size < intMax →
      (lstep v (.len k)).2 = .num (matching v.store dl.tag dl.root).length) := by
  have hinv : ListInv d v := by
    induction hr with
    | init n => exact listInv_init d n
    | step o _ hok ih => exact (deeplist_step d _ ih o hok).1
  refine ⟨hinv, ?_, ?_⟩
  · intro k i dl hk ha
    exact (deeplist_step d v hinv (.item k i) trivial).2.1 k i dl rfl hk ha
  · intro k dl hk ha hsz
    exact (deeplist_step d v hinv (.len k) hsz).2.2 k dl rfl hk ha

def mapBP (f : BP → BP) (r : Range) : Range :=
  { r with sc := (f (r.sc, r.so)).1, so := (f (r.sc, r.so)).2, ec := (f (r.ec, r.eo)).1, eo := (f (r.ec, r.eo)).2 }

theorem range_ext (r r' : Range) (h1 : r.doc = r'.doc) (h2 : r.sc = r'.sc) (h3 : r.so = r'.so) (h4 : r.ec = r'.ec)
    (h5 : r.eo = r'.eo) (h6 : r.detached = r'.detached) : r = r' := by
  cases r; cases r'; simp_all

/-- the code asks "is `node` this container, and is the container character data"; for character data `node` that is
"is the container `node`" -/
theorem isText_iff {s : Store} {node : NodeId} (ht : textLike s node = true) (c : NodeId) (P : Prop) :
    (node = c ∧ textLike s c = true ∧ P) ↔ (c = node ∧ P) :=
  ⟨fun ⟨a, _, p⟩ => ⟨a.symm, p⟩, fun ⟨a, p⟩ => ⟨a.symm, a ▸ ht, p⟩⟩

theorem isText_iff' {s : Store} {node : NodeId} (ht : textLike s node = true) (c : NodeId) :
    (node = c ∧ textLike s c = true) ↔ c = node :=
  ⟨fun ⟨a, _⟩ => a.symm, fun a => ⟨a.symm, a ▸ ht⟩⟩

/-- the code's "is `p`, the parent of `node`, this container" -/
theorem isParent_iff (s : Store) (p node c : NodeId) (o : Nat) :
    (some p = some c ∧ indexIn s c node < o) ↔ (c = p ∧ indexIn s p node < o) :=
  ⟨fun ⟨a, q⟩ => by cases a; exact ⟨rfl, q⟩, fun ⟨a, q⟩ => by subst a; exact ⟨rfl, q⟩⟩

/-- updateRangeForInsertedNode = DOM Range 2.12.1 for the node `node`, just linked in as child number `indexIn s p node` of `p` -/
theorem fixup_insertedNode (s : Store) (r : Range) (node p : NodeId) (hp : parentOf s node = some p) :
    r.insertedNode s node = mapBP (bpInsertedNode p (indexIn s p node)) r := by
  obtain ⟨doc, sc, so, ec, eo, det⟩ := r
  simp only [Range.insertedNode, mapBP, bpInsertedNode, hp, isParent_iff]
  split <;> simp only <;> split <;> rfl

/-- updateRangeForInsertedText (repaired, F6) = DOM Range 2.12.1 for `cnt` characters inserted at `off` into the character
data `node` -/
theorem fixup_insertedText (s : Store) (r : Range) (node : NodeId) (off cnt : Nat) (ht : textLike s node = true) :
    r.insertedText s node off cnt = mapBP (bpInsertedText node off cnt) r := by
  obtain ⟨doc, sc, so, ec, eo, det⟩ := r
  simp only [Range.insertedText, mapBP, bpInsertedText, gt_iff_lt, isText_iff ht]
  split <;> simp only <;> split <;> rfl

/-- a fix-up of the code's shape — first the start point, then the end point, each moved by the rule `f` — is `mapBP f` -/
theorem mapBP_of_steps (f : BP → BP) (A B : Range → Range)
    (hA : ∀ r, A r = { r with sc := (f (r.sc, r.so)).1, so := (f (r.sc, r.so)).2 })
    (hB : ∀ r, B r = { r with ec := (f (r.ec, r.eo)).1, eo := (f (r.ec, r.eo)).2 }) (r : Range) :
    B (A r) = mapBP f r := by
  rw [hA, hB]; rfl

/-- updateRangeForDeletedText = DOM Range 2.12.2 for the characters [off, off+cnt) deleted from `node` -/
theorem fixup_deletedText (s : Store) (r : Range) (node : NodeId) (off cnt : Nat) (ht : textLike s node = true) :
    r.deletedText s node off cnt = mapBP (bpDeletedText node off cnt) r := by
  -- Point by point, unlike the other five fix-ups: with three branches for each point, `split` on the whole range is an order of
  -- magnitude dearer to check.  What the code does to one point (c, o), whatever is then done (`g`) with the new container and offset:
  have point : ∀ {α : Type} (g : NodeId → Nat → α) (c : NodeId) (o : Nat),
      (if node = c ∧ textLike s c then (if o > off + cnt then g c (o - cnt) else if o > off then g c off else g c o)
        else g c o) = g (bpDeletedText node off cnt (c, o)).1 (bpDeletedText node off cnt (c, o)).2 := by
    intro α g c o
    simp only [bpDeletedText, gt_iff_lt, isText_iff' ht]
    by_cases e : c = node
    · by_cases h1 : off + cnt < o
      · simp only [if_pos e, if_pos h1]
      · by_cases h2 : off < o
        · simp only [if_pos e, if_neg h1, if_pos h2]
        · simp only [if_pos e, if_neg h1, if_neg h2]
    · simp only [if_neg e]
  exact mapBP_of_steps (bpDeletedText node off cnt)
    (fun r => if node = r.sc ∧ textLike s r.sc then
        (if r.so > off + cnt then { r with so := r.so - cnt } else if r.so > off then { r with so := off } else r)
      else r)
    (fun r1 => if node = r1.ec ∧ textLike s r1.ec then
        (if r1.eo > off + cnt then { r1 with eo := r1.eo - cnt } else if r1.eo > off then { r1 with eo := off } else r1)
      else r1)
    (fun r => point (fun c o => { r with sc := c, so := o }) r.sc r.so)
    (fun r => point (fun c o => { r with ec := c, eo := o }) r.ec r.eo) r

/-- receiveReplacedText: points inside the replaced character data go to its start -/
theorem fixup_replacedText (s : Store) (r : Range) (node : NodeId) (ht : textLike s node = true) :
    r.replacedText s node = mapBP (bpReplacedText node) r := by
  obtain ⟨doc, sc, so, ec, eo, det⟩ := r
  simp only [Range.replacedText, mapBP, bpReplacedText, isText_iff' ht]
  split <;> simp only <;> split <;> simp_all

/-- updateSplitInfo: the characters from `off` on, and the points in them, move to the new node -/
theorem fixup_splitInfo (s : Store) (r : Range) (old nw : NodeId) (off : Nat) (ht : textLike s old = true) :
    r.splitInfo s old nw off = mapBP (bpSplit old nw off) r := by
  obtain ⟨doc, sc, so, ec, eo, det⟩ := r
  simp only [Range.splitInfo, mapBP, bpSplit, gt_iff_lt, isText_iff ht]
  split <;> simp only <;> split <;> rfl

/-- updateRangeForDeletedNode = DOM Range 2.12.2 for the child `node` of `p`, number `idx = indexIn s p node`, about to be unlinked:
points inside the subtree go to (p, idx), later points in `p` move down by one. -/
theorem fixup_deletedNode (s : Store) (h : WF s) (r : Range) (node p : NodeId) (hp : parentOf s node = some p) :
    r.deletedNode s node = mapBP (bpDeletedNode p (indexIn s p node) (isAncOf s node)) r := by
  -- `p` is not below its child `node`: the rule for the offsets in `p` and the rule for the points inside the subtree never meet on
  -- one point, which is why the guard `p ≠ sc ∨ p ≠ ec` of the code changes nothing
  have hnp := not_isAncOf_parent h hp
  obtain ⟨doc, sc, so, ec, eo, det⟩ := r
  simp only [Range.deletedNode, mapBP, bpDeletedNode, hp, Option.some.injEq, ne_eq]
  by_cases a1 : p = sc <;> by_cases a2 : p = ec
  · subst a1; subst a2
    by_cases b1 : so > indexIn s p node <;> by_cases b2 : eo > indexIn s p node <;> simp [*]
  · subst a1
    have a2' : ¬ ec = p := fun e => a2 e.symm
    by_cases b1 : so > indexIn s p node <;> by_cases c2 : isAncOf s node ec = true <;> simp [*]
  · subst a2
    have a1' : ¬ sc = p := fun e => a1 e.symm
    by_cases b2 : eo > indexIn s p node <;> by_cases c1 : isAncOf s node sc = true <;> simp [*]
  · have a1' : ¬ sc = p := fun e => a1 e.symm
    have a2' : ¬ ec = p := fun e => a2 e.symm
    by_cases c1 : isAncOf s node sc = true <;> by_cases c2 : isAncOf s node ec = true <;> simp [*]

/-- Each of the six fix-up functions the DOM calls on its ranges moves both boundary points by one rule of the Spec: for the four
insertions and deletions the rule of DOM Range 2.12 (`updateRangeForInsertedText` as repaired: DESIGN §5 F6), for setData and
splitText, of which 2.12 does not speak, `bpReplacedText` and `bpSplit`. -/
theorem range_fixup_spec (s : Store) (h : WF s) (r : Range) :
    (∀ node p, parentOf s node = some p →
      r.insertedNode s node = mapBP (bpInsertedNode p (indexIn s p node)) r ∧
      r.deletedNode s node = mapBP (bpDeletedNode p (indexIn s p node) (isAncOf s node)) r) ∧
    (∀ node off cnt, textLike s node = true →
      r.insertedText s node off cnt = mapBP (bpInsertedText node off cnt) r ∧
      r.deletedText s node off cnt = mapBP (bpDeletedText node off cnt) r ∧
      r.replacedText s node = mapBP (bpReplacedText node) r) ∧
    (∀ old nw off, textLike s old = true → r.splitInfo s old nw off = mapBP (bpSplit old nw off) r) :=
  ⟨fun node p hp => ⟨fixup_insertedNode s r node p hp, fixup_deletedNode s h r node p hp⟩,
   fun node off cnt ht => ⟨fixup_insertedText s r node off cnt ht, fixup_deletedText s r node off cnt ht,
     fixup_replacedText s r node ht⟩,
   fun old nw off ht => fixup_splitInfo s r old nw off ht⟩

def bpOK (s : Store) (b : BP) : Prop := (s.get b.1).isSome = true ∧ b.2 ≤ lenOf s b.1

/-- the part of `ValidRange` that concerns each boundary point alone -/
def BoundsOK (s : Store) (r : Range) : Prop := bpOK s (r.sc, r.so) ∧ bpOK s (r.ec, r.eo)

theorem boundsOK_mapBP (s s' : Store) (f : BP → BP) (r : Range) (hf : ∀ b, bpOK s b → bpOK s' (f b)) :
    BoundsOK s r → BoundsOK s' (mapBP f r) := fun ⟨h1, h2⟩ => ⟨hf _ h1, hf _ h2⟩

/-- An edit that gives the character data `t` the new data `d`, with a rule `f` for the boundary points that leaves the
containers alone, moves offsets in `t` only and keeps them within the new length: every usable point stays usable. -/
theorem bpOK_textEdit {s : Store} {t : NodeId} (ht : textLike s t = true) (d : List Nat) (f : BP → BP)
    (hf : ∀ b, f b = (b.1, (f b).2)) (hne : ∀ b, b.1 ≠ t → (f b).2 = b.2)
    (ht' : ∀ o, o ≤ (dataOf s t).length → (f (t, o)).2 ≤ d.length) :
    ∀ b, bpOK s b → bpOK (setDataOf s t d) (f b) := by
  intro b ⟨hl, hlen⟩
  rw [hf b]
  refine ⟨(live_setDataOf s t d b.1).trans hl, ?_⟩
  rw [lenOf_setDataOf ht]
  by_cases e : b.1 = t
  · obtain ⟨b1, o⟩ := b
    subst e
    rw [lenOf_text ht] at hlen
    simp only [if_true]
    exact ht' o hlen
  · rw [if_neg e, hne b e]; exact hlen

/-- insertData(off, d) on the character data `t` followed by updateRangeForInsertedText.  Here, and for deleteData and setData, the
fix-up is evaluated on the store AFTER the edit, while `opLog` hands `notify` the store before it: these fix-ups read the store through
`textLike` only, which `setDataOf` keeps (`textLike_setDataOf`). -/
theorem bounds_insertData (s : Store) (r : Range) (t off : Nat) (d : List Nat) (ht : textLike s t = true)
    (hoff : off ≤ (dataOf s t).length) (hb : BoundsOK s r) :
    let s' := setDataOf s t (insertAtOff (dataOf s t) off d)
    BoundsOK s' (r.insertedText s' t off d.length) := by
  intro s'
  rw [fixup_insertedText s' r t off d.length ((textLike_setDataOf ..).trans ht)]
  refine boundsOK_mapBP s s' _ r (bpOK_textEdit ht _ _ ?_ ?_ ?_) hb
  · intro b; unfold bpInsertedText; split <;> rfl
  · intro b hb; unfold bpInsertedText; rw [if_neg fun hc => hb hc.1]
  · intro o ho
    rw [length_insertAtOff _ _ _ hoff]
    unfold bpInsertedText
    split <;> simp only <;> omega

theorem clampCount_eq (len off cnt : Nat) : clampCount len off cnt = min cnt (len - off) := by
  unfold clampCount
  simp only
  split <;> split <;> omega

/-- where DOM Range 2.12.2 puts an offset `o` of a text of length `len` from which the `c` characters at `off` go -/
theorem deleted_offset_le {len off c o : Nat} (hc : c ≤ len - off) (ho : o ≤ len) :
    (if off + c < o then o - c else if off < o then off else o) ≤ len - c := by
  split
  · omega
  · split <;> omega

/-- deleteData(off, cnt) followed by updateRangeForDeletedText with the clamped count -/
theorem bounds_deleteData (s : Store) (r : Range) (t off cnt : Nat) (ht : textLike s t = true)
    (hoff : off ≤ (dataOf s t).length) (hb : BoundsOK s r) :
    let s' := setDataOf s t (deleteRange (dataOf s t) off cnt)
    BoundsOK s' (r.deletedText s' t off (clampCount (dataOf s t).length off cnt)) := by
  intro s'
  rw [fixup_deletedText s' r t off _ ((textLike_setDataOf ..).trans ht)]
  refine boundsOK_mapBP s s' _ r (bpOK_textEdit ht _ _ ?_ ?_ ?_) hb
  · intro b
    refine Prod.ext ?_ rfl
    unfold bpDeletedText
    simp only [apply_ite Prod.fst, ite_self]
  · intro b hb; unfold bpDeletedText; rw [if_neg hb]
  · intro o ho
    rw [length_deleteRange _ _ _ hoff, ← clampCount_eq]
    unfold bpDeletedText
    rw [if_pos rfl]
    simp only [apply_ite Prod.snd]
    exact deleted_offset_le (clampCount_eq .. ▸ Nat.min_le_right ..) ho

/-- setData(d) followed by receiveReplacedText -/
theorem bounds_setData (s : Store) (r : Range) (t : Nat) (d : List Nat) (ht : textLike s t = true) (hb : BoundsOK s r) :
    let s' := setDataOf s t d
    BoundsOK s' (r.replacedText s' t) := by
  intro s'
  rw [fixup_replacedText s' r t ((textLike_setDataOf ..).trans ht)]
  refine boundsOK_mapBP s s' _ r (bpOK_textEdit ht _ _ ?_ ?_ ?_) hb
  · intro b; unfold bpReplacedText; split <;> simp_all
  · intro b hb; unfold bpReplacedText; rw [if_neg hb]
  · intro o _; unfold bpReplacedText; rw [if_pos rfl]; exact Nat.zero_le _

/-- removeChild(c): updateRangeForDeletedNode on the store before the unlink, then the unlink -/
theorem bounds_removeChild (s : Store) (h : WF s) (r : Range) (c p : NodeId) (hp : parentOf s c = some p)
    (htp : textLike s p = false) (hb : BoundsOK s r) :
    BoundsOK (detach s c) (r.deletedNode s c) := by
  rw [fixup_deletedNode s h r c p hp]
  refine boundsOK_mapBP s _ _ r (fun b ⟨hl, hlen⟩ => ?_) hb
  have hidx := indexIn_lt h hp htp
  have hpl : (s.get p).isSome = true := by
    obtain ⟨rq, hrq, _⟩ := mem_kids (kid_of_parent h hp)
    rw [hrq]; rfl
  unfold bpOK
  rw [live_detach, lenOf_detach h hp htp]
  fun_cases bpDeletedNode p (indexIn s p c) (isAncOf s c) b with
  | case1 => exact ⟨hpl, by rw [if_pos rfl]; omega⟩
  | case2 _ hc => exact ⟨hl, by rw [if_pos hc.1]; rw [hc.1] at hlen; omega⟩
  | case3 _ hc =>
    refine ⟨hl, ?_⟩
    split
    · next e => rw [e] at hlen; have : ¬ indexIn s p c < b.2 := fun hh => hc ⟨e, hh⟩; omega
    · exact hlen

/-- insertBefore(n, ref) of a parentless node: the link surgery, then updateRangeForInsertedNode on the store after it -/
theorem bounds_insertBefore (s : Store) (h : WF s) (r : Range) (n p : NodeId) (ref : Option NodeId)
    (hn : parentOf s n = none) (hpl : (s.get p).isSome = true) (htp : textLike s p = false)
    (hp' : parentOf (moveNodes s [n] p ref) n = some p) (hb : BoundsOK s r) :
    BoundsOK (moveNodes s [n] p ref) (r.insertedNode (moveNodes s [n] p ref) n) := by
  rw [fixup_insertedNode _ r n p hp']
  refine boundsOK_mapBP s _ _ r (fun b ⟨hl, hlen⟩ => ?_) hb
  unfold bpInsertedNode bpOK
  split
  · next hc =>
    refine ⟨(live_moveNodes ..).trans hl, ?_⟩
    simp only [lenOf_moveOne h ref hn hpl htp, if_pos hc.1]
    rw [hc.1] at hlen
    omega
  · refine ⟨(live_moveNodes ..).trans hl, ?_⟩
    rw [lenOf_moveOne h ref hn hpl htp]
    split
    · next e => rw [e] at hlen; omega
    · exact hlen

/-- On the boundary points of one tree (offsets within the containers) the comparison of DOMRangeImpl::compareBoundaryPoints is the
comparison of the positions `bpKey` in the linearised tree; hence it is a total preorder — reflexive, antisymmetric in the sense
cmp(b,a) = −cmp(a,b), transitive — and it extends the document order: the first points inside the nodes of `docOrder`, `(x, 0)`, are
strictly increasing.  (`TextLeaves`: character data has no children.  It is an assumption: that the operations keep it is not proved.) -/
theorem compareBoundaryPoints_order (s : Store) (h : WF s) (htl : TextLeaves s) :
    (∀ a oa b ob, rootOf s a = rootOf s b → oa ≤ lenOf s a → ob ≤ lenOf s b →
      cmpPoints s a oa b ob = keyCmp (bpKey s (a, oa)) (bpKey s (b, ob))) ∧
    (∀ a oa, oa ≤ lenOf s a → cmpPoints s a oa a oa = 0) ∧
    (∀ a oa b ob, rootOf s a = rootOf s b → oa ≤ lenOf s a → ob ≤ lenOf s b →
      cmpPoints s b ob a oa = - cmpPoints s a oa b ob) ∧
    (∀ a oa b ob c oc, rootOf s a = rootOf s b → rootOf s b = rootOf s c → oa ≤ lenOf s a → ob ≤ lenOf s b →
      oc ≤ lenOf s c → cmpPoints s a oa b ob ≤ 0 → cmpPoints s b ob c oc ≤ 0 → cmpPoints s a oa c oc ≤ 0) ∧
    (∀ r, (docOrder s r).Pairwise (fun x y => bpKey s (x, 0) < bpKey s (y, 0))) := by
  refine ⟨fun a oa b ob hr ha hb => cmpPoints_key h htl a oa b ob hr ha hb, ?_, ?_, ?_, docOrder_sorted h htl⟩
  · intro a oa ha
    rw [cmpPoints_key h htl a oa a oa rfl ha ha, keyCmp_self]
  · intro a oa b ob hr ha hb
    rw [cmpPoints_key h htl a oa b ob hr ha hb, cmpPoints_key h htl b ob a oa hr.symm hb ha, keyCmp_swap]
  · intro a oa b ob c oc h1 h2 ha hb hc
    rw [cmpPoints_key h htl a oa b ob h1 ha hb, cmpPoints_key h htl b ob c oc h2 hb hc,
      cmpPoints_key h htl a oa c oc (h1.trans h2) ha hc, keyCmp_le, keyCmp_le, keyCmp_le]
    omega

/-- compareBoundaryPoints(how, src) compares the boundary points `how` names -/
theorem compare_how (s : Store) (r src : Range) :
    r.compare s .startToStart src = cmpPoints s r.sc r.so src.sc src.so ∧
    r.compare s .startToEnd src = cmpPoints s r.ec r.eo src.sc src.so ∧
    r.compare s .endToStart src = cmpPoints s r.sc r.so src.ec src.eo ∧
    r.compare s .endToEnd src = cmpPoints s r.ec r.eo src.ec src.eo := ⟨rfl, rfl, rfl, rfl⟩

/-- cloneContents() leaves every existing node exactly as it was — parent, children, attributes, data: it only adds nodes (the
fragment and the copies) — and the fragment it returns is one of the new nodes. -/
theorem clone_pure (s : Store) (h : WF s) (r : Range) :
    (∀ i, i < s.size → (cloneContents s r).1.get i = s.get i) ∧ s.size ≤ (cloneContents s r).1.size ∧
    s.size ≤ (cloneContents s r).2 :=
  have ⟨he, hf⟩ := wrapFragment_ext h (rangeContent_clone_inv s h r) r.doc
  ⟨he.2, he.1, hf⟩

/-- Part (1) of `extract_eq_clone_then_delete` (the full statement, not proved, is written out in XV.Props.C14): extractContents and
deleteContents leave the range at the same (collapsed) position.  True of the model by construction (both put the range at
`collapsePoint s r`); it says nothing of the fragment or of the traversal. -/
theorem extract_eq_clone_then_delete_partial (s : Store) (r : Range) :
    (extractContents s r).2.2.1 = (deleteContents s r).2.1 ∧
    ((extractContents s r).2.2.1).collapsed = true := by
  refine ⟨rfl, ?_⟩
  simp [extractContents, Range.collapsed]

/-- The part of `toString_spec` (full statement in XV.Props.C14) for the two simplest shapes of a range: a collapsed range has no
text; a range inside one Text / CDATASection node has the characters between the offsets, and so says `rangeText` (for the collapsed
range `rangeText` is not mentioned). -/
theorem toString_spec_partial (s : Store) (r : Range) :
    (r.sc = r.ec → r.so = r.eo → r.toStringCode s = []) ∧
    (r.sc = r.ec → r.so ≠ r.eo → isCharText s r.sc = true →
      r.toStringCode s = ((dataOf s r.sc).take r.eo).drop r.so ∧ rangeText s r = ((dataOf s r.sc).take r.eo).drop r.so) := by
  constructor
  · intro h1 h2
    unfold Range.toStringCode Range.toStringWith
    rw [if_pos ⟨h1, h2⟩]
  · intro h1 h2 h3
    have htl : textLike s r.sc = true := by
      unfold isCharText isKind at h3
      unfold textLike
      cases hg : s.get r.sc with
      | none => rw [hg] at h3; simp at h3
      | some rr =>
        rw [hg] at h3
        simp only [Bool.or_eq_true, beq_iff_eq] at h3
        rcases h3 with e | e <;> simp [isTextLike, e]
    constructor
    · unfold Range.toStringCode Range.toStringWith
      rw [if_neg (fun hh => h2 hh.2), if_pos ⟨h3, h1⟩]
    · unfold rangeText
      rw [if_pos ⟨h1, htl⟩, if_pos h3]

end XV.Lemmas.ViewsMain
