/-
The streaming monitor against the declarative ledger discipline.  The spec is stated over prefixes of the trace, so
the first lemmas give `LiveAfter`, `EverAllocated` and `Disciplined` of `pre ++ [e]` in terms of `pre` and `e`.
`Inv st pre` says that the monitor's state represents `LiveAfter pre` and `EverAllocated pre`; then every branch of
`step` is either `OkEvent` with `Inv` for the longer prefix or one clause of `Breaks` (`step_spec`), and
`monitorFrom_spec` is the induction along the trace with the prefix as parameter.
-/
import XV.Model.Ledger
namespace XV.Lemmas.Ledger
open XV.Spec.Ledger XV.Spec.Ledger.Event XV.Model.Ledger

theorem snoc_eq_append_cons {α : Type} {pre a b : List α} {e x : α} (h : pre ++ [e] = a ++ x :: b) :
    (b = [] ∧ pre = a ∧ e = x) ∨ ∃ b0, b = b0 ++ [e] ∧ pre = a ++ x :: b0 := by
  rcases List.eq_nil_or_concat b with rfl | ⟨b0, y, rfl⟩
  · exact .inl ⟨rfl, List.append_singleton_inj.1 h⟩
  · rw [List.concat_eq_append, ← List.cons_append, ← List.append_assoc, List.append_singleton_inj] at h
    obtain ⟨rfl, rfl⟩ := h
    exact .inr ⟨b0, List.concat_eq_append, rfl⟩

theorem liveAfter_snoc (pre : List Event) (e : Event) (p m : Nat) :
    LiveAfter (pre ++ [e]) p m ↔ (∃ n, e = alloc m p n) ∨ (LiveAfter pre p m ∧ ∀ m', e ≠ free m' p) := by
  constructor
  · rintro ⟨a, b, n, h, hb⟩
    rcases snoc_eq_append_cons h with ⟨rfl, rfl, rfl⟩ | ⟨b0, rfl, rfl⟩
    · exact .inl ⟨n, rfl⟩
    · exact .inr ⟨⟨a, b0, n, rfl, fun m' hm => hb m' (List.mem_append_left _ hm)⟩,
        fun m' he => hb m' (he ▸ List.mem_append_right _ List.mem_cons_self)⟩
  · rintro (⟨n, rfl⟩ | ⟨⟨a, b, n, rfl, hb⟩, hne⟩)
    · exact ⟨pre, [], n, rfl, fun _ => nofun⟩
    · exact ⟨a, b ++ [e], n, by simp, fun m' hm =>
        (List.mem_append.1 hm).elim (hb m') fun h => hne m' (List.mem_singleton.1 h).symm⟩

theorem liveAfter_snoc_alloc (pre : List Event) (m' p' n' p m : Nat) :
    LiveAfter (pre ++ [alloc m' p' n']) p m ↔ (p' = p ∧ m' = m) ∨ LiveAfter pre p m := by
  simp [liveAfter_snoc, and_comm]

theorem liveAfter_snoc_free (pre : List Event) (m' p' p m : Nat) :
    LiveAfter (pre ++ [free m' p']) p m ↔ p ≠ p' ∧ LiveAfter pre p m := by
  simp [liveAfter_snoc, and_comm, eq_comm]

theorem liveAfter_nil (p m : Nat) : ¬ LiveAfter [] p m := by
  rintro ⟨a, b, n, h, _⟩
  simp at h

theorem ever_snoc_alloc (pre : List Event) (m p n q : Nat) :
    EverAllocated (pre ++ [alloc m p n]) q ↔ q = p ∨ EverAllocated pre q := by
  simp [EverAllocated, exists_or, eq_comm, or_comm]

theorem ever_snoc_free (pre : List Event) (m p q : Nat) : EverAllocated (pre ++ [free m p]) q ↔ EverAllocated pre q := by
  simp [EverAllocated]

theorem live_ever {pre : List Event} {p m : Nat} (h : LiveAfter pre p m) : EverAllocated pre p := by
  obtain ⟨a, b, n, rfl, _⟩ := h
  exact ⟨m, n, by simp⟩

theorem disciplined_nil : Disciplined [] := by
  intro pre e post h
  simp at h

theorem disciplined_prefix {pre post : List Event} (h : Disciplined (pre ++ post)) : Disciplined pre := by
  intro x e y hxy
  exact h x e (y ++ post) (by simp [hxy])

theorem disciplined_snoc (pre : List Event) (e : Event) :
    Disciplined (pre ++ [e]) ↔ Disciplined pre ∧ OkEvent pre e := by
  constructor
  · exact fun h => ⟨disciplined_prefix h, h pre e [] rfl⟩
  · rintro ⟨hd, hok⟩ x e' y hxy
    rcases snoc_eq_append_cons hxy with ⟨_, rfl, rfl⟩ | ⟨y0, _, h⟩
    · exact hok
    · exact hd x e' y0 h

/-- Of two allocations of `p` with no release of `p` after the first, the second was made while the first was live. -/
theorem owner_eq_of_later_alloc {a b c b' : List Event} {p m n m' n' : Nat} (hd : Disciplined (a ++ alloc m p n :: b))
    (hb : ∀ m', free m' p ∉ b) (h : alloc m p n :: b = c ++ alloc m' p n' :: b') : m = m' := by
  cases c with
  | nil => cases h; rfl
  | cons x c =>
    cases h
    exact (hd (a ++ alloc m p n :: c) (alloc m' p n') b' (by simp) m
      ⟨a, c, n, rfl, fun m' hm => hb m' (List.mem_append_left _ hm)⟩).elim

theorem owner_unique {pre : List Event} (hd : Disciplined pre) {p m m' : Nat}
    (h1 : LiveAfter pre p m) (h2 : LiveAfter pre p m') : m = m' := by
  obtain ⟨a, b, n, rfl, hb⟩ := h1
  obtain ⟨a', b', n', h, hb'⟩ := h2
  -- one of the two allocations comes first
  rcases List.append_eq_append_iff.1 h with ⟨c, rfl, hc⟩ | ⟨c, rfl, hc⟩
  · exact owner_eq_of_later_alloc hd hb hc
  · exact (owner_eq_of_later_alloc (h ▸ hd) hb' hc).symm

theorem breaks_not_ok {pre : List Event} (hd : Disciplined pre) {e : Event} {k : Kind}
    (h : Breaks pre e k) : ¬ OkEvent pre e := by
  cases k with
  | foreignFree =>
    obtain ⟨m, p, rfl, hne⟩ := h
    exact fun hl => hne (live_ever hl)
  | doubleFree =>
    obtain ⟨m, p, rfl, _, hnl⟩ := h
    exact fun hl => hnl m hl
  | wrongManager o =>
    obtain ⟨m, p, rfl, hl, hne⟩ := h
    exact fun hl' => hne (owner_unique hd hl hl')
  | dupAlloc o =>
    obtain ⟨m, p, n, rfl, hl⟩ := h
    exact fun hok => hok o hl
  | leak _ => exact h.elim

structure Inv (st : State) (pre : List Event) : Prop where
  live : ∀ p m, (∃ x ∈ st.live, x.ptr = p ∧ x.mgr = m) ↔ LiveAfter pre p m
  ever : ∀ p, p ∈ st.ever ↔ EverAllocated pre p

theorem inv_init : Inv {} [] :=
  ⟨fun p m => ⟨fun ⟨_, h, _⟩ => (nomatch h), fun h => (liveAfter_nil p m h).elim⟩,
    fun _ => ⟨fun h => (nomatch h), fun ⟨_, _, h⟩ => (nomatch h)⟩⟩

theorem lookup_none {l : List Entry} {p : Nat} (h : lookup l p = none) : ∀ e ∈ l, e.ptr ≠ p := by
  intro e he
  have := List.find?_eq_none.mp h e he
  simpa using this

theorem lookup_some {l : List Entry} {p : Nat} {e : Entry} (h : lookup l p = some e) : e ∈ l ∧ e.ptr = p := by
  refine ⟨List.mem_of_find?_eq_some h, ?_⟩
  have := List.find?_some h
  simpa using this

theorem Inv.of_lookup_some {st : State} {pre : List Event} (hI : Inv st pre) {p : Nat} {x : Entry}
    (h : lookup st.live p = some x) : LiveAfter pre p x.mgr :=
  (hI.live p x.mgr).1 ⟨x, (lookup_some h).1, (lookup_some h).2, rfl⟩

theorem Inv.of_lookup_none {st : State} {pre : List Event} (hI : Inv st pre) {p : Nat}
    (h : lookup st.live p = none) (m : Nat) : ¬ LiveAfter pre p m :=
  fun hl => ((hI.live p m).2 hl).elim fun x ⟨hx, hp, _⟩ => lookup_none h x hx hp

/-- Concluded by a `match` on the result, like `monitor_spec`: a user does `cases h : step st e` and rewrites the
lemma with `h`. -/
theorem step_spec {st : State} {pre : List Event} (hI : Inv st pre) (e : Event) :
    match step st e with
    | .ok st' => OkEvent pre e ∧ Inv st' (pre ++ [e])
    | .error k => Breaks pre e k := by
  -- the six branches of `step`, in the order of its definition
  fun_cases step st e
  case case1 m p n x hl => exact ⟨m, p, n, rfl, hI.of_lookup_some hl⟩
  case case2 m p n hl =>
    refine ⟨hI.of_lookup_none hl, fun q mq => ?_, fun q => ?_⟩
    · rw [liveAfter_snoc_alloc, ← hI.live q mq]
      simp only [List.mem_cons, or_and_right, exists_or, exists_eq_left]
    · rw [ever_snoc_alloc, ← hI.ever q]; exact List.mem_cons
  case case3 p x hl =>
    refine ⟨hI.of_lookup_some hl, fun q mq => ?_, fun q => ?_⟩
    · rw [liveAfter_snoc_free, ← hI.live q mq]
      constructor
      · rintro ⟨y, hy, rfl, rfl⟩
        exact ⟨by simpa using (List.mem_filter.1 hy).2, y, (List.mem_filter.1 hy).1, rfl, rfl⟩
      · rintro ⟨hne, y, hy, rfl, rfl⟩
        exact ⟨y, List.mem_filter.2 ⟨hy, by simpa using hne⟩, rfl, rfl⟩
    · rw [ever_snoc_free]; exact hI.ever q
  case case4 m p x hl hm => exact ⟨m, p, rfl, hI.of_lookup_some hl, hm⟩
  case case5 m p hl hc => exact ⟨m, p, rfl, (hI.ever p).1 (by simpa using hc), hI.of_lookup_none hl⟩
  case case6 m p hl hc => exact ⟨m, p, rfl, fun he => hc (by simpa using (hI.ever p).2 he)⟩

theorem Inv.mem_ptrs {st : State} {pre : List Event} (hI : Inv st pre) (p : Nat) :
    p ∈ (st.live.map (·.ptr)).reverse ↔ ∃ m, LiveAfter pre p m := by
  rw [List.mem_reverse, List.mem_map]
  exact ⟨fun ⟨x, hx, hp⟩ => ⟨x.mgr, (hI.live p x.mgr).1 ⟨x, hx, hp, rfl⟩⟩,
    fun ⟨m, hl⟩ => ((hI.live p m).2 hl).elim fun x ⟨hx, hp, _⟩ => ⟨x, hx, hp⟩⟩

theorem balanced_iff_nil {tr : List Event} {ids : List Nat} (h : ∀ p, p ∈ ids ↔ ∃ m, LiveAfter tr p m) :
    Balanced tr ↔ ids = [] := by
  simp only [List.eq_nil_iff_forall_not_mem, h, not_exists]
  rfl

/-- What a reported violation means, declaratively. -/
def FirstViolation (tr : List Event) (v : Violation) : Prop :=
  match v.kind with
  | .leak ids => v.index = tr.length ∧ Disciplined tr ∧ ids ≠ [] ∧ ∀ p, p ∈ ids ↔ ∃ m, LiveAfter tr p m
  | k => ∃ pre e post, tr = pre ++ e :: post ∧ v.index = pre.length ∧ Disciplined pre ∧ Breaks pre e k

theorem FirstViolation.not_ok {tr : List Event} {v : Violation} (h : FirstViolation tr v) :
    ¬ (Disciplined tr ∧ Balanced tr) := by
  unfold FirstViolation at h
  rintro ⟨hD, hB⟩
  split at h
  · obtain ⟨_, _, hne, hids⟩ := h
    exact hne ((balanced_iff_nil hids).1 hB)
  · obtain ⟨pre, e, post, rfl, _, hd, hb⟩ := h
    exact breaks_not_ok hd hb (hD pre e post rfl)

theorem monitorFrom_spec : ∀ (rest : List Event) (st : State) (pre : List Event), Inv st pre → Disciplined pre →
    match monitorFrom st pre.length rest with
    | .ok _ => Disciplined (pre ++ rest) ∧ Balanced (pre ++ rest)
    | .error v => FirstViolation (pre ++ rest) v
  | [], st, pre, hI, hd => by
    rw [monitorFrom, List.append_nil]
    by_cases he : st.live.isEmpty = true
    · rw [if_pos he]; exact ⟨hd, (balanced_iff_nil hI.mem_ptrs).2 (by simpa using he)⟩
    · rw [if_neg he]; exact ⟨rfl, hd, fun hnil => he (by simpa using hnil), hI.mem_ptrs⟩
  | e :: es, st, pre, hI, hd => by
    have hs := step_spec hI e
    rw [monitorFrom]
    cases hst : step st e with
    | error k =>
      rw [hst] at hs
      cases k with
      | leak ids => exact hs.elim
      | _ => exact ⟨pre, e, es, rfl, rfl, hd, hs⟩
    | ok st' =>
      rw [hst] at hs
      have := monitorFrom_spec es st' (pre ++ [e]) hs.2 ((disciplined_snoc pre e).2 ⟨hd, hs.1⟩)
      rw [List.length_append, List.append_assoc] at this
      exact this

theorem monitor_spec (tr : List Event) :
    match monitor tr with
    | .ok _ => Disciplined tr ∧ Balanced tr
    | .error v => FirstViolation tr v :=
  monitorFrom_spec tr {} [] inv_init disciplined_nil

end XV.Lemmas.Ledger
