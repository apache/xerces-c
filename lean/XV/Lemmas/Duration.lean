/-
Lemmas for C09, xs:duration: `compare(…, strict)` as a chain of `compareResult` over the four reference dateTimes, and
`addDuration` as an instant of the time line (any fields), which for the fields of a duration is the Spec's `addTo`; so
the chain, past its shortcut, is `durOrder`.  For the lexical space there is only what a sweep over short strings needs:
the strings themselves, and that parser and Spec both reject what begins with neither 'P' nor "-P"; no theorem says that
`parseDuration` leaves the fields `toDT`.  `monthsDT` … `hoursD` are the durations the statements of Props/C09 are about.
-/
import XV.Model.Duration
import XV.Spec.Duration
import XV.Lemmas.DateTime
namespace XV.Lemmas.Duration
open XV.Model.DateTime XV.Model.Duration XV.Spec.DateTime XV.Spec.Duration XV.Lemmas.DateTime

/-- the `compareResult` chain of `compare(…, strict)` on the four reference results (the lemmas are for `strict = true`,
which is all the validators pass: DateTimeValidator.cpp:78, 203) -/
def chain (r0 r1 r2 r3 : Int) (strict : Bool) : Int :=
  if r0 == INDETERMINATE then INDETERMINATE else
  let a := compareResult r0 r1 strict
  if a == INDETERMINATE then INDETERMINATE else
  let b := compareResult a r2 strict
  if b == INDETERMINATE then INDETERMINATE else
  compareResult b r3 strict

/-- the results `compareOrder` can have -/
def tri : List Int := [-1, 0, 1]

theorem chain_table : ∀ r0 ∈ tri, ∀ r1 ∈ tri, ∀ r2 ∈ tri, ∀ r3 ∈ tri,
    chain r0 r1 r2 r3 true = (if r0 = r1 ∧ r1 = r2 ∧ r2 = r3 then r0 else INDETERMINATE) := by decide

theorem go_tri (x y : List Int) : compareOrder.go x y ∈ tri := by
  fun_induction compareOrder.go x y <;> simp_all [tri]

theorem compareOrder_tri (l r : DT) : compareOrder l r ∈ tri := by
  unfold compareOrder
  dsimp only
  split
  · exact go_tri _ _
  · split
    · unfold cmpMs; cases cmpFrac (normalize l).ms (normalize r).ms <;> simp [tri]
    · simp [tri]

theorem compareDur_eq_chain (p1 p2 : DT) (strict : Bool) :
    compareDur p1 p2 strict =
      if compareOrder p1 p2 == 0 then 0
      else chain (compareOrder (addDuration p1 0) (addDuration p2 0)) (compareOrder (addDuration p1 1) (addDuration p2 1))
             (compareOrder (addDuration p1 2) (addDuration p2 2)) (compareOrder (addDuration p1 3) (addDuration p2 3)) strict := rfl

/-- the C++ result codes (LESS_THAN, EQUAL, GREATER_THAN, INDETERMINATE) of the Spec's four- and three-valued orders -/
def ord4Code : Ord4 → Int
  | .lt => -1 | .eq => 0 | .gt => 1 | .indeterminate => 2

def ordCode : Ordering → Int
  | .lt => -1 | .eq => 0 | .gt => 1

/-- n months, d days, h hours as model fields and as Spec durations: `toDT (monthsD n)` is `monthsDT n` by `rfl`, and so
for days and hours -/
def monthsDT (n : Nat) : DT := ⟨0, n, 0, 0, 0, 0, [], UTC_STD, 0, 0, false⟩
def daysDT (d : Nat) : DT := ⟨0, 0, d, 0, 0, 0, [], UTC_STD, 0, 0, false⟩
def hoursDT (h : Nat) : DT := ⟨0, 0, 0, h, 0, 0, [], UTC_STD, 0, 0, false⟩
def monthsD (n : Nat) : Dur := ⟨false, 0, n, 0, 0, 0, 0, []⟩
def daysD (d : Nat) : Dur := ⟨false, 0, 0, d, 0, 0, 0, []⟩
def hoursD (h : Nat) : Dur := ⟨false, 0, 0, 0, h, 0, 0, []⟩

def stringsUpTo (alpha : List Nat) : Nat → List (List Nat)
  | 0 => [[]]
  | n + 1 => [] :: (alpha.flatMap (fun c => (stringsUpTo alpha n).map (c :: ·)))

theorem mem_stringsUpTo_succ (alpha : List Nat) (n : Nat) (s : List Nat) :
    s ∈ stringsUpTo alpha (n + 1) ↔ s = [] ∨ ∃ c ∈ alpha, ∃ t ∈ stringsUpTo alpha n, c :: t = s := by
  simp only [stringsUpTo, List.mem_cons, List.mem_flatMap, List.mem_map]

theorem parseDuration_head (rep : Bool) (c : Nat) (s : List Nat) (h1 : c ≠ 0x50) (h2 : c ≠ 0x2D) :
    parseDuration rep (c :: s) = none ∧ XV.Spec.Duration.parse (c :: s) = none :=
  ⟨by simp [parseDuration, chP, chDash, h1, h2], by simp [XV.Spec.Duration.parse, h1, h2]⟩

theorem parseDuration_minus (rep : Bool) (c : Nat) (s : List Nat) (h : c ≠ 0x50) :
    parseDuration rep (0x2D :: c :: s) = none ∧ XV.Spec.Duration.parse (0x2D :: c :: s) = none :=
  ⟨by simp [parseDuration, chP, chDash, h], by simp [XV.Spec.Duration.parse, h]⟩

theorem fracOrd_nil (a b : Dur) (ha : a.frac = []) (hb : b.frac = []) : fracOrd a b = .eq := by
  unfold fracOrd; rw [ha, hb]; cases a.neg <;> cases b.neg <;> rfl

/-- `x < y` of §3.2.6.2 for durations without fractional seconds -/
def ltAll (a b : Dur) : Prop := ∀ r ∈ refs, addTo r a < addTo r b

theorem durOrder_lt_iff (a b : Dur) (ha : a.frac = []) (hb : b.frac = []) : durOrder a b = .lt ↔ ltAll a b := by
  have hc : ∀ r, (cmpAt r a b == .lt) = true ↔ addTo r a < addTo r b := by
    intro r
    unfold cmpAt
    rw [fracOrd_nil a b ha hb]
    split
    · simp [*]
    · split <;> simp [*]
  have hd : durOrder a b = .lt ↔ (refs.map (fun r => cmpAt r a b)).all (· == .lt) = true := by
    unfold durOrder
    dsimp only
    split
    · simp [*]
    · split
      · simp [*]
      · split <;> simp [*]
  rw [hd, List.all_map, List.all_eq_true]
  exact forall_congr' fun r => imp_congr_right fun _ => hc r

theorem go_eq_zero : ∀ x y : List Int, x.length = y.length → compareOrder.go x y = 0 → x = y
  | [], [], _, _ => rfl
  | [], _ :: _, hl, _ => by cases hl
  | _ :: _, [], hl, _ => by cases hl
  | a :: x, b :: y, hl, h => by
    unfold compareOrder.go at h
    split at h
    · cases h
    · split at h
      · cases h
      · rw [go_eq_zero x y (by simpa using hl) h, show a = b by omega]

theorem compareOrder_zero_fields (l r : DT) (hl : l.utc = UTC_UNKNOWN ∨ l.utc = UTC_STD)
    (hr : r.utc = UTC_UNKNOWN ∨ r.utc = UTC_STD) (h : compareOrder l r = 0) :
    [l.year, l.month, l.day, l.hour, l.minute, l.second, 0, (l.utc : Int)] =
      [r.year, r.month, r.day, r.hour, r.minute, r.second, 0, (r.utc : Int)] := by
  unfold compareOrder at h
  rw [normalize_id l hl, normalize_id r hr] at h
  dsimp only at h
  refine go_eq_zero _ _ ?_ ?_
  · rfl
  split at h
  · rename_i hc; exact absurd h (bne_iff_ne.mp hc)
  · rename_i hc; simpa using hc

theorem addLoop_eq (fuel : Nat) (d : DT) : addLoop fuel d = dayLoop fuel d := by
  induction fuel generalizing d with
  | zero => rfl
  | succ fuel ih => unfold addLoop dayLoop; simp only [ih]

/-- Adding duration fields of any size and either sign to a reference dateTime gives fields in normal range, at the instant
"first of the month that lies `dur.year`, `dur.month` after the reference, plus the days and the time as they stand": the
seconds are carried into the minutes, the rest is `settle_spec`, for which the fuel the model computes suffices. -/
theorem addDuration_spec (dur : DT) (i : Nat) (r : Int × Int) (hr : DATETIMES.getD i (0, 0) = r) :
    InRange (addDuration dur i) ∧ (addDuration dur i).hasTime = false ∧ (addDuration dur i).utc = UTC_STD ∧
      instantDT (addDuration dur i) = (monthStart (12 * (r.1 + dur.year) + (r.2 + dur.month) - 1) + 1) * 86400 +
        (((dur.day * 24 + dur.hour) * 60 + dur.minute) * 60 + dur.second) := by
  obtain ⟨x, hx⟩ : ∃ x : DT, x = ⟨r.1 + dur.year, r.2 + dur.month, 1 + dur.day, 0 + dur.hour,
      0 + dur.minute + (carryFix (0 + dur.second) 60).2, (carryFix (0 + dur.second) 60).1, [], UTC_STD, 0, 0, false⟩ := ⟨_, rfl⟩
  have e : addDuration dur i = dayLoop ((carry x).day.natAbs / 28 + 4) (carry x) := by
    unfold addDuration; rw [addLoop_eq, hr, hx]; rfl
  obtain ⟨y, m, dd, hm, hd, el, hi⟩ := settle_spec _ x (show _ < 28 * ((carry x).day.natAbs / 28 + 4) by omega)
  rw [e, el]
  rw [el, hx] at hi
  simp only [hx, carryFix_eq _ 60 (by decide)] at hi ⊢
  refine ⟨⟨hm, hd, by simp only; omega, by simp only; omega, by simp only; omega, Or.inr rfl⟩, trivial, trivial, ?_⟩
  rw [hi]
  omega

/-- the fields as `parseDuration` builds them (`negate * …`, fractional seconds apart): every component carries the sign -/
def toDT (a : Dur) : DT :=
  let s (x : Nat) : Int := if a.neg then -(x : Int) else x
  ⟨s a.years, s a.months, s a.days, s a.hours, s a.minutes, s a.seconds, [], if a.neg then UTC_NEG else UTC_STD, 0, 0, false⟩

theorem toDT_value (a : Dur) : (toDT a).year * 12 + (toDT a).month = monthsOf a ∧
    (((toDT a).day * 24 + (toDT a).hour) * 60 + (toDT a).minute) * 60 + (toDT a).second = secondsOf a := by
  unfold toDT monthsOf secondsOf sgn
  cases a.neg <;> simp only [Bool.false_eq_true, if_false, if_true] <;> omega

theorem addDuration_addTo (a : Dur) (i : Nat) (r : Int × Nat) (hr : DATETIMES.getD i (0, 0) = (r.1, (r.2 : Int))) :
    InRange (addDuration (toDT a) i) ∧ (addDuration (toDT a) i).hasTime = false ∧ (addDuration (toDT a) i).utc = UTC_STD ∧
      instantDT (addDuration (toDT a) i) = addTo r a := by
  obtain ⟨ir, t, u, e⟩ := addDuration_spec (toDT a) i _ hr
  obtain ⟨hm, hs⟩ := toDT_value a
  refine ⟨ir, t, u, ?_⟩
  rw [e, addTo, ← hs]
  simp only
  -- `addTo` names the month by year and months since January, which is its index split by 12
  rw [dayNumber_idx _ _ (by omega) (by omega)]
  congr 4
  omega

theorem compareOrder_add (a b : Dur) (fa : a.frac = []) (fb : b.frac = [])
    (i : Nat) (r : Int × Nat) (hr : DATETIMES.getD i (0, 0) = (r.1, (r.2 : Int))) :
    compareOrder (addDuration (toDT a) i) (addDuration (toDT b) i) = ordCode (cmpAt r a b) := by
  obtain ⟨ia, ta, ua, ea⟩ := addDuration_addTo a i r hr
  obtain ⟨ib, _, ub, eb⟩ := addDuration_addTo b i r hr
  rw [compareOrder_inrange _ _ ia ib (by rw [ua, ub]), ea, eb, ta]
  unfold cmpAt
  rw [fracOrd_nil a b fa fb]
  split
  · rfl
  · split <;> rfl

/-- the right side is the body of `durOrder`, on four results in place of the four `cmpAt` -/
theorem chain_ord4 : ∀ c0 c1 c2 c3 : Ordering,
    chain (ordCode c0) (ordCode c1) (ordCode c2) (ordCode c3) true =
      ord4Code (if [c0, c1, c2, c3].all (· == .lt) then .lt else if [c0, c1, c2, c3].all (· == .gt) then .gt
        else if [c0, c1, c2, c3].all (· == .eq) then .eq else .indeterminate) := by decide

/-- Past the shortcut, `compare(a, b, strict)` is the order of §3.2.6.2 on durations of either sign without fractional
seconds.  The shortcut of `h0` is the model's: on negative fields its `normalize` stops after four rounds of the day loop,
where the C++ loops to the end. -/
theorem compareDur_spec_of_ne (a b : Dur) (fa : a.frac = []) (fb : b.frac = []) (h0 : compareOrder (toDT a) (toDT b) ≠ 0) :
    compareDur (toDT a) (toDT b) true = ord4Code (durOrder a b) := by
  rw [compareDur_eq_chain, if_neg (by simpa using h0),
    compareOrder_add a b fa fb 0 (1696, 9) rfl, compareOrder_add a b fa fb 1 (1697, 2) rfl,
    compareOrder_add a b fa fb 2 (1903, 3) rfl, compareOrder_add a b fa fb 3 (1903, 7) rfl]
  exact chain_ord4 _ _ _ _

/-- The shortcut is right for non-negative durations, where it fires only if all fields agree (for negative ones it is not:
`duration_compare_shortcut_fails`). -/
theorem compareDur_spec (a b : Dur) (ha : a.neg = false) (hb : b.neg = false) (fa : a.frac = []) (fb : b.frac = []) :
    compareDur (toDT a) (toDT b) true = ord4Code (durOrder a b) := by
  by_cases h0 : compareOrder (toDT a) (toDT b) = 0
  · have hab : a = b := by
      have := compareOrder_zero_fields _ _ (Or.inr (by simp only [toDT, ha]; rfl)) (Or.inr (by simp only [toDT, hb]; rfl)) h0
      cases a; cases b
      simp only at ha hb fa fb
      simp only [toDT, ha, hb, Bool.false_eq_true, if_false, List.cons.injEq, Int.natCast_inj, and_true] at this
      simp only [ha, hb, fa, fb, this]
    subst hab
    rw [compareDur_eq_chain, h0]
    have : ∀ r, cmpAt r a a = .eq := fun r => by
      unfold cmpAt; rw [if_neg (Int.lt_irrefl _), if_neg (Int.lt_irrefl _), fracOrd_nil a a fa fa]
    simp [durOrder, this, refs, ord4Code]
  · exact compareDur_spec_of_ne a b fa fb h0

end XV.Lemmas.Duration
