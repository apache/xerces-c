/- The range lists of XV.Model.RangeTok read as sets of code points (`mem`): what sorting, merging, `scanInsert`,
compaction, the merge loops of subtraction and intersection (one sweep, one induction: `sweep_spec`), the complement
construction (closed form `gaps`) and `match` do to the set.  Inductions over an ordered list run on its chain form with
a lower bound, `Above lo`.  Two token invariants: `Inv` (ranges valid, `fSorted` truthful) and `Strong` (`fCompacted`
truthful as well), which subtraction, intersection and complement assume and re-establish; `addRange` and `mergeRanges`
keep the flag as the C++ does, so on a token marked compacted they preserve `Inv` only. -/
import XV.Model.RangeTok
namespace XV.Lemmas.RangeTok
open XV.Model.RangeTok

/-- set semantics of a range list -/
def mem (c : Int) (rs : R) : Prop := ∃ p ∈ rs, p.1 ≤ c ∧ c ≤ p.2

theorem mem_nil (c : Int) : ¬ mem c [] := fun ⟨_, h, _⟩ => nomatch h

theorem mem_cons (c : Int) (a b : Int) (t : R) : mem c ((a, b) :: t) ↔ (a ≤ c ∧ c ≤ b) ∨ mem c t := by
  simp only [mem, List.mem_cons, or_and_right, exists_or, exists_eq_left]

theorem mem_append (c : Int) (x y : R) : mem c (x ++ y) ↔ mem c x ∨ mem c y := by
  simp only [mem, List.mem_append, or_and_right, exists_or]

theorem not_mem_of_lt {c : Int} {t : R} (h : ∀ q ∈ t, c < q.1) : ¬ mem c t := by
  rintro ⟨p, hp, h1, _⟩
  have := h p hp; omega

def SortedStarts : R → Prop
  | [] => True
  | [_] => True
  | p :: q :: t => p.1 ≤ q.1 ∧ SortedStarts (q :: t)

theorem sortedStarts_iff : ∀ rs : R, SortedStarts rs ↔ rs.Pairwise (fun p q => p.1 ≤ q.1)
  | [] => by simp only [SortedStarts, List.Pairwise.nil]
  | [_] => by simp only [SortedStarts, List.pairwise_singleton]
  | p :: q :: t => by
    rw [SortedStarts, sortedStarts_iff (q :: t), List.pairwise_cons (a := p), List.forall_mem_cons]
    exact ⟨fun ⟨h1, h2⟩ => ⟨⟨h1, fun r hr => Int.le_trans h1 ((List.pairwise_cons.1 h2).1 r hr)⟩, h2⟩,
      fun ⟨⟨h1, _⟩, h2⟩ => ⟨h1, h2⟩⟩

theorem sortedStarts_cons {p : Int × Int} {t : R} :
    SortedStarts (p :: t) ↔ (∀ q ∈ t, p.1 ≤ q.1) ∧ SortedStarts t := by
  simp only [sortedStarts_iff, List.pairwise_cons]

theorem sortedStarts_append {x y : R} :
    SortedStarts (x ++ y) ↔ SortedStarts x ∧ SortedStarts y ∧ ∀ p ∈ x, ∀ q ∈ y, p.1 ≤ q.1 := by
  simp only [sortedStarts_iff, List.pairwise_append]

def Valid (rs : R) : Prop := ∀ p ∈ rs, p.1 ≤ p.2

theorem valid_cons {p : Int × Int} {t : R} : Valid (p :: t) ↔ p.1 ≤ p.2 ∧ Valid t :=
  List.forall_mem_cons

theorem valid_append {x y : R} : Valid (x ++ y) ↔ Valid x ∧ Valid y :=
  List.forall_mem_append

theorem lexLe_iff {p q : Int × Int} : lexLe p q = true ↔ p.1 < q.1 ∨ (p.1 = q.1 ∧ p.2 ≤ q.2) := by
  simp only [lexLe, Bool.or_eq_true, Bool.and_eq_true, decide_eq_true_eq, beq_iff_eq]

theorem mem_mergeL {x : Int × Int} : ∀ {xs ys : R}, x ∈ mergeL xs ys ↔ x ∈ xs ∨ x ∈ ys := by
  intro xs ys
  fun_induction mergeL xs ys with
  | case1 ys => simp only [List.not_mem_nil, false_or]
  | case2 xs h => simp only [List.not_mem_nil, or_false]
  | case3 p xs q ys h ih => rw [List.mem_cons, ih, List.mem_cons (l := ys), or_left_comm]
  | case4 p xs q ys h ih => rw [List.mem_cons, ih, List.mem_cons (l := xs), or_assoc]

theorem mergeL_mem (c : Int) (xs ys : R) : mem c (mergeL xs ys) ↔ mem c xs ∨ mem c ys := by
  simp only [mem, mem_mergeL, or_and_right, exists_or]

theorem mergeL_sorted : ∀ xs ys : R, SortedStarts xs → SortedStarts ys → SortedStarts (mergeL xs ys) := by
  intro xs ys
  fun_induction mergeL xs ys with
  | case1 ys => exact fun _ h => h
  | case2 xs h => exact fun h _ => h
  | case3 p xs q ys h ih =>
    intro hx hy
    have hqp : q.1 ≤ p.1 := by
      simp only [Bool.or_eq_true, Bool.and_eq_true, decide_eq_true_eq, beq_iff_eq] at h; omega
    have ⟨hq, hys⟩ := sortedStarts_cons.1 hy
    refine sortedStarts_cons.2 ⟨fun r hr => ?_, ih hx hys⟩
    rcases mem_mergeL.1 hr with hr | hr
    · rcases List.mem_cons.1 hr with rfl | hr
      · exact hqp
      · exact Int.le_trans hqp ((sortedStarts_cons.1 hx).1 r hr)
    · exact hq r hr
  | case4 p xs q ys h ih =>
    intro hx hy
    have hpq : p.1 ≤ q.1 := by
      simp only [Bool.or_eq_true, Bool.and_eq_true, decide_eq_true_eq, beq_iff_eq] at h; omega
    have ⟨hp, hxs⟩ := sortedStarts_cons.1 hx
    refine sortedStarts_cons.2 ⟨fun r hr => ?_, ih hxs hy⟩
    rcases mem_mergeL.1 hr with hr | hr
    · exact hp r hr
    · rcases List.mem_cons.1 hr with rfl | hr
      · exact hpq
      · exact Int.le_trans hpq ((sortedStarts_cons.1 hy).1 r hr)

/-- insertion is merging a singleton: `mergeL` takes from the right while the right head is strictly smaller, which is
where `lexLe p ·` fails -/
theorem insertSorted_eq (p : Int × Int) : ∀ t : R, insertSorted p t = mergeL [p] t
  | [] => by rw [insertSorted, mergeL]; exact fun h => nomatch h
  | q :: t => by
    have hc : lexLe p q = true ↔ ¬ (decide (q.1 < p.1) || (q.1 == p.1 && decide (q.2 < p.2))) = true := by
      simp only [lexLe_iff, Bool.or_eq_true, Bool.and_eq_true, decide_eq_true_eq, beq_iff_eq]
      omega
    rw [insertSorted, mergeL, insertSorted_eq p t]
    by_cases h : lexLe p q = true
    · rw [if_pos h, if_neg (hc.1 h), mergeL]
    · rw [if_neg h, if_pos (Decidable.not_not.1 (mt hc.2 h))]

theorem mem_sortRanges {x : Int × Int} : ∀ {rs : R}, x ∈ sortRanges rs ↔ x ∈ rs
  | [] => Iff.rfl
  | p :: t => by rw [sortRanges, insertSorted_eq, mem_mergeL, List.mem_singleton, mem_sortRanges, List.mem_cons]

theorem sortRanges_mem (c : Int) (rs : R) : mem c (sortRanges rs) ↔ mem c rs := by
  simp only [mem, mem_sortRanges]

theorem sortRanges_valid {rs : R} : Valid (sortRanges rs) ↔ Valid rs := by
  simp only [Valid, mem_sortRanges]

theorem sortRanges_sorted : ∀ rs : R, SortedStarts (sortRanges rs)
  | [] => trivial
  | p :: t => by rw [sortRanges, insertSorted_eq]; exact mergeL_sorted [p] _ trivial (sortRanges_sorted t)

theorem lastEnd_snoc (p : Int × Int) : ∀ rs : R, lastEnd (rs ++ [p]) = p.2
  | [] => rfl
  | [_] => rfl
  | _ :: q :: t => lastEnd_snoc p (q :: t)

theorem setLastEnd_snoc (v a b : Int) : ∀ rs : R, setLastEnd v (rs ++ [(a, b)]) = rs ++ [(a, v)]
  | [] => rfl
  | [_] => rfl
  | p :: q :: t => congrArg (p :: ·) (setLastEnd_snoc v a b (q :: t))

theorem setLastEnd_spec {rs : R} {v : Int} (hne : rs ≠ []) (hv : Valid rs) (hle : lastEnd rs ≤ v) :
    Valid (setLastEnd v rs) ∧ (SortedStarts rs → SortedStarts (setLastEnd v rs)) ∧
    ∀ c, mem c (setLastEnd v rs) ↔ mem c rs ∨ (lastEnd rs < c ∧ c ≤ v) := by
  obtain ⟨l, ⟨a, b⟩, rfl⟩ := (List.eq_nil_or_concat rs).resolve_left hne
  rw [List.concat_eq_append] at hv hle ⊢
  rw [lastEnd_snoc] at hle ⊢
  have hab : a ≤ b := hv (a, b) (by simp only [List.mem_append, List.mem_singleton, or_true])
  rw [setLastEnd_snoc]
  refine ⟨valid_append.2 ⟨(valid_append.1 hv).1, fun p hp => ?_⟩, fun hs => ?_, fun c => ?_⟩
  · rw [List.mem_singleton.1 hp]; exact Int.le_trans hab hle
  · simpa only [sortedStarts_append, List.mem_singleton, forall_eq, SortedStarts] using hs
  · simp only [mem_append, mem_cons, mem_nil, or_false, or_assoc]
    exact or_congr_right (by omega)

theorem starts_le_lastEnd {rs : R} (hs : SortedStarts rs) (hv : Valid rs) : ∀ p ∈ rs, p.1 ≤ lastEnd rs := by
  intro p hp
  obtain ⟨l, ⟨a, b⟩, rfl⟩ := (List.eq_nil_or_concat rs).resolve_left (List.ne_nil_of_mem hp)
  rw [List.concat_eq_append] at hs hv hp ⊢
  rw [lastEnd_snoc]
  have hab : a ≤ b := hv (a, b) (by simp only [List.mem_append, List.mem_singleton, or_true])
  rcases List.mem_append.1 hp with hp | hp
  · exact Int.le_trans ((sortedStarts_append.1 hs).2.2 p hp (a, b) (List.mem_singleton.2 rfl)) hab
  · rw [List.mem_singleton.1 hp]; exact hab

theorem scanInsert_spec (v1 v2 : Int) (rs : R) :
    (∀ x ∈ scanInsert v1 v2 rs, x = (v1, v2) ∨ x ∈ rs) ∧
    (SortedStarts rs → SortedStarts (scanInsert v1 v2 rs)) ∧
    ∀ c, mem c (scanInsert v1 v2 rs) ↔ mem c rs ∨ (v1 ≤ c ∧ c ≤ v2) := by
  fun_induction scanInsert v1 v2 rs with
  | case1 => exact ⟨fun x hx => .inl (List.mem_singleton.1 hx), id, fun c => by rw [mem_cons, or_comm]⟩
  | case2 a b t h =>
    exact ⟨fun x hx => .inr hx, id, fun c => (or_iff_left_of_imp fun h' => (mem_cons ..).2 (.inl (by omega))).symm⟩
  | case3 a b t _ h =>
    exact ⟨fun x hx => (List.mem_cons.1 hx).imp (fun e => by rw [e, h.1]) (List.mem_cons_of_mem _),
      fun hs => sortedStarts_cons.2 ((sortedStarts_cons (p := (a, b))).1 hs),
      fun c => by rw [mem_cons, mem_cons, or_right_comm]; exact or_congr_left (by omega)⟩
  | case4 a b t _ _ h => exact ⟨fun x hx => List.mem_cons.1 hx, fun hs => ⟨by omega, hs⟩, fun c => by rw [mem_cons, or_comm]⟩
  | case5 a b t h1 h2 h3 ih =>
    obtain ⟨i1, i2, i3⟩ := ih
    refine ⟨fun x hx => (List.mem_cons.1 hx).elim (fun e => .inr (e ▸ List.mem_cons_self))
      fun hx => (i1 x hx).imp_right (List.mem_cons_of_mem _), fun hs => ?_, fun c => by rw [mem_cons, i3, mem_cons, or_assoc]⟩
    have ⟨ha, ht⟩ := sortedStarts_cons.1 hs
    refine sortedStarts_cons.2 ⟨fun q hq => (i1 q hq).elim (fun e => ?_) (ha q), i2 ht⟩
    rw [e]
    show a ≤ v1
    omega

/-- strictly separated: a gap of at least one code point between consecutive ranges -/
def Sep : R → Prop
  | [] => True
  | [_] => True
  | p :: q :: t => p.2 + 1 < q.1 ∧ Sep (q :: t)

def Ordered : R → Prop
  | [] => True
  | [p] => p.1 ≤ p.2
  | p :: q :: t => p.1 ≤ p.2 ∧ p.2 < q.1 ∧ Ordered (q :: t)

/-- `Above lo rs`: `rs` is ordered and lies strictly above `lo`.  The chain form of `Ordered`: it unfolds on
every `cons`, and "ordered, and the first range starts after `lo`" is what the merge loops preserve. -/
def Above (lo : Int) : R → Prop
  | [] => True
  | p :: t => lo < p.1 ∧ p.1 ≤ p.2 ∧ Above p.2 t

theorem ordered_cons {p : Int × Int} : ∀ {t : R}, Ordered (p :: t) ↔ p.1 ≤ p.2 ∧ Above p.2 t
  | [] => (and_iff_left trivial).symm
  | q :: t => by rw [Ordered, ordered_cons (p := q), Above]

theorem Above.ordered {lo : Int} : ∀ {rs : R}, Above lo rs → Ordered rs
  | [], _ => trivial
  | _ :: _, h => ordered_cons.2 h.2

theorem ordered_above : ∀ {rs : R}, Ordered rs → ∃ lo, Above lo rs
  | [], _ => ⟨0, trivial⟩
  | p :: _, h => ⟨p.1 - 1, by omega, ordered_cons.1 h⟩

theorem Above.mono {lo lo' : Int} (h : lo' ≤ lo) : ∀ {rs : R}, Above lo rs → Above lo' rs
  | [], _ => trivial
  | _ :: _, ⟨h1, h2⟩ => ⟨Int.lt_of_le_of_lt h h1, h2⟩

theorem Above.lt_of_mem : ∀ {rs : R} {lo : Int}, Above lo rs → ∀ c, mem c rs → lo < c
  | [], _, _, c, h => absurd h (mem_nil c)
  | (a, b) :: t, lo, ⟨h1, h2, h3⟩, c, h => by
    rcases (mem_cons ..).1 h with h | h
    · omega
    · have := lt_of_mem h3 c h; omega

theorem Above.valid : ∀ {rs : R} {lo : Int}, Above lo rs → Valid rs
  | [], _, _ => fun _ h => nomatch h
  | _ :: _, _, ⟨_, h2, h3⟩ => valid_cons.2 ⟨h2, h3.valid⟩

theorem Above.sorted : ∀ {rs : R} {lo : Int}, Above lo rs → SortedStarts rs
  | [], _, _ => trivial
  | [_], _, _ => trivial
  | p :: q :: t, _, ⟨_, h2, h3⟩ => ⟨by have := h3.1; omega, h3.sorted⟩

theorem ordered_valid {rs : R} (h : Ordered rs) : Valid rs := (ordered_above h).elim fun _ => Above.valid

theorem ordered_sorted {rs : R} (h : Ordered rs) : SortedStarts rs := (ordered_above h).elim fun _ => Above.sorted

theorem Above.sep_cons {p : Int × Int} {lo : Int} : ∀ {t : R}, p.2 + 1 ≤ lo → Above lo t → Sep t → Sep (p :: t)
  | [], _, _, _ => trivial
  | _ :: _, h, ⟨h1, _⟩, hs => ⟨by omega, hs⟩

theorem absorb_spec (a b : Int) (t : R) : a ≤ b → (∀ q ∈ t, a ≤ q.1) → SortedStarts t → Valid t →
    Above (a - 1) (absorb a b t) ∧ Sep (absorb a b t) ∧
    ∀ c, mem c (absorb a b t) ↔ (a ≤ c ∧ c ≤ b) ∨ mem c t := by
  fun_induction absorb a b t with
  | case1 a b => exact fun h _ _ _ => ⟨⟨by omega, h, trivial⟩, trivial, fun c => mem_cons ..⟩
  | case2 a b s e t h ih =>
    intro hab _ hs hv
    obtain ⟨i1, i2, i3⟩ := ih (valid_cons.1 hv).1 (sortedStarts_cons.1 hs).1 (sortedStarts_cons.1 hs).2 (valid_cons.1 hv).2
    exact ⟨⟨by omega, hab, i1.mono (by omega)⟩, i1.sep_cons (by omega) i2, fun c => by rw [mem_cons, i3, mem_cons]⟩
  | case3 a b s e t h1 h2 ih =>
    intro hab ha hs hv
    have := ha _ List.mem_cons_self
    have := (valid_cons.1 hv).1
    obtain ⟨i1, i2, i3⟩ := ih (by omega) (List.forall_mem_cons.1 ha).2 (sortedStarts_cons.1 hs).2 (valid_cons.1 hv).2
    exact ⟨i1, i2, fun c => by rw [i3, mem_cons, ← or_assoc]; exact or_congr_left (by omega)⟩
  | case4 a b s e t h1 h2 ih =>
    intro hab ha hs hv
    have := ha _ List.mem_cons_self
    obtain ⟨i1, i2, i3⟩ := ih hab (List.forall_mem_cons.1 ha).2 (sortedStarts_cons.1 hs).2 (valid_cons.1 hv).2
    exact ⟨i1, i2, fun c => by rw [i3, mem_cons, ← or_assoc]; exact or_congr_left (by omega)⟩

theorem compact_spec {rs : R} (hs : SortedStarts rs) (hv : Valid rs) :
    Ordered (compact rs) ∧ Sep (compact rs) ∧ ∀ c, mem c (compact rs) ↔ mem c rs :=
  match rs with
  | [] => ⟨trivial, trivial, fun _ => Iff.rfl⟩
  | (a, b) :: t =>
    have ⟨h1, h2, h3⟩ := absorb_spec a b t (valid_cons.1 hv).1 (sortedStarts_cons.1 hs).1 (sortedStarts_cons.1 hs).2
      (valid_cons.1 hv).2
    ⟨h1.ordered, h2, fun c => (h3 c).trans (mem_cons ..).symm⟩

theorem fuel_le {a b f : Nat} (h : a + 1 + b ≤ f + 1) : a + b ≤ f := by omega

theorem intLoop_nil_right : ∀ (fuel : Nat) (src : R), intLoop fuel src [] = []
  | 0, _ => rfl
  | _ + 1, [] => rfl
  | _ + 1, _ :: _ => rfl

/-- the test `tt ≠ []` in `intLoop` makes no difference: with `tt = []` both calls return `[]` -/
theorem intLoop_ite (fuel : Nat) (x y tt : R) :
    (if tt ≠ [] then intLoop fuel x tt else intLoop fuel y tt) = intLoop fuel x tt := by
  split
  · rfl
  · next h => rw [Decidable.not_not.1 h, intLoop_nil_right, intLoop_nil_right]

/- `subLoop` and `intLoop` are one sweep: they make the same case distinction on the two heads and continue with the same
lists, and differ in what they emit, the parts of the source ranges outside `tok` and those inside.  So one induction,
along `subLoop`; each case first takes `intLoop` down the same branch.  There the induction hypothesis is used for the
lists the sweep continues with; what is left is an identity between sets of points `c` built from the two heads and the
two tails, under the order facts of the branch.  The tails enter only through `mem c st → se < c` and `mem c ut → ue < c`
(`Above.lt_of_mem`); `grind` closes that identity (the induction hypothesis is cleared first, `grind` would take it in). -/
theorem sweep_spec (fuel : Nat) (src tok : R) : src.length + tok.length ≤ fuel →
    ∀ lo lo', Above lo src → Above lo' tok →
    (Above lo (subLoop fuel src tok) ∧ Above lo (intLoop fuel src tok)) ∧
    ∀ c, (mem c (subLoop fuel src tok) ↔ mem c src ∧ ¬ mem c tok) ∧ (mem c (intLoop fuel src tok) ↔ mem c src ∧ mem c tok) := by
  fun_induction subLoop fuel src tok with
  | case1 src tok =>
    intro hl lo _ hs _
    cases List.eq_nil_of_length_eq_zero (Nat.le_zero.1 (Nat.le_trans (Nat.le_add_right ..) hl))
    exact ⟨⟨trivial, trivial⟩, fun c => by simp only [intLoop, mem_nil, false_and, and_self]⟩
  | case2 => exact fun _ _ _ _ _ => ⟨⟨trivial, trivial⟩, fun c => by simp only [intLoop, mem_nil, false_and, and_self]⟩
  | case3 =>
    rw [intLoop_nil_right]
    exact fun _ _ _ hs _ => ⟨⟨hs, trivial⟩, fun c => by simp only [mem_nil, not_false_eq_true, and_true, and_false, and_self]⟩
  | case4 fuel sb se st ub ue ut h1 ih =>
    intro hl lo lo' ⟨hs1, hs2, hs3⟩ ⟨ht1, ht2, ht3⟩
    obtain ⟨⟨a1, a2⟩, ih⟩ := ih (fuel_le hl) se lo' hs3 ⟨ht1, ht2, ht3⟩
    rw [intLoop, if_pos h1]
    refine ⟨⟨⟨hs1, hs2, a1⟩, a2.mono (by omega)⟩, fun c => ?_⟩
    have := hs3.lt_of_mem c
    have := ht3.lt_of_mem c
    simp only [mem_cons, ih c]
    clear ih hl
    grind
  | case5 fuel sb se st ub ue ut h1 h2 h3 ih =>
    intro hl lo lo' ⟨hs1, hs2, hs3⟩ ⟨ht1, ht2, ht3⟩
    obtain ⟨⟨a1, a2⟩, ih⟩ := ih (fuel_le hl) se lo' hs3 ⟨ht1, ht2, ht3⟩
    rw [intLoop, if_neg h1, if_pos h2, if_pos h3]
    refine ⟨⟨a1.mono (by omega), ⟨hs1, hs2, a2⟩⟩, fun c => ?_⟩
    have := hs3.lt_of_mem c
    have := ht3.lt_of_mem c
    simp only [mem_cons, ih c]
    clear ih hl
    grind
  | case6 fuel sb se st ub ue ut h1 h2 h3 h4 ih =>
    intro hl lo lo' ⟨hs1, hs2, hs3⟩ ⟨ht1, ht2, ht3⟩
    obtain ⟨⟨a1, a2⟩, ih⟩ := ih (Nat.le_of_succ_le_succ hl) ue ue ⟨by omega, by omega, hs3⟩ ht3
    rw [intLoop, if_neg h1, if_pos h2, if_neg h3, if_pos h4, intLoop_ite]
    refine ⟨⟨a1.mono (by omega), ⟨hs1, (by omega : sb ≤ ue), a2⟩⟩, fun c => ?_⟩
    have := hs3.lt_of_mem c
    have := ht3.lt_of_mem c
    simp only [mem_cons, ih c]
    clear ih hl
    grind
  | case7 fuel sb se st ub ue ut h1 h2 h3 h4 h5 ih =>
    intro hl lo lo' ⟨hs1, hs2, hs3⟩ ⟨ht1, ht2, ht3⟩
    obtain ⟨⟨a1, a2⟩, ih⟩ := ih (fuel_le hl) se lo' hs3 ⟨ht1, ht2, ht3⟩
    rw [intLoop, if_neg h1, if_pos h2, if_neg h3, if_neg h4, if_pos h5]
    refine ⟨⟨⟨hs1, (by omega : sb ≤ ub - 1), a1.mono (by omega)⟩, ⟨by omega, (by omega : ub ≤ se), a2⟩⟩, fun c => ?_⟩
    have := hs3.lt_of_mem c
    have := ht3.lt_of_mem c
    simp only [mem_cons, ih c]
    clear ih hl
    grind
  | case8 fuel sb se st ub ue ut h1 h2 h3 h4 h5 ih =>
    intro hl lo lo' ⟨hs1, hs2, hs3⟩ ⟨ht1, ht2, ht3⟩
    obtain ⟨⟨a1, a2⟩, ih⟩ := ih (Nat.le_of_succ_le_succ hl) ue ue ⟨by omega, by omega, hs3⟩ ht3
    rw [intLoop, if_neg h1, if_pos h2, if_neg h3, if_neg h4, if_neg h5, intLoop_ite]
    refine ⟨⟨⟨hs1, (by omega : sb ≤ ub - 1), a1.mono (by omega)⟩, ⟨by omega, ht2, a2⟩⟩, fun c => ?_⟩
    have := hs3.lt_of_mem c
    have := ht3.lt_of_mem c
    simp only [mem_cons, ih c]
    clear ih hl
    grind
  | case9 fuel sb se st ub ue ut h1 h2 ih =>
    intro hl lo lo' ⟨hs1, hs2, hs3⟩ ⟨ht1, ht2, ht3⟩
    obtain ⟨a, ih⟩ := ih (Nat.le_of_succ_le_succ hl) lo ue ⟨hs1, hs2, hs3⟩ ht3
    rw [intLoop, if_neg h1, if_neg h2, intLoop_ite]
    refine ⟨a, fun c => ?_⟩
    have := hs3.lt_of_mem c
    have := ht3.lt_of_mem c
    simp only [mem_cons, ih c]
    clear ih hl
    grind

theorem sweepL_spec {a b : R} (ha : Ordered a) (hb : Ordered b) :
    (Ordered (subtractL a b) ∧ Ordered (intersectL a b)) ∧
    ∀ c, (mem c (subtractL a b) ↔ mem c a ∧ ¬ mem c b) ∧ (mem c (intersectL a b) ↔ mem c a ∧ mem c b) :=
  have ⟨lo, ha⟩ := ordered_above ha
  have ⟨lo', hb⟩ := ordered_above hb
  have ⟨⟨h1, h2⟩, h3⟩ := sweep_spec _ a b (Nat.le_refl _) lo lo' ha hb
  ⟨⟨h1.ordered, h2.ordered⟩, h3⟩

def Inv (t : Tok) : Prop := Valid t.ranges ∧ (t.sorted = true → SortedStarts t.ranges)

/-- token invariant: data valid, `fSorted` truthful, `fCompacted` truthful (as far as later operations rely on it) -/
def Strong (t : Tok) : Prop :=
  Inv t ∧ (t.compacted = true → (t.sorted = true ∨ t.ranges = []) ∧ Ordered t.ranges)

theorem strong_of_ordered (t : Tok) (ho : Ordered t.ranges) (hs : t.sorted = true ∨ t.ranges = []) : Strong t :=
  ⟨⟨ordered_valid ho, fun _ => ordered_sorted ho⟩, fun _ => ⟨hs, ho⟩⟩

/-- a valid list without points is empty -/
theorem nil_congr {x y : R} (hy : Valid y) (h : ∀ c, mem c x ↔ mem c y) (hx : x = []) : y = [] :=
  match y, hy, h with
  | [], _, _ => rfl
  | p :: _, hy, h =>
    absurd ((h p.1).2 ⟨p, List.mem_cons_self, Int.le_refl _, hy p List.mem_cons_self⟩) (hx ▸ mem_nil p.1)

theorem doSort_spec (t : Tok) (hi : Inv t) :
    Inv (doSort t) ∧ SortedStarts (doSort t).ranges ∧ (doSort t).compacted = t.compacted ∧
    (∀ c, mem c (doSort t).ranges ↔ mem c t.ranges) ∧ ((doSort t).sorted = true ∨ (doSort t).ranges = []) := by
  unfold doSort
  split
  · next h => exact ⟨hi, h.elim hi.2 (· ▸ trivial), rfl, fun _ => .rfl, h⟩
  · exact ⟨⟨sortRanges_valid.2 hi.1, fun _ => sortRanges_sorted _⟩, sortRanges_sorted _, rfl,
      fun c => sortRanges_mem c _, .inl rfl⟩

theorem doSort_of_compacted {t : Tok} (hs : Strong t) (hc : t.compacted = true) : doSort t = t :=
  if_pos (hs.2 hc).1

theorem doCompact_spec (t : Tok) (hv : Valid t.ranges) (hs : SortedStarts t.ranges)
    (hc : t.compacted = true → Ordered t.ranges) :
    Ordered (doCompact t).ranges ∧ (doCompact t).sorted = t.sorted ∧
    (∀ c, mem c (doCompact t).ranges ↔ mem c t.ranges) ∧
    ((t.compacted = true → Sep t.ranges) → Sep (doCompact t).ranges) := by
  unfold doCompact
  split
  · next h =>
    have hshort : t.ranges.length ≤ 1 → Ordered t.ranges ∧ Sep t.ranges := fun h =>
      match t.ranges, h, hv with
      | [], _, _ => ⟨trivial, trivial⟩
      | [p], _, hv => ⟨hv p List.mem_cons_self, trivial⟩
    exact ⟨h.elim hc fun h => (hshort h).1, rfl, fun _ => .rfl, fun hsep => h.elim hsep fun h => (hshort h).2⟩
  · exact ⟨(compact_spec hs hv).1, rfl, (compact_spec hs hv).2.2, fun _ => (compact_spec hs hv).2.1⟩

/-- sort + compact, as subtraction, intersection and complement do first.  Both steps skip a token marked compacted, so
`Sep` of the result can only be promised if such a token has it already: the last conjunct. -/
theorem normalise_spec (t : Tok) (hs : Strong t) :
    Ordered (doCompact (doSort t)).ranges ∧
    (t.ranges ≠ [] → (doCompact (doSort t)).sorted = true) ∧
    (∀ c, mem c (doCompact (doSort t)).ranges ↔ mem c t.ranges) ∧
    ((t.compacted = true → Sep t.ranges) → Sep (doCompact (doSort t)).ranges) := by
  obtain ⟨s1, s2, s3, s4, s5⟩ := doSort_spec t hs.1
  -- a token marked compacted is left alone by both steps
  have hid : (doSort t).compacted = true → doSort t = t := fun h => doSort_of_compacted hs (s3 ▸ h)
  obtain ⟨c1, c2, c3, c4⟩ := doCompact_spec (doSort t) s1.1 s2 fun h => by rw [hid h]; exact (hs.2 (s3 ▸ h)).2
  exact ⟨c1, fun hne => c2 ▸ s5.resolve_right fun h => hne (nil_congr hs.1.1 s4 h), fun c => (c3 c).trans (s4 c),
    fun hsep => c4 fun h => by rw [hid h]; exact hsep (s3 ▸ h)⟩

theorem addRange_append (t : Tok) (hs : t.sorted = true ∨ t.ranges = []) (v1 v2 : Int) (hv : v1 ≤ v2)
    (hl : t.ranges ≠ [] → lastEnd t.ranges + 1 < v1) :
    (addRange t v1 v2).ranges = t.ranges ++ [(v1, v2)] ∧ (addRange t v1 v2).sorted = true := by
  obtain ⟨rs, sorted, compacted⟩ := t
  simp only [addRange, if_pos hv]
  cases rs with
  | nil => exact ⟨rfl, rfl⟩
  | cons p l =>
    have : lastEnd (p :: l) + 1 < v1 := hl (List.cons_ne_nil p l)
    have hsd : sorted = true := hs.resolve_right (List.cons_ne_nil p l)
    have h3 : ¬ lastEnd (p :: l) ≥ v1 := by omega
    simp only [if_neg (show ¬ lastEnd (p :: l) + 1 = v1 by omega), h3, and_false, if_false, hsd, Bool.not_true,
      Bool.false_eq_true, and_self]

def InRange (rs : R) : Prop := ∀ p ∈ rs, 0 ≤ p.1 ∧ p.2 ≤ UTF16_MAX

theorem mem_inRange {c : Int} {rs : R} (h : InRange rs) (hm : mem c rs) : 0 ≤ c ∧ c ≤ UTF16_MAX := by
  obtain ⟨p, hp, h1, h2⟩ := hm
  have := h p hp; omega

/-- the ranges of `[lo, hi]` between those of `rs`: what `complementL` builds for `lo = 0`, `hi = UTF16_MAX` -/
def gaps (hi : Int) : Int → R → R
  | lo, [] => if lo ≤ hi then [(lo, hi)] else []
  | lo, (a, b) :: t => if lo < a then (lo, a - 1) :: gaps hi (b + 1) t else gaps hi (b + 1) t

theorem gaps_spec (hi : Int) : ∀ (rs : R) (lo : Int), Above (lo - 1) rs → (∀ c, mem c rs → c ≤ hi) →
    Above (lo - 1) (gaps hi lo rs) ∧ ∀ c, mem c (gaps hi lo rs) ↔ (lo ≤ c ∧ c ≤ hi) ∧ ¬ mem c rs
  | [], lo, _, _ => by
    rw [gaps]
    split
    · exact ⟨⟨by omega, by omega, trivial⟩, fun c => by simp only [mem_cons, mem_nil, or_false, not_false_eq_true, and_true]⟩
    · exact ⟨trivial, fun c => by simp only [mem_nil, not_false_eq_true, and_true, false_iff]; omega⟩
  | (a, b) :: t, lo, ⟨h1, h2, h3⟩, hm => by
    have hb := hm b ((mem_cons ..).2 (.inl ⟨h2, Int.le_refl b⟩))
    obtain ⟨i1, i2⟩ := gaps_spec hi t (b + 1) (by rwa [Int.add_sub_cancel]) fun c hc => hm c ((mem_cons ..).2 (.inr hc))
    rw [Int.add_sub_cancel] at i1
    rw [gaps]
    split
    · refine ⟨⟨by omega, by omega, i1.mono (by omega)⟩, fun c => ?_⟩
      have := h3.lt_of_mem c
      rw [mem_cons, i2, mem_cons]
      clear i1 i2 h3 hm gaps_spec
      grind
    · refine ⟨i1.mono (by omega), fun c => ?_⟩
      have := h3.lt_of_mem c
      rw [i2, mem_cons]
      clear i1 i2 h3 hm gaps_spec
      grind

/-- with strictly separated ranges every `addRange` of the complement construction appends (between adjacent ranges it is
called with the ends the wrong way round and swaps them), so the loop and the last step produce the gaps after the
first range.  (The token is a variable `r3`: for `(a, b) :: (a', b') :: t` it is, by unfolding `addGaps` and `lastEnd`,
the token of `(a', b') :: t` with one more range in the accumulator, so the equation passes to the induction hypothesis
as it is.) -/
theorem addGaps_eq : ∀ (t : R) (a b : Int) (acc : Tok), Above b t → Sep ((a, b) :: t) →
    (∀ c, mem c ((a, b) :: t) → c ≤ UTF16_MAX) → b ≤ UTF16_MAX →
    (acc.sorted = true ∨ acc.ranges = []) → (acc.ranges ≠ [] → lastEnd acc.ranges < b) →
    ∀ r3, r3 = (if lastEnd ((a, b) :: t) ≠ UTF16_MAX then
        addRange (addGaps acc ((a, b) :: t)) (lastEnd ((a, b) :: t) + 1) UTF16_MAX else addGaps acc ((a, b) :: t)) →
    r3.ranges = acc.ranges ++ gaps UTF16_MAX (b + 1) t ∧ (r3.sorted = true ∨ r3.ranges = [])
  | [], a, b, acc, _, _, _, hb, hs, hl, r3, e => by
    replace e : r3 = if b ≠ UTF16_MAX then addRange acc (b + 1) UTF16_MAX else acc := e
    rw [e, gaps]
    by_cases h : b = UTF16_MAX
    · rw [if_neg (c := b ≠ UTF16_MAX) fun h' => h' h, if_neg (by omega), List.append_nil]
      exact ⟨rfl, hs⟩
    · obtain ⟨e1, e2⟩ := addRange_append acc hs (b + 1) UTF16_MAX (by omega) fun hne => by have := hl hne; omega
      rw [if_pos (c := b ≠ UTF16_MAX) h, if_pos (by omega)]
      exact ⟨e1, .inl e2⟩
  | (a', b') :: t, a, b, acc, ⟨h1, h2, h3⟩, ⟨s1, s2⟩, hm, _, hs, hl, r3, e => by
    obtain ⟨e1, e2⟩ := addRange_append acc hs (b + 1) (a' - 1) (by omega) fun hne => by have := hl hne; omega
    have hb' := hm b' ((mem_cons ..).2 (.inr ((mem_cons ..).2 (.inl ⟨h2, Int.le_refl b'⟩))))
    obtain ⟨i1, i2⟩ := addGaps_eq t a' b' (addRange acc (b + 1) (a' - 1)) h3 s2
      (fun c hc => hm c ((mem_cons ..).2 (.inr hc))) hb' (.inl e2) (fun _ => by rw [e1, lastEnd_snoc]; omega) r3 e
    refine ⟨?_, i2⟩
    rw [i1, e1, gaps, if_pos (by omega), List.append_assoc]
    rfl

theorem complementL_eq (a b : Int) (t : R) (hab : a ≤ b) (hat : Above b t) (hsep : Sep ((a, b) :: t))
    (hm : ∀ c, mem c ((a, b) :: t) → c ≤ UTF16_MAX) :
    (complementL ((a, b) :: t)).ranges = gaps UTF16_MAX 0 ((a, b) :: t) ∧
    ((complementL ((a, b) :: t)).sorted = true ∨ (complementL ((a, b) :: t)).ranges = []) := by
  have hb := hm b ((mem_cons ..).2 (.inl ⟨hab, Int.le_refl b⟩))
  rw [gaps]
  by_cases h : a > 0
  · obtain ⟨e1, e2⟩ := addRange_append {} (.inr rfl) 0 (a - 1) (by omega) fun hne => absurd rfl hne
    obtain ⟨i1, i2⟩ := addGaps_eq t a b _ hat hsep hm hb (.inl e2) (fun _ => by rw [e1]; show a - 1 < b; omega) _ rfl
    simp only [complementL, if_pos h]
    exact ⟨by rw [i1, e1]; rfl, i2⟩
  · obtain ⟨i1, i2⟩ := addGaps_eq t a b {} hat hsep hm hb (.inr rfl) (fun hne => absurd rfl hne) _ rfl
    simp only [complementL, if_neg h]
    exact ⟨by rw [i1]; rfl, i2⟩

theorem scan_iff (ch : Int) : ∀ rs : R, scan ch rs = true ↔ mem ch rs
  | [] => by simp only [scan, Bool.false_eq_true, mem_nil]
  | (b, e) :: t => by
    simp only [scan, Bool.or_eq_true, Bool.and_eq_true, decide_eq_true_eq, scan_iff ch t, mem_cons]

theorem mapCovers_iff (k : Int) (hk : k < MAPSIZE) (rs : R) : SortedStarts rs →
    (mapCovers k rs = true ↔ mem k rs) := by
  fun_induction mapCovers k rs with
  | case1 => exact fun _ => by simp only [Bool.false_eq_true, mem_nil]
  | case2 b e t hb ih =>
    intro hs
    have hlater : mem k t → b ≤ k := fun ⟨q, hq, h1, _⟩ => Int.le_trans ((sortedStarts_cons.1 hs).1 q hq) h1
    rw [mem_cons]
    by_cases he : e ≥ MAPSIZE
    · simp only [if_pos he, Bool.or_false, Bool.and_eq_true, decide_eq_true_eq]
      exact ⟨fun h => .inl h.1, fun h => ⟨h.elim id fun h => ⟨hlater h, by omega⟩, hk⟩⟩
    · simp only [if_neg he, Bool.or_eq_true, Bool.and_eq_true, decide_eq_true_eq, ih (sortedStarts_cons.1 hs).2]
      exact or_congr_left (and_iff_left hk)
  | case3 b e t hb =>
    intro hs
    have hlater : mem k t → b ≤ k := fun ⟨q, hq, h1, _⟩ => Int.le_trans ((sortedStarts_cons.1 hs).1 q hq) h1
    simp only [Bool.false_eq_true, false_iff, mem_cons]
    exact fun h => h.elim (by omega) fun h => by have := hlater h; omega

theorem nonMap_mem (ch : Int) (hc : MAPSIZE ≤ ch) (rs : R) : mem ch (nonMap rs) ↔ mem ch rs := by
  fun_induction nonMap rs with
  | case1 => rfl
  | case2 => rfl
  | case3 b e t _ he ih => rw [ih, mem_cons]; exact (or_iff_right (by omega)).symm
  | case4 => rfl

theorem matchCh_iff (rs : R) (hs : SortedStarts rs) (ch : Int) :
    matchCh false rs ch = true ↔ mem ch rs := by
  simp only [matchCh, Bool.false_eq_true, if_false]
  split
  · next h => exact mapCovers_iff ch h rs hs
  · next h => rw [scan_iff, nonMap_mem ch (by omega)]

theorem matchCh_neg_iff (rs : R) (hs : SortedStarts rs) (ch : Int) :
    matchCh true rs ch = true ↔ ¬ mem ch rs := by
  rw [← matchCh_iff rs hs ch]
  simp only [matchCh, if_true, Bool.false_eq_true, if_false, Bool.not_eq_true', Bool.not_eq_true]

end XV.Lemmas.RangeTok
