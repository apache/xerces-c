/-
C07 — the worklist loop of `DFAContentModel::buildDFA` (`buildRow`, `dfaLoop`; `findState` is the hash table, which
never holds the initial state) builds a transition table whose every entry is the exact subset-construction step and
never targets the initial state, and it terminates within the fuel bound (pigeonhole on the pairwise distinct state
sets): the invariant `Tbl`, `dfaLoop_spec`.  `validateContent`'s table walk succeeds iff some position of the current
state set starts a path to EOC that reads the children: `dfaWalk_spec`.
-/
import XV.Lemmas.DfaRun
namespace XV.Lemmas.DfaTable
open XV.Spec.ContentModel XV.Model.ContentModel XV.Lemmas.Glushkov XV.Lemmas.DfaTree XV.Lemmas.DfaRun

theorem getElem?_append_some {α : Type} {l ext : List α} {i : Nat} {x : α} (h : l[i]? = some x) :
    (l ++ ext)[i]? = some x :=
  (List.getElem?_append_left (List.getElem?_eq_some_iff.1 h).1).trans h

section
variable (ll : List (Option Name)) (fl : List StateSet)

def EntryOK (states : List StateSet) (S : StateSet) (e : Option Name) (t : Option Nat) : Prop :=
  match t with
  | none => stepSet ll fl S e = 0
  | some j => states[j]? = some (stepSet ll fl S e) ∧ stepSet ll fl S e ≠ 0

def RowOK (states : List StateSet) (S : StateSet) : List (Option Name) → List (Option Nat) → Prop
  | [], [] => True
  | e :: es, t :: ts => EntryOK ll fl states S e t ∧ RowOK states S es ts
  | _, _ => False

theorem EntryOK.mono {states ext : List StateSet} {S : StateSet} {e : Option Name} {t : Option Nat}
    (h : EntryOK ll fl states S e t) : EntryOK ll fl (states ++ ext) S e t := by
  cases t with
  | none => exact h
  | some j => exact ⟨getElem?_append_some h.1, h.2⟩

theorem RowOK.mono {states ext : List StateSet} {S : StateSet} {es : List (Option Name)} {row : List (Option Nat)}
    (h : RowOK ll fl states S es row) : RowOK ll fl (states ++ ext) S es row := by
  fun_induction RowOK ll fl states S es row with
  | case1 => trivial
  | case2 e es t ts ih => exact ⟨h.1.mono, ih h.2⟩
  | case3 => exact h.elim

theorem RowOK.append {states : List StateSet} {S : StateSet} :
    ∀ {es1 : List (Option Name)} {r1 : List (Option Nat)} {es2 : List (Option Name)} {r2 : List (Option Nat)},
      RowOK ll fl states S es1 r1 → RowOK ll fl states S es2 r2 → RowOK ll fl states S (es1 ++ es2) (r1 ++ r2) := by
  intro es1 r1 es2 r2 h1 h2
  fun_induction RowOK ll fl states S es1 r1 with
  | case1 => exact h2
  | case2 e es t ts ih => exact ⟨h1.1, ih h1.2⟩
  | case3 => exact h1.elim

theorem rowOK_get {ll : List (Option Name)} {fl : List StateSet} {states : List StateSet} {S : StateSet}
    {es : List (Option Name)} {row : List (Option Nat)} (h : RowOK ll fl states S es row) :
    row.length = es.length ∧
      ∀ (j : Nat) (e : Option Name), es[j]? = some e → ∃ t, row[j]? = some t ∧ EntryOK ll fl states S e t := by
  fun_induction RowOK ll fl states S es row with
  | case1 => exact ⟨rfl, by simp⟩
  | case2 e es t ts ih =>
    obtain ⟨h1, h2⟩ := ih h.2
    refine ⟨congrArg (· + 1) h1, fun j e' hj => ?_⟩
    cases j with
    | zero => exact ⟨t, rfl, Option.some.inj hj ▸ h.1⟩
    | succ j => exact h2 j e' hj
  | case3 => exact h.elim

theorem findState_some {states : List StateSet} {s : StateSet} {j : Nat} (h : findState states s = some j) :
    states[j]? = some s ∧ 1 ≤ j := by
  cases states with
  | nil => cases h
  | cons s0 rest =>
    obtain ⟨i, hi, rfl⟩ := Option.map_eq_some_iff.1 h
    obtain ⟨hlt, hp, _⟩ := List.findIdx?_eq_some_iff_getElem.1 hi
    rw [List.getElem?_cons_succ, List.getElem?_eq_getElem hlt, beq_iff_eq.1 hp]
    exact ⟨rfl, Nat.le_add_left 1 i⟩

theorem findState_none {states : List StateSet} {s : StateSet} (h : findState states s = none) :
    s ∉ states.tail := by
  cases states with
  | nil => exact List.not_mem_nil
  | cons s0 rest =>
    have hall := List.findIdx?_eq_none_iff.1 (Option.map_eq_none_iff.1 h)
    exact fun hm => Bool.false_ne_true ((hall s hm).symm.trans (beq_self_eq_true s))

/-- no transition of the row leads back to the initial state.  Only the states after the initial one are pairwise
    different (`Bounded`), so a state is known by its state set only among the targets (`state_index_inj`). -/
def PosRow (row : List (Option Nat)) : Prop := ∀ t, some t ∈ row → 1 ≤ t

theorem PosRow.cons {t : Option Nat} {r : List (Option Nat)} (h : PosRow r) (ht : ∀ j, t = some j → 1 ≤ j) :
    PosRow (t :: r) :=
  fun j hj => (List.mem_cons.1 hj).elim (fun e => ht j e.symm) (h j)

/-- the invariant that bounds the number of states -/
def Bounded (L : Nat) (states : List StateSet) : Prop :=
  states ≠ [] ∧ states.tail.Nodup ∧ ∀ s, s ∈ states.tail → s < 2 ^ L

theorem Bounded.length_le {L : Nat} {states : List StateSet} (h : Bounded L states) : states.length ≤ 2 ^ L + 1 := by
  have := h.2.1.length_le_of_subset (l₂ := List.range (2 ^ L)) fun x hx => List.mem_range.2 (h.2.2 x hx)
  rw [List.length_tail, List.length_range] at this
  omega

theorem Bounded.snoc {L : Nat} {states : List StateSet} {s : StateSet} (h : Bounded L states)
    (hf : findState states s = none) (hs : s < 2 ^ L) : Bounded L (states ++ [s]) := by
  obtain ⟨hne, hnd, hlt⟩ := h
  rw [Bounded, List.tail_append_of_ne_nil hne]
  refine ⟨List.append_ne_nil_of_left_ne_nil hne _, ?_, fun x hx => ?_⟩
  · exact List.nodup_append.2 ⟨hnd, List.pairwise_singleton _ s, fun a ha b hb e =>
      findState_none hf (e.trans (List.mem_singleton.1 hb) ▸ ha)⟩
  · exact (List.mem_append.1 hx).elim (hlt x) fun hx => List.mem_singleton.1 hx ▸ hs

theorem state_index_inj {L : Nat} {states : List StateSet} (hB : Bounded L states) {i j : Nat} {s : StateSet}
    (hi : 1 ≤ i) (hj : 1 ≤ j) (h1 : states[i]? = some s) (h2 : states[j]? = some s) : i = j := by
  cases states with
  | nil => exact absurd rfl hB.1
  | cons s0 rest =>
    obtain ⟨i, rfl⟩ := Nat.exists_eq_add_of_le' hi
    obtain ⟨j, rfl⟩ := Nat.exists_eq_add_of_le' hj
    rw [List.getElem?_cons_succ] at h1 h2
    rw [(List.getElem?_inj (lt_of_get h1) hB.2.1).1 (h1.trans h2.symm)]

theorem buildRow_spec (L : Nat) (hb : ∀ S e, stepSet ll fl S e < 2 ^ L) (S : StateSet) (es : List (Option Name))
    (states : List StateSet) (row : List (Option Nat)) (hB : Bounded L states) :
    ∃ ext r, buildRow ll fl S es states row = (states ++ ext, row ++ r) ∧
      RowOK ll fl (states ++ ext) S es r ∧ PosRow r ∧ Bounded L (states ++ ext) := by
  fun_induction buildRow ll fl S es states row with
  | case1 states row =>
    exact ⟨[], [], by rw [List.append_nil, List.append_nil], trivial, nofun, (List.append_nil states).symm ▸ hB⟩
  | case2 e es states row newSet h0 ih =>
    obtain ⟨ext, r, h1, h2, h3, h4⟩ := ih hB
    exact ⟨ext, none :: r, by simpa using h1, ⟨h0, h2⟩, h3.cons nofun, h4⟩
  | case3 e es states row newSet h0 j hf ih =>
    obtain ⟨ext, r, h1, h2, h3, h4⟩ := ih hB
    exact ⟨ext, some j :: r, by simpa using h1, ⟨EntryOK.mono ll fl ⟨(findState_some hf).1, h0⟩, h2⟩,
      h3.cons fun _ e => Option.some.inj e ▸ (findState_some hf).2, h4⟩
  | case4 e es states row newSet h0 hf ih =>
    obtain ⟨ext, r, h1, h2, h3, h4⟩ := ih (hB.snoc hf (hb S e))
    refine ⟨[newSet] ++ ext, some states.length :: r, ?_⟩
    rw [← List.append_assoc]
    exact ⟨by simpa using h1, ⟨EntryOK.mono ll fl ⟨List.getElem?_concat_length, h0⟩, h2⟩,
      h3.cons fun _ e => Option.some.inj e ▸ List.length_pos_iff.2 hB.1, h4⟩

/-- what the worklist loop maintains: the states after the initial one are pairwise different and fit into `L` bits;
    the rows built so far are exact and never lead back to the initial state -/
structure Tbl (L : Nat) (em : List (Option Name)) (states : List StateSet) (rows : List (List (Option Nat))) :
    Prop where
  bnd : Bounded L states
  le : rows.length ≤ states.length
  row : ∀ (i : Nat) row S, rows[i]? = some row → states[i]? = some S → RowOK ll fl states S em row ∧ PosRow row

theorem Tbl.snoc {L : Nat} {em : List (Option Name)} {states ext : List StateSet} {rows : List (List (Option Nat))}
    {setT : StateSet} {r : List (Option Nat)} (hT : Tbl ll fl L em states rows)
    (hs : states[rows.length]? = some setT) (hr : RowOK ll fl (states ++ ext) setT em r) (hp : PosRow r)
    (hB : Bounded L (states ++ ext)) : Tbl ll fl L em (states ++ ext) (rows ++ [r]) := by
  have hlt := (List.getElem?_eq_some_iff.1 hs).1
  refine ⟨hB, ?_, fun i row S hi hS => ?_⟩
  · rw [List.length_append, List.length_append]; exact Nat.le_trans (Nat.succ_le_of_lt hlt) (Nat.le_add_right ..)
  · rcases Nat.lt_or_ge i rows.length with hil | hil
    · rw [List.getElem?_append_left hil] at hi
      rw [List.getElem?_append_left (Nat.lt_trans hil hlt)] at hS
      exact ⟨(hT.row i row S hi hS).1.mono, (hT.row i row S hi hS).2⟩
    · rw [List.getElem?_append_right hil, List.getElem?_singleton] at hi
      split at hi
      · obtain rfl : i = rows.length := Nat.le_antisymm (Nat.sub_eq_zero_iff_le.1 ‹_›) hil
        cases (getElem?_append_some hs).symm.trans hS
        exact Option.some.inj hi ▸ ⟨hr, hp⟩
      · cases hi

theorem dfaLoop_spec (L : Nat) (hb : ∀ S e, stepSet ll fl S e < 2 ^ L) (em : List (Option Name)) (fuel : Nat)
    (states : List StateSet) (rows : List (List (Option Nat))) (hT : Tbl ll fl L em states rows)
    (hf : 2 ^ L + 2 ≤ fuel + rows.length) :
    ∃ ext rows', dfaLoop ll fl em fuel states rows = some (states ++ ext, rows') ∧
      Tbl ll fl L em (states ++ ext) rows' ∧ rows'.length = (states ++ ext).length := by
  fun_induction dfaLoop ll fl em fuel states rows with
  | case1 states rows =>
    have := hT.bnd.length_le
    have := hT.le
    omega
  | case2 fuel states rows hs =>
    exact ⟨[], rows, by rw [List.append_nil], (List.append_nil states).symm ▸ hT,
      (List.append_nil states).symm ▸ Nat.le_antisymm hT.le (List.getElem?_eq_none_iff.1 hs)⟩
  | case3 fuel states rows setT hs states' row hr ih =>
    obtain ⟨ext, r, h1, h2, h3, h4⟩ := buildRow_spec ll fl L hb setT em states [] hT.bnd
    cases hr.symm.trans h1
    obtain ⟨ext2, rows', e1, e2, e3⟩ := ih (hT.snoc ll fl hs h2 h3 h4)
      (by rw [List.length_append, List.length_singleton]; omega)
    refine ⟨ext ++ ext2, rows', ?_⟩
    rw [← List.append_assoc]
    exact ⟨e1, e2, e3⟩

/-- what `validateContent` finds in a correct row is the entry for the child's name; names that are not in the
    element map step to the empty set (the second hypothesis) -/
theorem lookupTrans_spec {states : List StateSet} {S : StateSet} (x : Name) {es : List (Option Name)}
    {row : List (Option Nat)} (h : RowOK ll fl states S es row)
    (h0 : some x ∉ es → stepSet ll fl S (some x) = 0) : EntryOK ll fl states S (some x) (lookupTrans es row x) := by
  fun_induction RowOK ll fl states S es row with
  | case1 => exact h0 List.not_mem_nil
  | case2 e es t ts ih =>
    simp only [lookupTrans]
    by_cases hx : e = some x
    · subst hx
      rw [if_pos (beq_self_eq_true _)]
      cases t with
      | some next => exact h.1
      | none => exact ih h.2 fun _ => h.1
    · rw [if_neg (fun hb => hx (beq_iff_eq.1 hb))]
      exact ih h.2 fun hn => h0 (List.not_mem_cons_of_ne_of_not_mem (Ne.symm hx) hn)
  | case3 => exact h.elim

theorem dfaWalk_spec {L : Nat} (em : List (Option Name)) (states : List StateSet) (rows : List (List (Option Nat)))
    (eoc : Nat) (emptyOk : Bool)
    (hT : Tbl ll fl L em states rows) (hlen : rows.length = states.length)
    (hcov : ∀ e, e ∉ em → ∀ S, stepSet ll fl S e = 0) :
    ∀ (w : List Name) (cur idx : Nat) (S : StateSet), states[cur]? = some S →
      (dfaWalk ⟨emptyOk, em, rows, states.map (fun s => s.testBit eoc)⟩ w cur idx = .ok ↔
        ∃ p, S.testBit p = true ∧ Reach ll fl p w eoc) := by
  intro w
  induction w with
  | nil =>
    intro cur idx S hS
    rw [dfaWalk, List.getD_eq_getElem?_getD, List.getElem?_map, hS]
    constructor
    · intro h; exact ⟨eoc, by simpa using h, rfl⟩
    · rintro ⟨p, h, rfl⟩; exact if_pos h
  | cons x w ih =>
    intro cur idx S hS
    obtain ⟨row, hrow⟩ : ∃ row, rows[cur]? = some row :=
      ⟨_, List.getElem?_eq_getElem (hlen ▸ (List.getElem?_eq_some_iff.1 hS).1)⟩
    have hE := lookupTrans_spec ll fl x (hT.row cur row S hrow hS).1 fun hm => hcov _ hm _
    -- a path that reads `x` first goes through the subset step
    have hstep : (∃ p, S.testBit p = true ∧ Reach ll fl p (x :: w) eoc) ↔
        ∃ p', (stepSet ll fl S (some x)).testBit p' = true ∧ Reach ll fl p' w eoc := by
      simp only [testBit_stepSet, Reach]
      exact ⟨fun ⟨p, h1, h2, p', h3, h4⟩ => ⟨p', ⟨p, h2, h1, h3⟩, h4⟩,
        fun ⟨p', ⟨p, h2, h1, h3⟩, h4⟩ => ⟨p, h1, h2, p', h3, h4⟩⟩
    rw [dfaWalk, hstep, List.getD_eq_getElem?_getD, hrow]
    dsimp only [Option.getD]
    cases hl : lookupTrans em row x with
    | none =>
      rw [hl] at hE
      rw [show stepSet ll fl S (some x) = 0 from hE]
      simp
    | some next =>
      rw [hl] at hE
      exact ih next (idx + 1) _ hE.1

end
end XV.Lemmas.DfaTable
