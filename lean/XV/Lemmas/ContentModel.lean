/-
C07 — `ReLang`, the language of the expressions `Re` that the derivative matcher of the Spec works on.  Its
constructors read as the operations of `XV.Lemmas.Lang` (the `_inv` lemmas), so `Re.nullable` / `Re.deriv` are the
empty-word and first-letter rules by structural induction and `Re.matches` decides `ReLang`; `CM.toRe` / `Spec.toRe`
keep the language of a DTD content spec (`CM.Lang`, `Lang`).  Core Lean only.
-/
import XV.Spec.ContentModel
import XV.Lemmas.Lang
namespace XV.Lemmas.ContentModel
open XV.Spec.ContentModel XV.Lemmas.Lang

inductive ReLang : Re → List Name → Prop where
  | eps : ReLang .eps []
  | sym (n : Name) : ReLang (.sym n) [n]
  | anysym (n : Name) : ReLang .anysym [n]
  | altL {a : Re} (b : Re) {u : List Name} : ReLang a u → ReLang (.alt a b) u
  | altR (a : Re) {b : Re} {u : List Name} : ReLang b u → ReLang (.alt a b) u
  | cat {a b : Re} {u v : List Name} : ReLang a u → ReLang b v → ReLang (.cat a b) (u ++ v)
  | starNil (a : Re) : ReLang (.star a) []
  | starCons {a : Re} {u v : List Name} : ReLang a u → ReLang (.star a) v → ReLang (.star a) (u ++ v)

theorem zero_inv {w : List Name} : ¬ ReLang .zero w :=
  nofun

theorem eps_inv {w : List Name} : ReLang .eps w ↔ w = [] :=
  ⟨fun h => by cases h; rfl, by rintro rfl; exact .eps⟩

theorem sym_inv {n : Name} {w : List Name} : ReLang (.sym n) w ↔ w = [n] :=
  ⟨fun h => by cases h; rfl, by rintro rfl; exact .sym n⟩

theorem anysym_inv {w : List Name} : ReLang .anysym w ↔ ∃ n, w = [n] :=
  ⟨fun h => by cases h with | anysym n => exact ⟨n, rfl⟩, by rintro ⟨n, rfl⟩; exact .anysym n⟩

theorem alt_inv {a b : Re} {w : List Name} : ReLang (.alt a b) w ↔ ReLang a w ∨ ReLang b w :=
  ⟨fun h => by cases h with | altL _ h => exact .inl h | altR _ h => exact .inr h,
   fun h => h.elim (.altL _) (.altR _)⟩

theorem cat_inv {a b : Re} {w : List Name} : ReLang (.cat a b) w ↔ Cat (ReLang a) (ReLang b) w :=
  ⟨fun h => by cases h with | cat h1 h2 => exact ⟨_, _, rfl, h1, h2⟩,
   by rintro ⟨_, _, rfl, h1, h2⟩; exact .cat h1 h2⟩

theorem star_inv {a : Re} {w : List Name} : ReLang (.star a) w ↔ Rep 0 none (ReLang a) w := by
  constructor
  · intro h
    generalize hr : Re.star a = r at h
    induction h with
    | starNil => exact star_nil
    | starCons h1 _ _ ih => cases hr; exact star_append h1 (ih rfl)
    | _ => cases hr
  · exact star_elim (.starNil a) fun _ _ => .starCons

theorem nullable_iff (r : Re) : r.nullable = true ↔ ReLang r [] := by
  induction r with
  | zero => simp [Re.nullable, zero_inv]
  | eps => simp [Re.nullable, eps_inv]
  | sym n => simp [Re.nullable, sym_inv]
  | anysym => simp [Re.nullable, anysym_inv]
  | alt a b iha ihb => simp [Re.nullable, alt_inv, iha, ihb]
  | cat a b iha ihb => rw [Re.nullable, Bool.and_eq_true, iha, ihb, cat_inv, cat_nil]
  | star a _ => exact ⟨fun _ => .starNil a, fun _ => rfl⟩

theorem deriv_iff_cons (r : Re) (x : Name) (w : List Name) :
    ReLang (r.deriv x) w ↔ ReLang r (x :: w) := by
  induction r generalizing w with
  | zero => exact ⟨nofun, nofun⟩
  | eps => exact ⟨nofun, nofun⟩
  | sym n =>
    rw [Re.deriv, sym_inv, List.cons.injEq]
    split
    · next h => simp [eps_inv, h]
    · next h => simp [zero_inv, Ne.symm h]
  | anysym => simp [Re.deriv, eps_inv, anysym_inv]
  | alt a b iha ihb => rw [Re.deriv, alt_inv, alt_inv, iha, ihb]
  | cat a b iha ihb =>
    rw [cat_inv, cat_cons, ← nullable_iff, ← ihb, ← cat_congr iha fun _ => Iff.rfl, Re.deriv]
    split
    · next hn => simp only [hn, alt_inv, cat_inv, true_and, or_comm]
    · next hn => simp only [hn, cat_inv, Bool.false_eq_true, false_and, false_or]
  | star a iha => rw [star_inv, star_cons, ← cat_congr iha fun _ => star_inv, Re.deriv, cat_inv]

theorem derivs_iff (r : Re) (u w : List Name) :
    ReLang (r.derivs u) w ↔ ReLang r (u ++ w) := by
  induction u generalizing r with
  | nil => rfl
  | cons x u ih => simp [Re.derivs, ih, deriv_iff_cons]

theorem matches_iff (r : Re) (w : List Name) : r.matches w = true ↔ ReLang r w := by
  rw [Re.matches, nullable_iff, derivs_iff, List.append_nil]

theorem lang_leaf {n : Name} {w : List Name} : CM.Lang (.leaf n) w ↔ w = [n] :=
  ⟨fun h => by cases h; rfl, by rintro rfl; exact .leaf n⟩

theorem lang_seq {a b : CM} {w : List Name} : CM.Lang (.seq a b) w ↔ Cat (CM.Lang a) (CM.Lang b) w :=
  ⟨fun h => by cases h with | seq h1 h2 => exact ⟨_, _, rfl, h1, h2⟩, by rintro ⟨_, _, rfl, h1, h2⟩; exact .seq h1 h2⟩

theorem lang_choice {a b : CM} {w : List Name} : CM.Lang (.choice a b) w ↔ CM.Lang a w ∨ CM.Lang b w :=
  ⟨fun h => by cases h with | choiceL _ h => exact .inl h | choiceR _ h => exact .inr h,
   fun h => h.elim (.choiceL _) (.choiceR _)⟩

theorem lang_opt {a : CM} {w : List Name} : CM.Lang (.opt a) w ↔ w = [] ∨ CM.Lang a w :=
  ⟨fun h => by cases h with | optNone => exact .inl rfl | optSome h => exact .inr h,
   fun h => h.elim (fun e => e ▸ .optNone a) .optSome⟩

theorem lang_star {a : CM} {w : List Name} : CM.Lang (.star a) w ↔ Rep 0 none (CM.Lang a) w := by
  constructor
  · intro h
    generalize hc : CM.star a = c at h
    induction h with
    | starNil => exact star_nil
    | starCons h1 _ _ ih => cases hc; exact star_append h1 (ih rfl)
    | _ => cases hc
  · exact star_elim (.starNil a) fun _ _ => .starCons

theorem lang_plus {a : CM} {w : List Name} : CM.Lang (.plus a) w ↔ Rep 1 none (CM.Lang a) w := by
  rw [plus_iff]
  constructor
  · intro h
    generalize hc : CM.plus a = c at h
    induction h with
    | plusOne h1 => cases hc; exact ⟨_, [], (List.append_nil _).symm, h1, star_nil⟩
    | plusCons h1 _ _ ih =>
      cases hc
      obtain ⟨u, v, rfl, hu, hv⟩ := ih rfl
      exact ⟨_, _, rfl, h1, star_append hu hv⟩
    | _ => cases hc
  · rintro ⟨u, v, rfl, hu, hv⟩
    -- `star_elim` with the strengthened predicate `S v`: every word of `a` put in front of `v` gives a word of `a+`
    exact star_elim (S := fun v => ∀ u, CM.Lang a u → CM.Lang (.plus a) (u ++ v))
      (fun u hu => by simpa using CM.Lang.plusOne hu) (fun u' _ hu' ih u hu => .plusCons hu (ih u' hu')) hv u hu

theorem cm_toRe_iff (c : CM) (w : List Name) : ReLang c.toRe w ↔ CM.Lang c w := by
  induction c generalizing w with
  | leaf n => rw [CM.toRe, sym_inv, lang_leaf]
  | seq a b iha ihb => rw [CM.toRe, cat_inv, lang_seq]; exact cat_congr iha ihb w
  | choice a b iha ihb => rw [CM.toRe, alt_inv, lang_choice, iha, ihb]
  | opt a iha => rw [CM.toRe, alt_inv, eps_inv, lang_opt, iha]
  | star a iha => rw [CM.toRe, star_inv, lang_star]; exact rep_congr _ _ iha w
  | plus a iha =>
    rw [CM.toRe, cat_inv, lang_plus, plus_iff]
    exact cat_congr iha (fun _ => star_inv.trans (rep_congr _ _ iha _)) w

theorem altOfNames_iff (ns : List Name) (w : List Name) :
    ReLang (altOfNames ns) w ↔ ∃ n, n ∈ ns ∧ w = [n] := by
  induction ns with
  | nil => simp [altOfNames, zero_inv]
  | cons n ns ih => simp [altOfNames, alt_inv, sym_inv, ih]

theorem lang_empty {w : List Name} : Lang .empty w ↔ w = [] :=
  ⟨fun h => by cases h; rfl, fun h => h ▸ .empty⟩

theorem lang_mixed {ns w : List Name} : Lang (.mixed ns) w ↔ ∀ x, x ∈ w → x ∈ ns :=
  ⟨fun h => by cases h with | mixed h => exact h, .mixed⟩

theorem lang_children {c : CM} {w : List Name} : Lang (.children c) w ↔ CM.Lang c w :=
  ⟨fun h => by cases h with | children h => exact h, .children⟩

theorem spec_toRe_iff (s : Spec) (w : List Name) : ReLang s.toRe w ↔ Lang s w := by
  cases s with
  | empty => rw [Spec.toRe, eps_inv, lang_empty]
  | any =>
    rw [Spec.toRe, star_inv, star_syms (fun _ => True) (by simp [anysym_inv])]
    exact ⟨fun _ => .any w, fun _ _ _ => trivial⟩
  | mixed ns => rw [Spec.toRe, star_inv, star_syms (· ∈ ns) (altOfNames_iff ns), lang_mixed]
  | children c => rw [Spec.toRe, cm_toRe_iff, lang_children]

end XV.Lemmas.ContentModel
