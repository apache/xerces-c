/-
C08 — lemmas about `XV.Model.ParticleDfa`.  First what its tree functions compute (namespace `XV.Lemmas.ParticleCount`,
which the ParticleCount* files continue): `toNode` yields the tree of the skeleton `sk`, `elemOccurenceMap` holds the
range table `rngOf` of the leaf ids.  Then the case without `Loop` node: `fCountingStates` is never allocated,
`handleRepetitions` is the identity, and the model coincides with the C07 DFA model (`counting_reduces`).
-/
import XV.Model.ParticleDfa
import XV.Lemmas.ParticleExpand
namespace XV.Lemmas.ParticleCount
open XV.Model.Particle XV.Model.ParticleDfa XV.Lemmas.ParticleExpand
open XV.Spec.ContentModel (CM)

/-- the skeleton: what `buildSyntaxTree` sees (`toNode x = nodeOfCM (sk x)`); for a tree without `Loop` node it is the
    particle of `toCM` (`sk_of_isCM`) -/
def sk : XNode Nat → CM
  | .leaf a => .leaf a
  | .unary .ZeroOrOne x => .opt (sk x)
  | .unary .ZeroOrMore x => .star (sk x)
  | .unary .OneOrMore x => .plus (sk x)
  | .bin .Choice x y => .choice (sk x) (sk y)
  | .bin _ x y => .seq (sk x) (sk y)
  | .loopRep .ZeroOrOne _ _ x => .opt (sk x)
  | .loopRep .ZeroOrMore _ _ x => .star (sk x)
  | .loopRep .OneOrMore _ _ x => .plus (sk x)

theorem toNode_sk (x : XNode Nat) : toNode x = XV.Model.ContentModel.nodeOfCM (sk x) := by
  fun_induction sk x <;> simp [toNode, XV.Model.ContentModel.nodeOfCM, *]

theorem sk_of_isCM {x : XNode Nat} {c : CM} (h : IsCM x c) : sk x = c := by
  induction h with
  | leaf a => rfl
  | unary t _ ih => cases t <;> simp [sk, ih]
  | seq _ _ ih1 ih2 => simp [sk, ih1, ih2]
  | choice _ _ ih1 ih2 => simp [sk, ih1, ih2]

/-- occurrence range of the `Loop` leaf with a given id, if there is one -/
abbrev Rng := Nat → Option (Nat × Option Nat)

/-- the occurrence range `elemOccurenceMap` records for the element-map entry of leaf id `a` -/
def rngOf (infos : List (Nat × Option (Nat × Option Nat))) : Rng := fun a =>
  (infos.find? (fun i => i.1 == a)).bind (·.2)

theorem rngOf_mem {infos : List (Nat × Option (Nat × Option Nat))} (hn : (infos.map (·.1)).Nodup)
    {i : Nat × Option (Nat × Option Nat)} (hi : i ∈ infos) : rngOf infos i.1 = i.2 := by
  induction infos with
  | nil => cases hi
  | cons j rest ih =>
    rw [List.map_cons, List.nodup_cons] at hn
    rw [rngOf, List.find?_cons]
    rcases List.mem_cons.1 hi with rfl | hi'
    · rw [beq_self_eq_true]; rfl
    · rw [beq_false_of_ne fun (e : j.1 = i.1) => hn.1 (e ▸ List.mem_map_of_mem hi')]
      exact ih hn.2 hi'

theorem elemOccurrence_eq (infos : List (Nat × Option (Nat × Option Nat))) (em : List (Option Nat)) :
    elemOccurrence infos em = em.mapIdx fun j e => (e.bind (rngOf infos)).map fun m => Occ.mk m.1 m.2 j := by
  refine congrArg (fun f => em.mapIdx f) (funext fun j => funext fun e => ?_)
  cases e with
  | none => rfl
  | some a =>
    show (match infos.find? (fun i => i.1 == a) with | some (_, some (mn, mx)) => some (Occ.mk mn mx j) | _ => none) = _
    rw [Option.bind_some, rngOf]
    cases infos.find? (fun i => i.1 == a) with
    | none => rfl
    | some i =>
      obtain ⟨b, rg⟩ := i
      cases rg <;> rfl

theorem elemOccurrence_getD (infos : List (Nat × Option (Nat × Option Nat))) (em : List (Option Nat)) (j : Nat) :
    (elemOccurrence infos em).getD j none = (em[j]?.join.bind (rngOf infos)).map fun m => Occ.mk m.1 m.2 j := by
  rw [elemOccurrence_eq, List.getD_eq_getElem?_getD, List.getElem?_mapIdx]
  cases em[j]? <;> rfl

/-- `fCountingStates` is allocated iff some element-map entry was created by a repeating leaf -/
theorem elemOccurrence_any (infos : List (Nat × Option (Nat × Option Nat))) (em : List (Option Nat)) :
    (elemOccurrence infos em).any Option.isSome = false ↔ ∀ a, some a ∈ em → rngOf infos a = none := by
  rw [elemOccurrence_eq, List.any_eq_false]
  constructor
  · intro h a ha
    obtain ⟨j, hj, e⟩ := List.mem_iff_getElem.1 ha
    simpa [e] using h _ (List.mem_mapIdx.2 ⟨j, hj, rfl⟩)
  · intro h o ho
    obtain ⟨j, hj, rfl⟩ := List.mem_mapIdx.1 ho
    cases e : em[j] with
    | none => exact nofun
    | some a => rw [Option.bind_some, h a (e ▸ List.getElem_mem hj)]; exact nofun

end XV.Lemmas.ParticleCount

namespace XV.Lemmas.ParticleDfa
open XV.Model.Particle XV.Model.ParticleDfa XV.Lemmas.ParticleExpand XV.Lemmas.ParticleCount
open XV.Model.ContentModel (lookupTrans dfaWalk dfaValidate nodeOfCM Res)
open XV.Spec.ContentModel (CM)

theorem findTransGo_eq (child : Nat) (es ts : List (Option Nat)) (idx : Nat) :
    (findTransGo (fun x a => x == a) child es ts idx 0).map (·.2) = lookupTrans es ts child := by
  induction es generalizing ts idx with
  | nil => rfl
  | cons e es ih =>
    cases ts with
    | nil => rfl
    | cons t ts =>
      simp only [findTransGo, lookupTrans, Nat.not_lt_zero, if_false]
      cases e with
      | none => exact ih ts (idx + 1)
      | some a =>
        by_cases h : child = a
        · subst h
          cases t with
          | none => simpa using ih ts (idx + 1)
          | some next => simp
        · simpa [h, Ne.symm h] using ih ts (idx + 1)

theorem walk_eq (c : CDFA) (hc : c.counting = none) (w : List Nat) (st loop idx : Nat) :
    walk c (fun x a => x == a) w st loop idx = dfaWalk c.dfa w st idx := by
  induction w generalizing st loop idx with
  | nil =>
    rw [walk, dfaWalk, hc]
    cases c.dfa.finalFlags.getD st false <;> rfl
  | cons x w ih =>
    rw [walk, dfaWalk, ← findTransGo_eq x c.dfa.elemMap _ 0, findTrans]
    cases findTransGo (fun x a => x == a) x c.dfa.elemMap (c.dfa.transTable.getD st []) 0 0 with
    | none => rfl
    | some r => simp only [handleRepetitions, hc, Option.map_some]; exact ih r.2 0 (idx + 1)

theorem validate_eq (c : CDFA) (hc : c.counting = none) (w : List Nat) :
    validate c (fun x a => x == a) w = dfaValidate c.dfa w := by
  cases w with
  | nil => rfl
  | cons x w => exact walk_eq c hc (x :: w) 0 0 0

theorem noLoop_of_isCM {x : XNode Nat} {c : CM} (h : IsCM x c) : ∀ i, i ∈ leafInfos x → i.2 = none := by
  induction h with
  | leaf a => simp [leafInfos]
  | unary t _ ih => exact ih
  | seq _ _ ih1 ih2 => exact fun i hi => (List.mem_append.1 hi).elim (ih1 i) (ih2 i)
  | choice _ _ ih1 ih2 => exact fun i hi => (List.mem_append.1 hi).elim (ih1 i) (ih2 i)

theorem rngOf_isCM {x : XNode Nat} {c : CM} (h : IsCM x c) (a : Nat) : rngOf (leafInfos x) a = none := by
  rw [rngOf]
  cases hf : (leafInfos x).find? (fun i => i.1 == a) with
  | none => rfl
  | some i => exact noLoop_of_isCM h i (List.mem_of_find?_eq_some hf)

/-- without `Loop` nodes the counting model IS the C07 DFA model -/
theorem counting_reduces (s : SNode Nat) (c : CM) (h : toCM (makeTree s) = some c) (w : List Nat) :
    validateTree s w = (XV.Model.ContentModel.Model.dfa (nodeOfCM c)).validate w := by
  have hc := (toCM_iff _ c).1 h
  rw [validateTree, buildCDFA, toNode_sk, sk_of_isCM hc, XV.Model.ContentModel.Model.validate]
  cases XV.Model.ContentModel.buildDFA (nodeOfCM c) with
  | none => rfl
  | some d =>
    simp only [(elemOccurrence_any _ _).2 fun a _ => rngOf_isCM hc a, Bool.false_eq_true, if_false]
    exact validate_eq ⟨d, none⟩ rfl w

end XV.Lemmas.ParticleDfa
