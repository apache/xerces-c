/-
The content operations of a range (C14): the traversal of cloneContents only allocates, writes the data of new nodes and links new
nodes under new nodes.  So every store it passes through extends the one it started from (`Ext`), and the nodes it collects for the
fragment are new (`CloneInv`); `XV.Lemmas.ViewsMain.clone_pure` is read off that.
-/
import XV.Lemmas.Views
namespace XV.Lemmas.ViewsContent
open XV.Model.Dom XV.Spec.Dom XV.Model.Views XV.Spec.Views XV.Lemmas.Dom XV.Lemmas.Views

def Ext (s0 s' : Store) : Prop := s0.size ≤ s'.size ∧ ∀ i, i < s0.size → s'.get i = s0.get i

theorem ext_refl (s : Store) : Ext s s := ⟨Nat.le_refl _, fun _ _ => rfl⟩

theorem ext_trans {a b c : Store} (h1 : Ext a b) (h2 : Ext b c) : Ext a c :=
  ⟨Nat.le_trans h1.1 h2.1, fun i hi => (h2.2 i (Nat.lt_of_lt_of_le hi h1.1)).trans (h1.2 i hi)⟩

theorem ext_alloc (s : Store) (r : NodeRec) : Ext s (s.alloc r).1 :=
  ⟨by rw [size_alloc]; omega, fun i hi => by rw [get_alloc, if_neg (Nat.ne_of_lt hi)]⟩

theorem ext_allocMany (s : Store) (rs : List NodeRec) : Ext s (s.allocMany rs) :=
  ⟨by rw [size_allocMany]; omega, fun i hi => by rw [get_allocMany, if_pos hi]⟩

theorem ext_mapNodes {s0 s : Store} (h : Ext s0 s) (f : NodeId → NodeRec → Option NodeRec)
    (hf : ∀ i r, s0.get i = some r → f i r = some r) : Ext s0 (s.mapNodes f) := by
  refine ⟨by rw [size_mapNodes]; exact h.1, fun i hi => ?_⟩
  rw [get_mapNodes, h.2 i hi]
  cases hg : s0.get i with
  | none => rfl
  | some r => exact hf i r hg

theorem ext_setDataOf_new {s0 s : Store} (h : Ext s0 s) (c : NodeId) (hc : s0.size ≤ c) (d : List Nat) :
    Ext s0 (setDataOf s c d) :=
  ext_mapNodes h _ fun i r hg => by rw [if_neg (Nat.ne_of_lt (Nat.lt_of_lt_of_le (lt_size_of_get s0 i r hg) hc))]

/-- linking new nodes under a new node does not touch the old ones (whose children are old nodes) -/
theorem ext_appendAll_new {s0 s : Store} (hwf : WF s0) (h : Ext s0 s) (c : NodeId) (hc : s0.size ≤ c)
    (ms : List NodeId) (hms : ∀ m, m ∈ ms → s0.size ≤ m) : Ext s0 (appendAll s c ms) :=
  ext_mapNodes h _ fun i r hg => by
    have hold : ∀ x rx, s0.get x = some rx → ms.contains x = false := fun x rx hx =>
      Bool.eq_false_iff.mpr fun hb =>
        Nat.lt_irrefl _ (Nat.lt_of_lt_of_le (lt_size_of_get s0 x rx hx) (hms x (List.contains_iff_mem.mp hb)))
    have hkids : r.children.filter (fun x => !ms.contains x) = r.children :=
      List.filter_eq_self.mpr fun a ha => by
        obtain ⟨ra, hra, _⟩ := hwf.childParent i r a hg ha
        rw [hold a ra hra]; rfl
    simp only [hkids, hold i r hg, if_neg (Nat.ne_of_lt (Nat.lt_of_lt_of_le (lt_size_of_get s0 i r hg) hc))]
    rfl

theorem cloneOf_ext {s0 s : Store} (h : Ext s0 s) (n : NodeId) (deep : Bool) :
    Ext s0 (cloneOf s n deep).1 ∧ ∀ c, (cloneOf s n deep).2 = some c → s0.size ≤ c := by
  unfold cloneOf
  cases s.get n with
  | none => exact ⟨h, nofun⟩
  | some rn =>
    refine ⟨ext_trans h (ext_allocMany s _), fun c hc => ?_⟩
    -- `cloneInto` allocates and answers `cloneId s.size _ n`, which is `s.size + _`
    cases hc
    exact Nat.le_trans h.1 (Nat.le_add_right _ _)

def CloneInv (s0 : Store) (acc : Sel) : Prop := Ext s0 acc.store ∧ ∀ t, t ∈ acc.tops → s0.size ≤ t

theorem selFull_clone_inv {s0 : Store} (acc : Sel) (k : NodeId) (h : CloneInv s0 acc) :
    CloneInv s0 (selFull .clone acc k) :=
  have ⟨he, hc⟩ := cloneOf_ext h.1 k true
  ⟨he, List.forall_mem_append.mpr ⟨h.2, fun t ht => hc t (Option.mem_toList.mp ht)⟩⟩

theorem selText_clone_inv {s0 : Store} (acc : Sel) (k a b : Nat) (h : CloneInv s0 acc) :
    CloneInv s0 (selText .clone acc k a b) := by
  unfold selText
  simp only
  obtain ⟨he, hc⟩ := cloneOf_ext h.1 k false
  cases hcl : (cloneOf acc.store k false).2 with
  | none => exact ⟨he, h.2⟩
  | some c =>
    exact ⟨ext_setDataOf_new he c (hc c hcl) _,
      List.forall_mem_append.mpr ⟨h.2, List.forall_mem_singleton.mpr (hc c hcl)⟩⟩

theorem selContent_clone_inv {s0 : Store} (hwf : WF s0) (f : Nat) (acc : Sel) (n : NodeId)
    (lo hi : Option (NodeId × Nat)) (h : CloneInv s0 acc) : CloneInv s0 (selContent .clone f acc n lo hi) := by
  fun_induction selContent .clone f acc n lo hi with
  | case1 => exact h
  | case2 f acc n lo hi s i0 lo0 _ i1 hi1 _ part last ih =>
    refine List.foldlRecOn (motive := CloneInv s0) _ _ h fun acc' hacc kj _ => ?_
    obtain ⟨k, j⟩ := kj
    have hin := ih acc' k j ⟨hacc.1, nofun⟩
    simp only
    generalize selContent .clone f _ k _ _ = inner at hin ⊢
    split
    · exact selFull_clone_inv acc' k hacc
    · split
      · exact selText_clone_inv acc' k _ _ hacc
      · -- a partially selected node: copy of the node with the copies of the selected part of its content
        obtain ⟨he, hc⟩ := cloneOf_ext hin.1 k false
        cases hcl : (cloneOf inner.store k false).2 with
        | none => exact ⟨he, hacc.2⟩
        | some c =>
          exact ⟨ext_appendAll_new hwf he c (hc c hcl) _ hin.2,
            List.forall_mem_append.mpr ⟨hacc.2, List.forall_mem_singleton.mpr (hc c hcl)⟩⟩

theorem rangeContent_clone_inv (s : Store) (h : WF s) (r : Range) : CloneInv s (rangeContent .clone s r) := by
  have h0 : CloneInv s { store := s } := ⟨ext_refl s, nofun⟩
  unfold rangeContent
  split
  · split
    · exact h0
    · exact selText_clone_inv _ _ _ _ h0
  · exact selContent_clone_inv h _ _ _ _ _ h0

theorem wrapFragment_ext {s0 : Store} (hwf : WF s0) {sel : Sel} (h : CloneInv s0 sel) (doc : NodeId) :
    Ext s0 (wrapFragment sel.store doc sel.tops).1 ∧ s0.size ≤ (wrapFragment sel.store doc sel.tops).2 :=
  ⟨ext_appendAll_new hwf (ext_trans h.1 (ext_alloc ..)) _ h.1.1 _ h.2, h.1.1⟩

end XV.Lemmas.ViewsContent
