/-
C09, whiteSpace part: `collapseWS` is the chop loop on the replaced string without its leading and trailing spaces
(`collapseWS_eq`); the chop loop, by one induction over its two states each time, against the Spec's tokens and against
the collapsed-string predicate `isWSCollapsed`.
-/
import XV.Spec.Ws
import XV.Model.Ws
import XV.Lemmas.Trim
namespace XV.Lemmas.Ws
open XV.Spec.Ws XV.Model.Ws XV.Gen.Codec XV.Lemmas.Trim

theorem chSpace_eq : chSpace = sp := rfl

theorem beq_sp (c : Nat) : (c == chSpace) = decide (c = sp) := by
  rw [chSpace_eq]; by_cases h : c = sp <;> simp [h]

theorem replace_eq (s : List Nat) : replaceWS s = replaceSpec s := by
  unfold replaceWS replaceSpec
  congr 1; funext c
  unfold replaceCh chCR chLFc chHTab
  rw [chSpace_eq]
  by_cases h1 : c = 0xD <;> by_cases h2 : c = 0xA <;> by_cases h3 : c = 0x9 <;> simp [h1, h2, h3]

theorem replaced_id (s : List Nat) (h : isWSReplaced s = true) : replaceWS s = s := by
  unfold isWSReplaced at h
  unfold replaceWS
  induction s with
  | nil => rfl
  | cons c r ih =>
    simp only [List.all_cons, Bool.and_eq_true] at h
    simp only [List.map_cons]
    rw [ih h.2]
    have : (c == chCR || c == chLFc || c == chHTab) = false := by simpa using h.1
    rw [this]; rfl

theorem isSpaceCh_iff (c : Nat) : isSpaceCh c = true ↔ c = sp := by
  rw [isSpaceCh, beq_sp, decide_eq_true_eq]

theorem ne_sp_iff (o : Option Nat) : (∀ c, o = some c → isSpaceCh c = false) ↔ o ≠ some sp :=
  ⟨fun h e => absurd (h sp e) (by decide),
    fun h c hc => Bool.eq_false_iff.mpr fun hs => h (by rw [hc, (isSpaceCh_iff c).mp hs])⟩

theorem tokensAux_spaces (l : List Nat) (hl : ∀ c ∈ l, isSpaceCh c = true) (cur : List Nat) :
    tokensAux l cur = if cur.isEmpty then [] else [cur.reverse] := by
  induction l generalizing cur with
  | nil => rfl
  | cons c r ih =>
    have ih := ih (fun d hd => hl d (List.mem_cons_of_mem _ hd)) []
    unfold tokensAux
    rw [if_pos ((isSpaceCh_iff c).mp (hl c (by simp))), ih]
    cases cur.isEmpty <;> rfl

theorem tokensAux_trailing (l post : List Nat) (hp : ∀ c ∈ post, isSpaceCh c = true) (cur : List Nat) :
    tokensAux (l ++ post) cur = tokensAux l cur := by
  induction l generalizing cur with
  | nil => rw [List.nil_append, tokensAux_spaces post hp]; rfl
  | cons c r ih =>
    rw [List.cons_append]
    unfold tokensAux
    by_cases hc : c = sp
    · simp only [hc, if_true]; rw [ih []]
    · simp only [hc, if_false]; rw [ih (c :: cur)]

theorem tokensAux_leading (pre l : List Nat) (hp : ∀ c ∈ pre, isSpaceCh c = true) :
    tokensAux (pre ++ l) [] = tokensAux l [] := by
  induction pre with
  | nil => rfl
  | cons c r ih =>
    rw [List.cons_append, tokensAux, if_pos ((isSpaceCh_iff c).mp (hp c (by simp)))]
    exact ih (fun d hd => hp d (List.mem_cons_of_mem _ hd))

theorem chop_cons_ne (c : Nat) (r : List Nat) (w : Bool) (hc : c ≠ sp) : chop (c :: r) w = c :: chop r false := by
  have e : (c == chSpace) = false := by rw [beq_sp]; simpa using hc
  simp only [chop, e, Bool.false_eq_true, if_false]

theorem chop_sp (r : List Nat) : chop (sp :: r) false = sp :: chop r true ∧ chop (sp :: r) true = chop r true :=
  ⟨rfl, rfl⟩

/-- `chop` is in its after-space state exactly while `tokensAux` holds no unit of a token;
that a token is left serves the induction: the #x20 `chop` writes for a run is the separator before the next one. -/
theorem chop_tokens (l : List Nat) (hl : l.getLast? ≠ some sp) (cur : List Nat) :
    joinSp (tokensAux l cur) = cur.reverse ++ chop l cur.isEmpty ∧ (tokensAux l cur = [] → l = [] ∧ cur = []) := by
  induction l generalizing cur with
  | nil => cases cur <;> simp [tokensAux, joinSp, chop]
  | cons c r ih =>
    have ih := ih (getLast?_tail hl)
    by_cases hc : c = sp
    · subst hc
      obtain ⟨j, ne⟩ := ih []
      cases ht : tokensAux r [] with
      | nil => rw [(ne ht).1] at hl; simp at hl
      | cons u rest =>
        rw [ht] at j
        cases cur with
        | nil => simp [tokensAux, ht, j, (chop_sp r).2]
        | cons d cur => simp [tokensAux, ht, joinSp, j, (chop_sp r).1]
    · obtain ⟨j, ne⟩ := ih (c :: cur)
      simp only [tokensAux, hc, if_false, chop_cons_ne c r _ hc]
      exact ⟨by rw [j]; simp, fun h => by cases (ne h).2⟩

theorem body_tokens (body : List Nat) (hh : body.head? ≠ some sp) (hl : body.getLast? ≠ some sp) :
    joinSp (tokensAux body []) = chop body false := by
  rw [(chop_tokens body hl []).1]
  cases body with
  | nil => rfl
  | cons c r =>
    have hc : c ≠ sp := fun e => hh (by rw [e]; rfl)
    rw [chop_cons_ne c r false hc]; exact chop_cons_ne c r true hc

theorem noDouble_chop (l : List Nat) (w : Bool) (h : noDoubleSpace l w = true) : chop l w = l := by
  induction l generalizing w with
  | nil => rfl
  | cons c r ih =>
    unfold noDoubleSpace at h
    unfold chop
    by_cases hc : (c == chSpace) = true
    · rw [if_pos hc] at h ⊢
      cases w with
      | true => simp at h
      | false =>
        simp only [Bool.false_eq_true, if_false] at h
        simp only [Bool.not_false, if_true]
        rw [ih true h]
        rw [beq_iff_eq] at hc; rw [hc]
    · rw [if_neg hc] at h ⊢
      rw [ih false h]

/-- the test `isWSReplaced` makes of each unit -/
def okCh (c : Nat) : Bool := !(c == chCR || c == chLFc || c == chHTab)

theorem isWSReplaced_iff (l : List Nat) : isWSReplaced l = l.all okCh := rfl

theorem replaceSpec_ok (s : List Nat) : (replaceSpec s).all okCh = true := by
  unfold replaceSpec
  rw [List.all_map]
  apply List.all_eq_true.mpr
  intro c _
  unfold Function.comp replaceCh okCh chCR chLFc chHTab sp
  by_cases h1 : c = 0x9 <;> by_cases h2 : c = 0xA <;> by_cases h3 : c = 0xD <;> simp [h1, h2, h3]

theorem isWSCollapsed_iff (b : List Nat) : isWSCollapsed b = true ↔
    b.all okCh = true ∧ b.head? ≠ some sp ∧ b.getLast? ≠ some sp ∧ noDoubleSpace b false = true := by
  cases b with
  | nil => decide
  | cons c r =>
    unfold isWSCollapsed
    rw [if_neg (by simp), isWSReplaced_iff, chSpace_eq]
    cases (c :: r).all okCh <;> cases h2 : ((c :: r).head? == some sp) <;> cases h3 : ((c :: r).getLast? == some sp) <;>
      simp_all

theorem replace_guard_eq (s : List Nat) : (if !isWSReplaced s then replaceWS s else s) = replaceSpec s := by
  cases h : isWSReplaced s with
  | false => simp [replace_eq]
  | true => simp only [Bool.not_true, Bool.false_eq_true, if_false]; rw [← replace_eq, replaced_id s h]

/-- Both tests of `collapseWS` only save work: a replaced string is left as it is by `replaceWS`, a collapsed one by
`chop`, and the empty strings come out of `chop` empty. -/
theorem collapseWS_eq (s : List Nat) : collapseWS s = chop (trim isSpaceCh (replaceSpec s)) false := by
  unfold collapseWS
  by_cases hs : s = []
  · subst hs; rfl
  · rw [if_neg (by simpa using hs)]
    simp only
    rw [replace_guard_eq]
    show (if _ then _ else if _ then chop (trim isSpaceCh (replaceSpec s)) false else trim isSpaceCh (replaceSpec s)) = _
    unfold trim
    split
    · rename_i he; rw [List.isEmpty_iff.mp he]; rfl
    · cases hcol : isWSCollapsed ((((replaceSpec s).dropWhile isSpaceCh).reverse.dropWhile isSpaceCh).reverse) with
      | false => rfl
      | true =>
        exact (noDouble_chop _ false ((isWSCollapsed_iff _).mp hcol).2.2.2).symm

theorem chop_head (l : List Nat) : (chop l false).head? = l.head? := by
  cases l with
  | nil => rfl
  | cons c r =>
    by_cases hc : c = sp
    · rw [hc, (chop_sp r).1]; rfl
    · rw [chop_cons_ne c r false hc]; rfl

/-- What `isWSCollapsed` asks of the output of `chop` beyond its first unit, in either state of the loop. -/
theorem chop_props (l : List Nat) (hl : l.getLast? ≠ some sp) (hok : l.all okCh = true) (w : Bool) :
    (chop l w).all okCh = true ∧ noDoubleSpace (chop l w) w = true ∧ (chop l w).getLast? = l.getLast? := by
  induction l generalizing w with
  | nil => exact ⟨rfl, rfl, rfl⟩
  | cons c r ih =>
    rw [List.all_cons, Bool.and_eq_true] at hok
    have ih := ih (getLast?_tail hl) hok.2
    by_cases hc : c = sp
    · subst hc
      obtain ⟨a1, a2, a3⟩ := ih true
      cases w with
      | true =>
        rw [(chop_sp r).2]
        cases r with
        | nil => simp at hl
        | cons d r => exact ⟨a1, a2, a3⟩
      | false =>
        rw [(chop_sp r).1, List.all_cons, a1, List.getLast?_cons, List.getLast?_cons, a3]
        refine ⟨by rw [hok.1]; rfl, ?_, rfl⟩
        simp only [noDoubleSpace, Bool.false_eq_true, if_false]; exact a2
    · obtain ⟨a1, a2, a3⟩ := ih false
      have e : (c == chSpace) = false := by rw [beq_sp]; simpa using hc
      rw [chop_cons_ne c r w hc, List.all_cons, a1, List.getLast?_cons, List.getLast?_cons, a3]
      refine ⟨by rw [hok.1]; rfl, ?_, rfl⟩
      simp only [noDoubleSpace, e, Bool.false_eq_true, if_false]; exact a2

theorem collapse_collapsed (s : List Nat) : isWSCollapsed (collapseWS s) = true := by
  obtain ⟨pre, post, hs, _, _, hh, hl⟩ := trim_split isSpaceCh (replaceSpec s)
  rw [ne_sp_iff] at hh hl
  have hok := replaceSpec_ok s
  rw [hs, List.all_append, List.all_append, Bool.and_eq_true, Bool.and_eq_true] at hok
  obtain ⟨a1, a2, a3⟩ := chop_props _ hl hok.2.1 false
  rw [collapseWS_eq, isWSCollapsed_iff, chop_head, a3]
  exact ⟨a1, hh, hl, a2⟩

theorem collapse_fix (o : List Nat) (h : isWSCollapsed o = true) : collapseWS o = o := by
  obtain ⟨h1, h2, h3, h4⟩ := (isWSCollapsed_iff o).mp h
  rw [collapseWS_eq, ← replace_eq, replaced_id o h1, trim_id isSpaceCh o ((ne_sp_iff _).mpr h2) ((ne_sp_iff _).mpr h3),
    noDouble_chop o false h4]

end XV.Lemmas.Ws
