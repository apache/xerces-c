/- For C12: the pieces the repaired CDATA splitter (`Model.Cdata.splitFixed`) cuts a text into give the text back, and none
contains the terminator `]]>` (`hasEnd`; 93 is `]`, 62 is `>`).  A piece whose units the transcoder takes is written as one
section. -/
import XV.Model.Cdata
import XV.Spec.Unescape
namespace XV.Lemmas.Cdata
open XV.Model.Cdata XV.Gen.Escapes
open XV.Spec.Unescape (containsSub startsWith)

def hasEnd (l : List Nat) : Bool := containsSub [93, 93, 62] l

theorem hasEnd_cons (x : Nat) (l : List Nat) : hasEnd (x :: l) = (startsWith [93, 93, 62] (x :: l) || hasEnd l) := rfl

theorem startsWith_cdataEnd (a b c : Nat) (t : List Nat) : startsWith [93, 93, 62] (a :: b :: c :: t) = (a == 93 && b == 93 && c == 62) := by
  simp only [startsWith, List.isPrefixOf, Bool.and_true, Bool.and_assoc, BEq.comm (a := (93 : Nat)), BEq.comm (a := (62 : Nat))]

theorem hasEnd_snoc (l : List Nat) (c : Nat) : hasEnd (l ++ [c]) = (hasEnd l || (c == 62 && endsWith2 l)) := by
  fun_induction endsWith2 l with
  | case1 => simp [hasEnd, containsSub, startsWith, List.isPrefixOf]
  | case2 a => simp [hasEnd, containsSub, startsWith, List.isPrefixOf]
  | case3 a b =>
    simp only [List.cons_append, List.nil_append, hasEnd_cons, startsWith_cdataEnd]
    simp [hasEnd, containsSub, startsWith, List.isPrefixOf, Bool.and_comm]
  | case4 a b d t ih =>
    simp only [List.cons_append] at ih ⊢
    rw [hasEnd_cons, ih, hasEnd_cons a, startsWith_cdataEnd, startsWith_cdataEnd, Bool.or_assoc]

theorem splitFixed_flatten (v cur : List Nat) : (splitFixed v cur).flatten = cur ++ v := by
  fun_induction splitFixed v cur with
  | case1 cur => simp
  | case2 c t cur h ih => simp only [Bool.and_eq_true, beq_iff_eq] at h; simp [ih, h.1]
  | case3 c t cur h ih => simp [ih]

theorem splitFixed_noEnd : ∀ (v cur : List Nat), hasEnd cur = false → ∀ p ∈ splitFixed v cur, hasEnd p = false := by
  intro v cur
  fun_induction splitFixed v cur with
  | case1 cur => intro h p hp; cases List.mem_singleton.1 hp; exact h
  | case2 c t cur _ ih => exact fun h p hp => (List.mem_cons.1 hp).elim (· ▸ h) (ih (by decide) p)
  | case3 c t cur hc ih => exact fun h => ih (by rw [hasEnd_snoc, h]; simpa using hc)

theorem unrepLoop_rep (cd : XV.Model.Formatter.Coder) : ∀ (piece run : List Nat), (∀ u ∈ piece, cd.rep u = true) →
    unrepLoop cd piece run = flushCdata cd (run ++ piece)
  | [], run, _ => by rw [unrepLoop, List.append_nil]
  | c :: t, run, h => by
    rw [unrepLoop, if_pos (h c (.head _)), unrepLoop_rep cd t _ fun u hu => h u (.tail _ hu), List.append_assoc]; rfl

end XV.Lemmas.Cdata
