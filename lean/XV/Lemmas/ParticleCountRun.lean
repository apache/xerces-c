/-
C08 — counting states: the table walk with loop counter (`validateContent` + `handleRepetitions`) accepts exactly the
children the plain table walk accepts and whose blocks of `Loop` leaves respect the occurrence ranges (`chk`):
`cwalk_iff`, a lock-step induction.  State and counter of the walk stand for a state of `chk`: the previous child is the
`Loop` leaf of the current counting state (`blockOf`), the block length is the counter; outside a counting state there
is no previous child.  This forgets a previous child without a range, which `chk` does not look at (`chk_unranged`).
And where a child without a range has entered a counting state all the same (its follow set is that of a later `Loop`
leaf, which then has minOccurs = 0) the counter is 0, and an empty block of such a leaf is no block (`chk_zero`).
Both happen on entering a state (`enter_chk`); the step itself (`handleRepetitions_spec`) sees a block grow or end.
-/
import XV.Lemmas.ParticleCountCs
import XV.Lemmas.ParticleCountSpec
namespace XV.Lemmas.ParticleCount
open XV.Spec.ContentModel XV.Model.ContentModel XV.Lemmas.DfaRun XV.Lemmas.DfaTable XV.Model.ParticleDfa
open XV.Model.Particle (occOk)
open XV.Spec.Particle (rangeOk)

section
variable {L : Nat} {N : List Nat} {fl states : List StateSet} {r : Rng} {d : DFA} {cs : List (Option Occ)}

/-- the previous child as the block check is to see it in state `cur`: the `Loop` leaf of a counting state -/
def blockOf (N : List Nat) (cs : List (Option Occ)) (cur : Nat) : Option Nat :=
  (cs.getD cur none).bind fun o => N[o.elemIndex]?

theorem blockOf_zero (C : Ctx L N fl states r d cs) : blockOf N cs 0 = none := by
  rw [blockOf, C.cs_zero]; rfl

theorem cs_pos (C : Ctx L N fl states r d cs) {cur : Nat} {o : Occ} (hcs : cs.getD cur none = some o) : 1 ≤ cur :=
  Nat.pos_of_ne_zero fun h => by rw [h, C.cs_zero] at hcs; cases hcs

/-- entering a state by child `y` (position `q`) starts a block of `y`, whatever the counter was -/
theorem enter_chk (C : Ctx L N fl states r d cs) {next q y : Nat} (loop : Nat) (hn : 1 ≤ next)
    (hS : states[next]? = some (fl.getD q 0)) (hy : N[q]? = some y) (w : List Nat) :
    chk r (blockOf N cs next) (enterLoop cs next q loop) w = chk r (some y) 1 w := by
  unfold blockOf enterLoop
  cases hry : r y with
  | some mm =>
    -- a `Loop` leaf follows itself: the state is a counting state of its own
    rw [(C.cs_iff hn hS ⟨mm.1, mm.2, q⟩).2 ⟨y, hy, hry, (C.loopLeaf q y mm.1 mm.2 hy hry).1, rfl⟩]
    simp [hy]
  | none =>
    rw [chk_unranged r hry]
    cases hcs : cs.getD next none with
    | none => cases w <;> rfl
    | some o =>
      -- the counting state of a later `Loop` leaf `a` with the same follow set: not a `+` leaf of the skeleton
      obtain ⟨a, ha, hra, b1, b2⟩ := (C.cs_iff hn hS o).1 hcs
      have hne : q ≠ o.elemIndex := by
        rintro rfl
        cases ha.symm.trans hy
        cases hry.symm.trans hra
      obtain ⟨_, hocc, hsep⟩ := C.loopLeaf o.elemIndex a o.min o.max ha hra
      have hmin : o.min = 0 :=
        Nat.eq_zero_of_not_pos fun hm => hsep hm q (Nat.lt_of_le_of_ne (C.forward q _ b1) hne) b2.symm
      rw [hmin] at hra hocc
      simp only [Option.bind_some, ha, if_neg hne]
      exact chk_zero r hra hocc w

theorem endOk_eq (C : Ctx L N fl states r d cs) {cur : Nat} (hcur : cur < states.length) (loop : Nat) :
    endOk r (blockOf N cs cur) loop = match cs.getD cur none with
      | some o => decide (o.min ≤ loop)
      | none => true := by
  unfold blockOf
  cases hcs : cs.getD cur none with
  | none => rfl
  | some o =>
    obtain ⟨a, ha, hra, _⟩ := (C.cs_iff (cs_pos C hcs) (List.getElem?_eq_getElem hcur) o).1 hcs
    simp [ha, endOk, hra]

/-- one step of `handleRepetitions`: it succeeds iff the block check passes the child, and the new state and counter
    stand for the state of the block check after the child -/
theorem handleRepetitions_spec (C : Ctx L N fl states r d cs) {cur : Nat} (hcur : cur < states.length)
    (loop y e next : Nat) (hf : findTrans d (fun x a => x == a) y cur 0 = some (e, next)) :
    ∃ loop', handleRepetitions ⟨d, some cs⟩ (fun x a => x == a) y cur loop next e
          = (if localOK r (blockOf N cs cur) loop y = true then some (next, loop') else none) ∧
      next < states.length ∧
      ∀ w, chk r (blockOf N cs next) loop' w = chk r (some y) (if blockOf N cs cur = some y then loop + 1 else 1) w := by
  have hS := List.getElem?_eq_getElem hcur
  have hleave := endOk_eq C hcur loop
  obtain ⟨s1, s6, s4, s5, halt⟩ := C.find hS hf
  have hent := enter_chk C loop s4 s5 s1
  unfold handleRepetitions
  simp only
  cases hcs : cs.getD cur none with
  | none =>
    have hb : blockOf N cs cur = none := by rw [blockOf, hcs]; rfl
    rw [hb]
    exact ⟨_, rfl, lt_of_get s5, hent⟩
  | some o =>
    have hc1 := cs_pos C hcs
    obtain ⟨a, ha, hra, b1, b2⟩ := (C.cs_iff hc1 hS o).1 hcs
    have hb : blockOf N cs cur = some a := by rw [blockOf, hcs]; exact ha
    rw [hcs, hb] at hleave
    rw [hb]
    dsimp only at hleave ⊢
    by_cases hcn : cur = next
    · -- the state has one self-loop column: the child is the `Loop` leaf of the counting state
      obtain rfl : e = o.elemIndex := C.self_unique s6 (Option.some.inj ((hcn ▸ s5).symm.trans hS)) b1 b2
      cases ha.symm.trans s1
      rw [if_pos hcn, localOK, if_pos rfl, if_pos rfl, hra]
      refine ⟨loop + 1, ?_, lt_of_get s5, fun w => by rw [← hcn, hb]⟩
      cases o.max with
      | none => simp [rangeOk]
      | some m =>
        simp only [rangeOk]
        by_cases hgt : loop + 1 > m
        -- beyond `maxOccurs` the code looks for another entry that accepts the child; over pairwise different names
        -- there is none (`halt`), so the step fails as the block check does
        · simp [hgt, Nat.not_le.2 hgt, halt]
        · simp [hgt, Nat.not_lt.1 hgt]
    · -- another state: another child, or its position would be the self-loop column
      have hay : ¬ some a = some y := by
        intro h
        cases h
        cases (List.getElem?_inj (lt_of_get ha) C.nodup).1 (ha.trans s1.symm)
        exact hcn (state_index_inj C.tbl.bnd hc1 s4 (b2 ▸ hS) s5)
      rw [if_neg hcn, localOK, if_neg hay, if_neg hay, hleave]
      refine ⟨_, ?_, lt_of_get s5, hent⟩
      by_cases hlt : loop < o.min
      · rw [if_pos hlt, decide_eq_false (Nat.not_le.2 hlt)]; simp
      · rw [if_neg hlt, decide_eq_true (Nat.not_lt.1 hlt)]; simp

theorem cwalk_iff (C : Ctx L N fl states r d cs) (w : List Nat) :
    ∀ (cur loop idx : Nat), cur < states.length →
      (walk ⟨d, some cs⟩ (fun x a => x == a) w cur loop idx = .ok ↔
        dfaWalk d w cur idx = .ok ∧ chk r (blockOf N cs cur) loop w = true) := by
  induction w with
  | nil =>
    intro cur loop idx hcur
    simp only [walk, dfaWalk, chk]
    cases hfin : d.finalFlags.getD cur false with
    | false => simp
    | true =>
      simp only [Bool.not_true, Bool.false_eq_true, if_false, if_true, true_and]
      rw [endOk_eq C hcur]
      cases cs.getD cur none with
      | none => exact iff_of_true rfl rfl
      | some o =>
        by_cases hlt : loop < o.min
        · simp [hlt, Nat.not_le.2 hlt]
        · simp [hlt, Nat.not_lt.1 hlt]
  | cons y rest ih =>
    intro cur loop idx hcur
    rw [chk]
    simp only [walk, dfaWalk]
    rw [← XV.Lemmas.ParticleDfa.findTransGo_eq y d.elemMap _ 0, ← findTrans]
    cases hft : findTrans d (fun x a => x == a) y cur 0 with
    | none => simp
    | some pr =>
      obtain ⟨e, next⟩ := pr
      simp only [Option.map_some]
      obtain ⟨loop', h1, h2, h3⟩ := handleRepetitions_spec C hcur loop y e next hft
      rw [h1]
      cases hl : localOK r (blockOf N cs cur) loop y with
      | false => simp
      | true =>
        simp only [if_true, Bool.true_and]
        rw [ih next loop' (idx + 1) h2, h3]

end
end XV.Lemmas.ParticleCount
