/- For C12, whole trees: the serializer model works on UTF-16 units, C02's syntax on characters; `U` (XV.Model.TreeSyntax)
takes a string of characters to its units and `charsOf` gives it back.  A `Transparent` transcoder takes every unit of `U s`,
so markup `U s` is written as it stands and `formatBuf (U v) = U (escStr v)`; `ensureValidString` accepts `U v` for legal `v`
(a supplementary character as a pair).  Level 1 judges characters and reads back by XV.Spec.Unescape, the trees by
XV.Spec.XmlChar (`legalC`) and C02's parser.  The two meet only in the gXMLCharMask ranges (`Serializer.xmlchar_table_spec`,
`isXMLChar_literal` here): nothing relates `legalC` to `legalUnits`, or `readChars` to the parser. -/
import XV.Model.TreeSyntax
import XV.Lemmas.Serializer
import XV.Lemmas.CharTable
namespace XV.Lemmas.TreeUnits
open XV.Model.TreeSyntax XV.Model.Formatter XV.Spec.Escaping XV.Gen.Escapes XV.Lemmas.Formatter XV.Lemmas.Serializer
open XV.Spec.Xml

theorem char_range (c : Char) : c.toNat < 0xD800 ∨ (0xDFFF < c.toNat ∧ c.toNat < 0x110000) := c.valid

theorem toNat_ofNat_lt (n : Nat) (h : n < 0xD800) : (Char.ofNat n).toNat = n := by
  rw [Char.ofNat, dif_pos (Or.inl h)]
  exact UInt32.toNat_ofNatLT ..

theorem U_nil : U [] = [] := rfl
theorem U_cons (c : Char) (s : Str) : U (c :: s) = scalarUnits c.toNat ++ U s := by simp [U]
theorem U_append (a b : Str) : U (a ++ b) = U a ++ U b := by simp [U]
theorem U_snoc (s : Str) (c : Char) : U (s ++ [c]) = U s ++ scalarUnits c.toNat := by
  rw [U_append, U_cons, U_nil, List.append_nil]

theorem isHigh_iff (u : Nat) : isHigh u = true ↔ 0xD800 ≤ u ∧ u ≤ 0xDBFF := by simp [isHigh]
theorem isLow_iff (u : Nat) : isLow u = true ↔ 0xDC00 ≤ u ∧ u ≤ 0xDFFF := by simp [isLow]

theorem units_cases (c : Char) :
    (scalarUnits c.toNat = [c.toNat] ∧ c.toNat < 0x10000 ∧ isHigh c.toNat = false ∧ isLow c.toNat = false) ∨
    (∃ h l, scalarUnits c.toNat = [h, l] ∧ 0x10000 ≤ c.toNat ∧ (0xD800 ≤ h ∧ h ≤ 0xDBFF) ∧ (0xDC00 ≤ l ∧ l ≤ 0xDFFF) ∧
      XV.Spec.Unescape.scalarOfPair h l = c.toNat) := by
  have hr := char_range c
  by_cases h : c.toNat < 0x10000
  · refine .inl ⟨if_pos h, h, ?_, ?_⟩
    · rw [← Bool.not_eq_true, isHigh_iff]; omega
    · rw [← Bool.not_eq_true, isLow_iff]; omega
  · exact .inr ⟨_, _, if_neg h, by omega, by omega, by omega, by unfold XV.Spec.Unescape.scalarOfPair; omega⟩

theorem U_lt (s : Str) : ∀ u ∈ U s, u < 65536 := by
  intro u hu
  obtain ⟨c, _, hc⟩ := List.mem_flatMap.1 hu
  rcases units_cases c with ⟨h2, h1, _⟩ | ⟨h, l, h2, _, hh, hl, _⟩
  · rw [h2] at hc; exact List.mem_singleton.1 hc ▸ h1
  · rw [h2] at hc; simp only [List.mem_cons, List.not_mem_nil, or_false] at hc; omega

theorem U_isEmpty (s : Str) : (U s).isEmpty = s.isEmpty := by
  cases s with
  | nil => rfl
  | cons c t =>
    rw [U_cons]
    rcases units_cases c with ⟨h2, _⟩ | ⟨hh, l, h2, _⟩ <;> rw [h2] <;> rfl

theorem U_wf (s : Str) : wfUnits (U s) = true := by
  induction s with
  | nil => rfl
  | cons c t ih =>
    rw [U_cons]
    refine wf_append _ _ ?_ ih
    rcases units_cases c with ⟨h2, _, h3, h4⟩ | ⟨h, l, h2, _, hh, hl, _⟩
    · rw [h2, wfUnits, h3, h4]; rfl
    · rw [h2, wfUnits, if_pos ((isHigh_iff h).2 hh), (isLow_iff l).2 hl]; rfl

/-- a transcoder that takes every UTF-16 unit and gives it back: UTF-8, UTF-16 -/
structure Transparent (cd : Coder) : Prop where
  good : Good cd
  all : ∀ u, u < 65536 → cd.rep u = true ∧ cd.back u = u

theorem transparent_utf8 : Transparent utf8Coder :=
  ⟨good_utf8, fun u h => ⟨by simp [utf8Coder]; omega, rfl⟩⟩
theorem transparent_utf16 : Transparent utf16Coder := ⟨good_utf16, fun _ _ => ⟨rfl, rfl⟩⟩

theorem nameOK_U (cd : Coder) (ht : Transparent cd) (s : Str) : NameOK cd (U s) :=
  ⟨fun u hu => ht.all u (U_lt s u hu), fun _ => U_wf s⟩

theorem rawF_U (e : XV.Model.Serializer.Env) (ht : Transparent e.cd) (s : Str) :
    XV.Model.Serializer.rawF e (U s) = .ok (U s) := rawF_ok e _ (nameOK_U e.cd ht s)

theorem rawCR_U (e : XV.Model.Serializer.Env) (ht : Transparent e.cd) (s : Str) :
    XV.Model.Serializer.rawCR e (U s) = .ok (U s) := rawCR_ok e ht.good _ (U_lt s) (nameOK_U e.cd ht s)

theorem charsOf_cons_plain (u : Nat) (t : List Nat) (h : isHigh u = false) : charsOf (u :: t) = Char.ofNat u :: charsOf t := by
  cases t <;> simp [charsOf, h]

theorem charsOf_U (s : Str) : charsOf (U s) = s := by
  induction s with
  | nil => rfl
  | cons c t ih =>
    rw [U_cons]
    rcases units_cases c with ⟨h2, _, h3, _⟩ | ⟨h, l, h2, _, hh, hl, hv⟩
    · rw [h2, List.singleton_append, charsOf_cons_plain _ _ h3, ih, Char.ofNat_toNat]
    · rw [h2, List.cons_append, List.cons_append, List.nil_append, charsOf, (isHigh_iff h).2 hh, (isLow_iff l).2 hl, if_pos (by rfl), ih,
        show 0x10000 + (h - 0xD800) * 1024 + (l - 0xDC00) = c.toNat from hv, Char.ofNat_toNat]

theorem U_ascii (l : List Nat) (h : ∀ x ∈ l, 32 ≤ x ∧ x < 127) : U (asciiStr l) = l := by
  induction l with
  | nil => rfl
  | cons x t ih =>
    have hx := h x (List.mem_cons_self ..)
    rw [asciiStr, List.map_cons, U_cons, toNat_ofNat_lt x (by omega), scalarUnits, if_pos (by omega)]
    exact congrArg (x :: ·) (ih fun y hy => h y (List.mem_cons_of_mem _ hy))

theorem escPlain_U (cfg : Cfg) (esc : EscapeFlags) (v : Str) : escPlain cfg esc (U v) = U (escStr cfg esc v) := by
  rw [escPlain, U, escStr, U, List.flatMap_assoc, List.flatMap_assoc]
  refine congrArg v.flatMap (funext fun c => ?_)
  rcases units_cases c with ⟨h2, _⟩ | ⟨h, l, h2, hc, hh, hl, _⟩
  · rw [h2, List.flatMap_singleton]
    split
    · exact (U_ascii _ (refText_mem c.toNat)).symm
    · rw [List.flatMap_singleton, h2]
  · -- neither the character nor its two surrogates are in an escape row
    rw [h2, escd_high cfg esc c.toNat (by omega), if_neg Bool.false_ne_true, List.flatMap_singleton, h2, List.flatMap_cons,
      List.flatMap_singleton, escd_high cfg esc h (by omega), escd_high cfg esc l (by omega)]
    rfl

theorem formatBuf_U (cd : Coder) (ht : Transparent cd) (cfg : Cfg) (esc : EscapeFlags) (v : Str) :
    formatBuf cd cfg esc .UnRep_CharRef (U v) = .ok (U (escStr cfg esc v)) := by
  rw [formatBuf_nameOK cd ht.good cfg esc _ (U_lt v) (nameOK_U cd ht v), escPlain_U]

theorem inR_iff (c lo hi : Nat) : XV.Spec.XmlChar.inR c lo hi = true ↔ lo ≤ c ∧ c ≤ hi := by
  simp [XV.Spec.XmlChar.inR]

open XV.Lemmas.RangeExp RExp
open XV.Lemmas.CharTable (inRanges_eval)

/-- a character that may stand literally in a document, from the tables of XV.Spec.XmlChar -/
def literalE (v11 : Bool) : RExp :=
  if v11 then and (ofRanges XV.Spec.XmlChar.char11) (not (ofRanges XV.Spec.XmlChar.restricted11))
  else ofRanges XV.Spec.XmlChar.char10

theorem isLiteralChar_eval (v11 : Bool) (c : Nat) : XV.Spec.XmlChar.isLiteralChar (ver v11) c = (literalE v11).eval c := by
  cases v11
  · exact inRanges_eval _ c
  · show (XV.Spec.XmlChar.inRanges _ c && !XV.Spec.XmlChar.inRanges _ c) = _
    rw [inRanges_eval, inRanges_eval]; rfl

theorem legal_of_class (a : RExp) (h : ∀ v11, (imp a (literalE v11)).always = true) (v11 : Bool) (c : Char)
    (ha : a.eval c.toNat = true) : legalC v11 c = true := by
  rw [legalC, isLiteralChar_eval]; exact imp_of_always (h v11) _ ha

/-- on 16-bit units the generated gXMLCharMask ranges are the literal characters of the Recommendations -/
theorem isXMLChar_literal (v11 : Bool) (n : Nat) (h : n < 65536) :
    XV.Model.Serializer.isXMLChar v11 n = XV.Spec.XmlChar.isLiteralChar (ver v11) n := by
  rw [isLiteralChar_eval]
  cases v11
  · exact eq_of_beq (imp_of_always (a := lt 65536) (b := iff (ofRanges xmlChar10) (literalE false)) (by decide +kernel) n (decide_eq_true h))
  · exact eq_of_beq (imp_of_always (a := lt 65536) (b := iff (ofRanges xmlChar11) (literalE true)) (by decide +kernel) n (decide_eq_true h))

theorem ensureValid_U (v11 : Bool) (v : Str) (h : v.all (legalC v11) = true) :
    XV.Model.Serializer.ensureValidString v11 (U v) = true := by
  induction v with
  | nil => rfl
  | cons c t ih =>
    simp only [List.all_cons, Bool.and_eq_true] at h
    rw [U_cons]
    rcases units_cases c with ⟨h2, h1, _⟩ | ⟨hh, l, h2, _, h3, h4, _⟩
    · rw [h2, List.singleton_append, ensureValid_cons v11 _ _ (by rw [isXMLChar_literal v11 _ h1]; exact h.1)]
      exact ih h.2
    · -- a high surrogate is no XMLChar; it is accepted with the low surrogate that follows
      rw [h2, List.cons_append, List.cons_append, List.nil_append, XV.Model.Serializer.ensureValidString,
        isXMLChar_surr v11 hh (by omega), if_neg Bool.false_ne_true, if_pos ((isHigh_iff hh).2 h3), (isLow_iff l).2 h4, ih h.2]
      rfl

end XV.Lemmas.TreeUnits
