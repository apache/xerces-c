/-
C04: the stream, the index invariant, refreshRawBuffer, the xcodeMoreChars loop and refreshCharBuffer.

`Inv` is the index invariant: fCharIndex ≤ fCharsAvail ≤ kCharBufSize, fRawBufIndex ≤ fRawBytesAvail ≤ kRawBufSize, tied
to the live windows of the model; it also carries the budget of the loop (`fuel_ok`: enough for what is left of the
stream, measured by `mu`).  `pend r` is everything the reader has still to deliver: its character window, then the
whole-input reading (`decodeAll`) of the raw window followed by the rest of the stream.
The loop is walked twice, each time by induction along the model function, for the readers `r` that are a fixed `R` but
for the byte side (`Frame R r`): once for safety (`XSafe`: it terminates and keeps `Inv`, for every reader over every
stream) and once for meaning (`XPost`: on a `Clean` stream a run moves a prefix of `pend` from the byte side to the
character side).
-/
import XV.Lemmas.ReaderDec
namespace XV.Lemmas.ReaderInv
open XV.Model.Utf8 XV.Model.Reader XV.Spec.Reader XV.Lemmas.ReaderDec

/-- `readBytes` returns nothing only at the end of the input (BinInputStream contract). -/
def Clean : List (List Nat) → Prop
  | [] => True
  | c :: cs => (c = [] → cs.flatten = []) ∧ Clean cs

/-- termination measure of the stream -/
def mu (s : List (List Nat)) : Nat := streamBytes s + s.length

theorem streamBytes_cons (c : List Nat) (cs : List (List Nat)) : streamBytes (c :: cs) = c.length + streamBytes cs := by
  simp [streamBytes]

theorem flatten_len (s : List (List Nat)) : s.flatten.length = streamBytes s := by
  induction s with
  | nil => rfl
  | cons c cs ih => simp only [List.flatten_cons, List.length_append, streamBytes_cons, ih]

theorem readBytes_nil (n : Nat) : readBytes [] n = ([], []) := rfl
theorem readBytes_cons (c : List Nat) (cs : List (List Nat)) (n : Nat) :
    readBytes (c :: cs) n = if c.length ≤ n then (c, cs) else (c.take n, c.drop n :: cs) := rfl

theorem readBytes_flat (s : List (List Nat)) (n : Nat) : (readBytes s n).1 ++ (readBytes s n).2.flatten = s.flatten := by
  rcases s with _ | ⟨c, cs⟩
  · rfl
  · rw [readBytes_cons]
    split
    · rfl
    · simp only [List.flatten_cons]
      rw [← List.append_assoc, List.take_append_drop]

theorem readBytes_len (s : List (List Nat)) (n : Nat) : (readBytes s n).1.length ≤ n := by
  rcases s with _ | ⟨c, cs⟩
  · simp [readBytes_nil]
  · rw [readBytes_cons]
    split
    · assumption
    · simp only [List.length_take]; omega

theorem readBytes_clean (s : List (List Nat)) (n : Nat) (h : Clean s) : Clean (readBytes s n).2 := by
  rcases s with _ | ⟨c, cs⟩
  · simp [readBytes_nil, Clean]
  · rw [readBytes_cons]
    split
    · exact h.2
    · rename_i hlt
      refine ⟨?_, h.2⟩
      intro hd
      have : (c.drop n).length = 0 := by rw [hd]; rfl
      simp only [List.length_drop] at this
      omega

theorem readBytes_eof (s : List (List Nat)) (n : Nat) (h : Clean s) (hn : 0 < n) (hg : (readBytes s n).1 = []) :
    s.flatten = [] := by
  rcases s with _ | ⟨c, cs⟩
  · rfl
  · rw [readBytes_cons] at hg
    split at hg
    · simp only at hg
      subst hg
      simp [h.1 rfl]
    · rename_i hlt
      simp only at hg
      have : (c.take n).length = 0 := by rw [hg]; rfl
      simp only [List.length_take] at this
      omega

theorem readBytes_mu (s : List (List Nat)) (n : Nat) : mu (readBytes s n).2 + (readBytes s n).1.length ≤ mu s := by
  rcases s with _ | ⟨c, cs⟩
  · exact Nat.le_refl _
  · rw [readBytes_cons]
    split
    · simp only [mu, streamBytes_cons, List.length_cons]; omega
    · simp only [mu, streamBytes_cons, List.length_cons, List.length_drop, List.length_take]; omega

structure Inv (r : Reader) : Prop where
  raw_len : r.rawIdx + r.rawWin.length = r.rawAvail
  raw_le : r.rawAvail ≤ r.cfg.rawBufSize
  char_len : r.charIdx + r.charWin.length = r.charsAvail
  char_le : r.charsAvail ≤ r.cfg.charBufSize
  size_len : r.sizeWin.length = r.charWin.length
  fuel_ok : mu r.stream + 2 ≤ r.fuel

/-- the byte side of a reader: only these four fields are touched by refreshRawBuffer/xcodeMoreChars -/
def setRaw (r : Reader) (w : List Nat) (i a : Nat) (st : List (List Nat)) : Reader :=
  { r with rawWin := w, rawIdx := i, rawAvail := a, stream := st }

theorem setRaw_self (r : Reader) : setRaw r r.rawWin r.rawIdx r.rawAvail r.stream = r := rfl
theorem setRaw_setRaw (r : Reader) (w w' : List Nat) (i a i' a' : Nat) (st st' : List (List Nat)) :
    setRaw (setRaw r w i a st) w' i' a' st' = setRaw r w' i' a' st' := rfl

/-- all bytes not yet transcoded -/
def bytes (r : Reader) : List Nat := r.rawWin ++ r.stream.flatten

/-- the decoder in use -/
def encOf (r : Reader) : Enc := r.xcoder.getD r.enc

theorem refreshRaw_eq (r : Reader) : refreshRawBuffer r =
    setRaw r (r.rawWin ++ (readBytes r.stream (r.cfg.rawBufSize - (r.rawAvail - r.rawIdx))).1)
      0 ((readBytes r.stream (r.cfg.rawBufSize - (r.rawAvail - r.rawIdx))).1.length + (r.rawAvail - r.rawIdx))
      (readBytes r.stream (r.cfg.rawBufSize - (r.rawAvail - r.rawIdx))).2 := rfl

theorem Inv.raw_left {r : Reader} (h : Inv r) : r.rawAvail - r.rawIdx = r.rawWin.length :=
  Nat.sub_eq_of_eq_add' h.raw_len.symm

theorem refreshRaw_inv (r : Reader) (h : Inv r) : Inv (refreshRawBuffer r) := by
  rw [refreshRaw_eq]
  refine ⟨?_, ?_, h.char_len, h.char_le, h.size_len, Nat.le_trans (Nat.add_le_add_right (Nat.le_trans (Nat.le_add_right _ _) (readBytes_mu _ _)) 2) h.fuel_ok⟩
  · show 0 + (r.rawWin ++ _).length = _
    rw [Nat.zero_add, List.length_append, h.raw_left, Nat.add_comm]
    rfl
  · exact Nat.add_le_of_le_sub (Nat.le_trans (Nat.sub_le _ _) h.raw_le) (readBytes_len _ _)

theorem refreshRaw_bytes (r : Reader) : bytes (refreshRawBuffer r) = bytes r := by
  rw [refreshRaw_eq]
  simp only [bytes, setRaw, List.append_assoc]
  rw [readBytes_flat]

def Frame (R r : Reader) : Prop := ∃ w i a st, r = setRaw R w i a st

theorem Frame.cfg {R r : Reader} (h : Frame R r) : r.cfg = R.cfg := by
  obtain ⟨w, i, a, st, rfl⟩ := h; rfl

theorem Frame.decode {R r : Reader} (h : Frame R r) : decode (r.xcoder.getD r.enc) = decode (encOf R) := by
  obtain ⟨w, i, a, st, rfl⟩ := h; rfl

/-- The reader `r1` on which a round of the xcodeMoreChars loop calls the transcoder: `r` refilled (`b`) or `r` as it is.
The stream pays for whatever has been added to the window. -/
theorem refill_facts {R r : Reader} (b : Bool) (r1 : Reader) (hF : Frame R r) (hinv : Inv r)
    (e : r1 = if b then refreshRawBuffer r else r) :
    Frame R r1 ∧ Inv r1 ∧ bytes r1 = bytes r ∧ (Clean r.stream → Clean r1.stream) ∧ mu r1.stream ≤ mu r.stream ∧
    (r.rawAvail - r.rawIdx ≠ r1.rawAvail - r1.rawIdx → mu r1.stream < mu r.stream) := by
  subst e
  cases b
  · exact ⟨hF, hinv, rfl, id, Nat.le_refl _, fun h => absurd rfl h⟩
  · have hmu := readBytes_mu r.stream (r.cfg.rawBufSize - (r.rawAvail - r.rawIdx))
    refine ⟨?_, refreshRaw_inv _ hinv, refreshRaw_bytes r, readBytes_clean _ _, Nat.le_trans (Nat.le_add_right _ _) hmu, fun h => ?_⟩
    · obtain ⟨w, i, a, st, rfl⟩ := hF
      exact ⟨_, _, _, _, rfl⟩
    · have h : r.rawAvail - r.rawIdx ≠ (readBytes r.stream _).1.length + (r.rawAvail - r.rawIdx) - 0 := h
      show mu (readBytes r.stream _).2 < _
      omega

/-- what every run of the xcodeMoreChars loop keeps to, whatever the transcoder makes of the bytes -/
def XSafe (R : Reader) (maxChars : Nat) : XRes → Prop
  | .ok c s r' => Frame R r' ∧ Inv r' ∧ c.length ≤ maxChars ∧ s.length = c.length
  | .exc _ => True
  | .fuelOut => False

/-- Of the transcoder only `decode_bounds` is used.  Termination: the loop goes round again only after a transcoder call
that ate nothing, and then with `needMore`; the next round refills, and returns at once unless the refill has brought
something.  So every round after the first has taken something from the stream.
The cases are the ways through the model function, in its order: out of fuel; not a single byte; the refill of a
`needMore` round has added nothing, without and with room for a surrogate pair; the transcoder throws; it eats nothing;
it eats something. -/
theorem xcodeLoop_safe (R : Reader) (fuel : Nat) (r : Reader) (maxChars : Nat) (needMore : Bool)
    (hF : Frame R r) (hinv : Inv r) (hfuel : mu r.stream + (if needMore then 1 else 2) ≤ fuel) :
    XSafe R maxChars (xcodeLoop fuel r maxChars needMore) := by
  fun_induction xcodeLoop fuel r maxChars needMore with
  | case1 => split at hfuel <;> omega
  | case2 _ _ _ _ _ refill r1 | case3 _ _ _ _ _ refill r1 =>
    obtain ⟨hF1, hinv1, _⟩ := refill_facts refill r1 hF hinv rfl
    exact ⟨hF1, hinv1, Nat.zero_le _, rfl⟩
  | case4 | case5 => trivial
  | case6 _ _ _ needMore _ refill r1 _ hsame _ _ _ _ _ ih =>
    obtain ⟨hF1, hinv1, _, _, hle, hlt⟩ := refill_facts refill r1 hF hinv rfl
    refine ih hF1 hinv1 (Nat.le_of_succ_le_succ (Nat.le_trans ?_ hfuel))
    cases needMore
    · exact Nat.succ_le_succ (Nat.succ_le_succ hle)
    · exact Nat.succ_le_succ (Nat.succ_le_of_lt (hlt fun he => hsame (beq_iff_eq.mpr he)))
  | case7 _ _ _ _ _ refill r1 _ _ c s n hdec =>
    obtain ⟨⟨w, i, a, st, e1⟩, hinv1, _⟩ := refill_facts refill r1 hF hinv rfl
    obtain ⟨hn, hcl, hsl⟩ := decode_bounds _ hdec
    refine ⟨⟨_, _, _, _, by rw [e1]; rfl⟩, ⟨?_, hinv1.raw_le, hinv1.char_len, hinv1.char_le, hinv1.size_len, hinv1.fuel_ok⟩, hcl, hsl⟩
    show r1.rawIdx + n + (r1.rawWin.drop n).length = r1.rawAvail
    rw [List.length_drop, Nat.add_assoc, Nat.add_sub_cancel' hn]
    exact hinv1.raw_len

theorem xcodeMoreChars_safe (r : Reader) (maxChars : Nat) (hinv : Inv r) : XSafe r maxChars (xcodeMoreChars r maxChars) :=
  xcodeLoop_safe r r.fuel r maxChars false ⟨_, _, _, _, rfl⟩ hinv hinv.fuel_ok

/-- What a run of the xcodeMoreChars loop means, in terms of the byte string `B` = raw window ++ rest of the stream, which
is the same before and after every refill: a prefix of the reading of `B` goes to the caller.  The third clause (nothing
comes back only at the end of the input) is true of runs with `2 ≤ maxChars` only: with room for one character the loop
returns nothing in front of a supplementary character. -/
def XPost (R : Reader) (B : List Nat) : XRes → Prop
  | .ok c _ r' => Clean r'.stream ∧
      decodeAll (encOf R) B = (c ++ (decodeAll (encOf R) (bytes r')).1, (decodeAll (encOf R) (bytes r')).2) ∧
      (c = [] → decodeAll (encOf R) B = ([], .eof))
  | .exc e => (decodeAll (encOf R) B).2 = .exc e
  | .fuelOut => True

theorem refreshRaw_eof (r : Reader) (hinv : Inv r) (hC : Clean r.stream) (hw : r.rawWin.length < r.cfg.rawBufSize)
    (h : (refreshRawBuffer r).rawAvail = r.rawAvail - r.rawIdx) : r.stream.flatten = [] := by
  refine readBytes_eof r.stream (r.cfg.rawBufSize - (r.rawAvail - r.rawIdx)) hC (by rw [hinv.raw_left]; omega)
    (List.eq_nil_of_length_eq_zero ?_)
  have : (readBytes r.stream (r.cfg.rawBufSize - (r.rawAvail - r.rawIdx))).1.length + (r.rawAvail - r.rawIdx) = _ := h
  omega

/-- The last hypothesis (`hst`): the loop is entered with `needMore` only after a transcoder call on the same window that
ate nothing. -/
theorem xcodeLoop_spec (R : Reader) (B : List Nat) (hrb : 6 ≤ R.cfg.rawBufSize) (fuel : Nat) (r : Reader) (maxChars : Nat)
    (needMore : Bool) (hroom : 2 ≤ maxChars) (hF : Frame R r) (hinv : Inv r) (hB : bytes r = B) (hC : Clean r.stream)
    (hst : needMore = true → ∃ c s, decode (encOf R) r.rawWin maxChars = .ok c s 0) :
    XPost R B (xcodeLoop fuel r maxChars needMore) := by
  have hD := decOK (encOf R)
  fun_induction xcodeLoop fuel r maxChars needMore with
  | case1 => trivial
  | case2 _ r _ _ _ refill r1 h =>
    -- not a single byte
    obtain ⟨_, _, hb1, hC1, _⟩ := refill_facts refill r1 hF hinv rfl
    rw [Bool.and_eq_true, beq_iff_eq] at h
    have h0 : (refreshRawBuffer r).rawAvail = 0 := (if_pos h.1 : r1 = _) ▸ h.2
    have hw : r.rawWin.length = 0 := by
      have : (readBytes r.stream _).1.length + (r.rawAvail - r.rawIdx) = 0 := h0
      rw [← hinv.raw_left]
      omega
    refine ⟨hC1 hC, by rw [← hB, ← hb1]; rfl, fun _ => ?_⟩
    rw [← hB, bytes, List.eq_nil_of_length_eq_zero hw, refreshRaw_eof r hinv hC
      (by rw [hw, hF.cfg]; exact Nat.lt_of_lt_of_le (by decide) hrb) (by rw [h0, hinv.raw_left, hw])]
    exact hD.nil
  | case3 _ _ _ _ _ _ _ _ _ hm => exact absurd hroom (Nat.not_le.mpr hm)
  | case4 _ r _ _ _ refill r1 h0 hsame =>
    -- `needMore`, and the refill has added nothing: the source ends inside a character
    rw [Bool.and_eq_true, Bool.and_eq_true, beq_iff_eq] at hsame
    obtain ⟨⟨hrf, hnm⟩, hsame⟩ := hsame
    have e1 : r1 = refreshRawBuffer r := if_pos hrf
    obtain ⟨c0, s0, hst0⟩ := hst hnm
    obtain ⟨hshort, hA⟩ := (hD.of_eq hst0).2.2 rfl hroom
    have hav : (refreshRawBuffer r).rawAvail = r.rawAvail - r.rawIdx := (e1 ▸ hsame :).symm
    show (decodeAll (encOf R) B).2 = _
    rw [← hB, bytes, refreshRaw_eof r hinv hC
      (hF.cfg ▸ Nat.lt_of_lt_of_le hshort (Nat.le_trans (maxSeq_le6 (encOf R)) hrb)) hav, List.append_nil]
    refine congrArg Prod.snd (hA fun hw => h0 ?_)
    rw [hrf, e1, hav, hinv.raw_left, hw]
    rfl
  | case5 _ _ _ _ _ refill r1 _ _ e hdec =>
    obtain ⟨hF1, _, hb1, _⟩ := refill_facts refill r1 hF hinv rfl
    rw [hF1.decode] at hdec
    show (decodeAll (encOf R) B).2 = .exc e
    rw [← hB, ← hb1]
    exact hD.of_eq hdec _
  | case6 _ _ _ _ _ refill r1 _ _ c s n hdec hn ih =>
    obtain ⟨hF1, hinv1, hb1, hC1, _⟩ := refill_facts refill r1 hF hinv rfl
    rw [hF1.decode, beq_iff_eq.mp hn] at hdec
    exact ih hroom hF1 hinv1 (hb1.trans hB) (hC1 hC) fun _ => ⟨c, s, hdec⟩
  | case7 _ _ _ _ _ refill r1 _ _ c s n hdec hn =>
    obtain ⟨hF1, _, hb1, hC1, _⟩ := refill_facts refill r1 hF hinv rfl
    rw [hF1.decode] at hdec
    obtain ⟨hprog, hA, _⟩ := hD.of_eq hdec
    refine ⟨hC1 hC, by rw [← hB, ← hb1]; exact hA _, fun hc => ?_⟩
    have := hprog (Nat.pos_of_ne_zero fun h => hn (beq_iff_eq.mpr h))
    rw [hc] at this
    exact absurd this (Nat.lt_irrefl _)

theorem xcodeMoreChars_spec (r : Reader) (maxChars : Nat) (hinv : Inv r) (hroom : 2 ≤ maxChars) (hrb : 6 ≤ r.cfg.rawBufSize)
    (hc : Clean r.stream) : XPost r (bytes r) (xcodeMoreChars r maxChars) :=
  xcodeLoop_spec r (bytes r) hrb r.fuel r maxChars false hroom ⟨_, _, _, _, rfl⟩ hinv rfl hc nofun

/-- everything the reader has still to deliver (before end-of-line normalisation), and how it ends -/
def pend (r : Reader) : List Nat × End :=
  (r.charWin ++ (decodeAll (encOf r) (bytes r)).1, (decodeAll (encOf r) (bytes r)).2)

/-- once fNoMore is set nothing is left -/
def NoMoreOK (r : Reader) : Prop := r.noMore = true → pend r = ([], .eof)

/-- fields that no buffer operation touches -/
structure Same (r r' : Reader) : Prop where
  cfg : r'.cfg = r.cfg
  nel : r'.nel = r.nel
  external : r'.external = r.external
  pe : r'.pe = r.pe
  line : r'.line = r.line
  col : r'.col = r.col
  enc : encOf r' = encOf r
  fuel : r'.fuel = r.fuel

theorem Same.refl (r : Reader) : Same r r := ⟨rfl, rfl, rfl, rfl, rfl, rfl, rfl, rfl⟩
theorem Same.trans {a b c : Reader} (h1 : Same a b) (h2 : Same b c) : Same a c :=
  ⟨h2.cfg.trans h1.cfg, h2.nel.trans h1.nel, h2.external.trans h1.external, h2.pe.trans h1.pe,
   h2.line.trans h1.line, h2.col.trans h1.col, h2.enc.trans h1.enc, h2.fuel.trans h1.fuel⟩

/-- the tail of refreshCharBuffer: append the new characters, PE trailing space, fNoMore -/
def refreshTail (r1 : Reader) (chars sizes : List Nat) (spareChars : Nat) : Reader :=
  let r2 := { r1 with charWin := r1.charWin ++ chars, sizeWin := r1.sizeWin ++ sizes,
                      charsAvail := chars.length + spareChars, charIdx := 0 }
  let r3 := if r2.charsAvail == 0 && r2.pe && !r2.sentTrailingSpace then
              { r2 with charWin := [XV.Gen.ReaderConsts.chSpace], sizeWin := [0], charsAvail := 1, sentTrailingSpace := true }
            else r2
  if r3.charsAvail == 0 then { r3 with noMore := true } else r3

theorem refresh_noMore (r : Reader) (h : r.noMore = true) : refreshCharBuffer r = .ok false r := by
  rw [refreshCharBuffer, if_pos h]

theorem refresh_full (r : Reader) (h : r.noMore = false) (hf : r.charsAvail - r.charIdx = r.cfg.charBufSize) :
    refreshCharBuffer r = .ok true r := by
  rw [refreshCharBuffer, if_neg (by rw [h]; nofun)]
  exact if_pos (by rw [hf, beq_self_eq_true])

theorem refresh_main (r : Reader) (h : r.noMore = false) (hf : r.charsAvail - r.charIdx ≠ r.cfg.charBufSize) :
    refreshCharBuffer r =
      match xcodeMoreChars { r with xcoder := some (encOf r) } (r.cfg.charBufSize - (r.charsAvail - r.charIdx)) with
      | .fuelOut => .fuelOut
      | .exc e => .exc e
      | .ok chars sizes r1 => .ok ((refreshTail r1 chars sizes (r.charsAvail - r.charIdx)).charsAvail != 0)
                                 (refreshTail r1 chars sizes (r.charsAvail - r.charIdx)) := by
  rw [refreshCharBuffer, if_neg (by rw [h]; nofun)]
  simp only []
  rw [if_neg (by rw [beq_iff_eq]; exact hf)]
  -- `if (!fTranscoder) fTranscoder = makeNewTranscoderFor(fEncodingStr)`: made now or there already, it is `encOf r`
  cases r with
  | mk cfg enc xcoder => cases xcoder <;> rfl

theorem refreshTail_spec (r1 : Reader) (chars sizes : List Nat) (sp : Nat) (h : Inv r1) (hcb : 1 ≤ r1.cfg.charBufSize)
    (hsp : sp = r1.charWin.length) (hl : sizes.length = chars.length) (hroom : chars.length + sp ≤ r1.cfg.charBufSize) :
    Inv (refreshTail r1 chars sizes sp) ∧ Same r1 (refreshTail r1 chars sizes sp) ∧ (refreshTail r1 chars sizes sp).charIdx = 0 ∧
    ((refreshTail r1 chars sizes sp).charsAvail = 0 → (refreshTail r1 chars sizes sp).noMore = true) := by
  have hi : Inv { r1 with charWin := r1.charWin ++ chars, sizeWin := r1.sizeWin ++ sizes, charsAvail := chars.length + sp, charIdx := 0 } :=
    ⟨h.raw_len, h.raw_le, by rw [Nat.zero_add, List.length_append, hsp, Nat.add_comm], hroom,
     by rw [List.length_append, List.length_append, h.size_len, hl], h.fuel_ok⟩
  unfold refreshTail
  simp only []
  split
  · -- the trailing space of a parameter entity
    exact ⟨⟨h.raw_len, h.raw_le, rfl, hcb, rfl, h.fuel_ok⟩, ⟨rfl, rfl, rfl, rfl, rfl, rfl, rfl, rfl⟩, rfl, nofun⟩
  · split
    · exact ⟨⟨hi.raw_len, hi.raw_le, hi.char_len, hi.char_le, hi.size_len, hi.fuel_ok⟩,
        ⟨rfl, rfl, rfl, rfl, rfl, rfl, rfl, rfl⟩, rfl, fun _ => rfl⟩
    · rename_i hne
      exact ⟨hi, ⟨rfl, rfl, rfl, rfl, rfl, rfl, rfl, rfl⟩, rfl, fun h0 => absurd (by rw [beq_iff_eq]; exact h0) hne⟩

theorem refreshTail_not_pe (r1 : Reader) (chars sizes : List Nat) (sp : Nat) (hpe : r1.pe = false) :
    refreshTail r1 chars sizes sp =
      { r1 with charWin := r1.charWin ++ chars, sizeWin := r1.sizeWin ++ sizes, charsAvail := chars.length + sp,
                charIdx := 0, noMore := r1.noMore || (chars.length + sp == 0) } := by
  unfold refreshTail
  simp only [hpe, Bool.and_false, Bool.false_and, Bool.false_eq_true, if_false]
  cases hz : (chars.length + sp == 0)
  · simp only [Bool.false_eq_true, if_false, Bool.or_false]
  · simp only [if_true, Bool.or_true]

/-- the index invariant, for a reader with at least one character slot (the trailing space of a parameter entity needs it) -/
structure CInv (r : Reader) : Prop where
  inv : Inv r
  cb : 1 ≤ r.cfg.charBufSize

theorem refresh_cinv (r : Reader) (h : CInv r) :
    match refreshCharBuffer r with
    | .ok more r' => CInv r' ∧ Same r r' ∧ (more = false → r'.noMore = true) ∧ (more = true → r'.charWin ≠ [])
    | .exc _ => True
    | .fuelOut => False := by
  have hcb := h.cb
  cases hnm : r.noMore with
  | true =>
    rw [refresh_noMore r hnm]
    exact ⟨h, .refl r, fun _ => hnm, nofun⟩
  | false =>
    -- the spare characters are the window: no subtraction from here on
    have hsp : r.charsAvail - r.charIdx = r.charWin.length := Nat.sub_eq_of_eq_add' h.inv.char_len.symm
    by_cases hfull : r.charsAvail - r.charIdx = r.cfg.charBufSize
    · rw [refresh_full r hnm hfull]
      exact ⟨h, .refl r, nofun, fun _ hw => by rw [hsp, hw, List.length_nil] at hfull; omega⟩
    · have hwl : r.charWin.length ≤ r.cfg.charBufSize := hsp ▸ Nat.le_trans (Nat.sub_le _ _) h.inv.char_le
      rw [refresh_main r hnm hfull, hsp]
      have hx := xcodeMoreChars_safe { r with xcoder := some (encOf r) } (r.cfg.charBufSize - r.charWin.length)
        ⟨h.inv.raw_len, h.inv.raw_le, h.inv.char_len, h.inv.char_le, h.inv.size_len, h.inv.fuel_ok⟩
      cases hxr : xcodeMoreChars { r with xcoder := some (encOf r) } (r.cfg.charBufSize - r.charWin.length) with
      | fuelOut => rw [hxr] at hx; exact hx
      | exc e => trivial
      | ok chars sizes r1 =>
        rw [hxr] at hx
        obtain ⟨⟨w, i, a, st, e1⟩, hinv1, hcs, hsl⟩ := hx
        have hsame1 : Same r r1 := by rw [e1]; exact ⟨rfl, rfl, rfl, rfl, rfl, rfl, rfl, rfl⟩
        obtain ⟨g1, g2, g3, g4⟩ := refreshTail_spec r1 chars sizes r.charWin.length hinv1 (by rw [hsame1.cfg]; exact hcb)
          (by rw [e1]; rfl) hsl (by rw [hsame1.cfg]; exact Nat.add_le_of_le_sub hwl hcs)
        have hlen := g1.char_len
        rw [g3, Nat.zero_add] at hlen
        refine ⟨⟨g1, by rw [g2.cfg, hsame1.cfg]; exact hcb⟩, hsame1.trans g2, fun hm => g4 ?_, fun hm hw => ?_⟩
        · rwa [bne_eq_false_iff_eq] at hm
        · rw [hw] at hlen
          rw [← hlen] at hm
          exact absurd hm (by decide)

end XV.Lemmas.ReaderInv
