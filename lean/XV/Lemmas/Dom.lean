/-
C13: the operations.  `insertPlan`, the legality checks of insertBefore in the order of the C++, is turned into a conjunction
twice: for when the call returns normally (`planOk_insertPlan`) and for when it moves nodes (`insertPlan_eq_ok`); either
predicate goes through the cascade of `if`s (`apply_ite`) and is decided by the constructor at each exit.  Every operation of
`step` is `Sound`: it keeps `WF`, and leaves the store untouched unless the call returns normally.  An operation is a cascade
of checks, each of which gives up with the store as it was (`sound_ite`), and then a composition of primitives whose
preconditions the checks that were passed supply.
-/
import XV.Lemmas.DomClone
namespace XV.Lemmas.Dom
open XV.Model.Dom XV.Spec.Dom

theorem kidOKTable_eq (p c : Kind) : kidOKTable p c = allowedChild p c := by
  cases p <;> cases c <;> decide

theorem isKidOK_iff (rp rc : NodeRec) :
    isKidOK rp rc = true ↔ childOK rp rc := by
  unfold isKidOK childOK
  rw [kidOKTable_eq, show XV.Gen.KidOK.docTextAllSpacesClause = true from rfl]
  simp [Bool.or_eq_true, Bool.and_eq_true, and_assoc]

/-- no row of the DOM Core table allows a Document or an Attr as a child -/
theorem isKidOK_kind (rp rc : NodeRec) (h : isKidOK rp rc = true) : rc.kind ≠ .document ∧ rc.kind ≠ .attr := by
  rw [isKidOK_iff] at h
  constructor <;> intro hk <;> rw [childOK, hk] at h <;> generalize rp.kind = k at h <;> cases k <;>
    simp [allowedChild] at h

theorem fragKidsBad_false_iff (s : Store) (rp : NodeRec) (kids : List NodeId) :
    fragKidsBad s rp kids = false ↔ ∀ k, k ∈ kids → ∃ rk, s.get k = some rk ∧ childOK rp rk := by
  unfold fragKidsBad
  rw [List.any_eq_false]
  refine forall_congr' fun k => imp_congr_right fun _ => ?_
  cases s.get k <;> simp [← isKidOK_iff]

theorem refNotChild_eq_false (s : Store) (p : NodeId) (ref : Option NodeId) :
    refNotChild s p ref = false ↔ ∀ r, ref = some r → parentOf s r = some p := by
  cases ref <;> simp [refNotChild]

/-- the plan lets the call return normally -/
def planOk : Except Result (List NodeId) → Bool
  | .error r => r.isOk
  | .ok _ => true

theorem planOk_exc (e : Exc) : planOk (.error (.exc e)) = false := rfl

theorem planOk_okr (v : Val) : planOk (.error (.ok v)) = true := rfl

theorem planOk_ok (l : List NodeId) : planOk (.ok l) = true := rfl

theorem planOk_insertPlan (s : Store) (p n : NodeId) (rp rn : NodeRec) (ref : Option NodeId) (a b : Bool) :
    planOk (insertPlan s p n rp rn ref a b) = true ↔
      refDead s ref = false ∧ isLeaf rp.kind = false ∧ ¬ (rp.kind = .document ∧ docConflict s rp rn a b = true) ∧
      rp.readOnly = false ∧ ownerDocOf rn = some rp.owner ∧ isAncOrSelf s n p = false ∧
      refNotChild s p ref = false ∧
      (ref = some n ∨ if rn.kind = .fragment then fragKidsBad s rp rn.children = false else isKidOK rp rn = true) := by
  simp only [insertPlan, apply_ite (planOk · = true), planOk_exc, planOk_okr, planOk_ok,
    show planOk (.error .dead) = false from rfl, Bool.false_eq_true, if_false_left, if_true_left, and_true,
    Bool.not_eq_true, Bool.not_eq_true', Bool.not_eq_false, ne_eq, Decidable.not_not, Decidable.or_iff_not_imp_left]

theorem insertPlan_eq_ok (s : Store) (p n : NodeId) (rp rn : NodeRec) (ref : Option NodeId) (a b : Bool)
    (ms : List NodeId) :
    insertPlan s p n rp rn ref a b = .ok ms ↔
      refDead s ref = false ∧ isLeaf rp.kind = false ∧ ¬ (rp.kind = .document ∧ docConflict s rp rn a b = true) ∧
      rp.readOnly = false ∧ ownerDocOf rn = some rp.owner ∧ isAncOrSelf s n p = false ∧
      refNotChild s p ref = false ∧ ref ≠ some n ∧
      (if rn.kind = .fragment then fragKidsBad s rp rn.children = false ∧ rn.children = ms
       else isKidOK rp rn = true ∧ [n] = ms) := by
  simp only [insertPlan, apply_ite (· = Except.ok ms), reduceCtorEq, Except.ok.injEq, if_false_left, Bool.not_eq_true,
    Bool.not_eq_true', Bool.not_eq_false, ne_eq, Decidable.not_not]

theorem insertBeforeCore_isOk (s : Store) (p n : NodeId) (rp rn : NodeRec) (ref : Option NodeId) (a b : Bool)
    (hp : s.get p = some rp) (hn : s.get n = some rn) :
    (insertBeforeCore s p n ref a b).2.isOk = planOk (insertPlan s p n rp rn ref a b) := by
  simp only [insertBeforeCore, hp, hn]
  cases insertPlan s p n rp rn ref a b <;> rfl

theorem insertBeforeCore_ok_anc (s : Store) (p n : NodeId) (ref : Option NodeId) (a b : Bool)
    (h : (insertBeforeCore s p n ref a b).2.isOk = true) : isAncOrSelf s n p = false := by
  cases hp : s.get p with
  | none => simp only [insertBeforeCore, hp] at h; cases h
  | some rp =>
    cases hn : s.get n with
    | none => simp only [insertBeforeCore, hp, hn] at h; cases h
    | some rn =>
      rw [insertBeforeCore_isOk s p n rp rn ref a b hp hn, planOk_insertPlan] at h
      exact h.2.2.2.2.2.1

structure Sound (s : Store) (x : Store × Result) : Prop where
  wf : WF s → WF x.1
  unch : x.1 = s ∨ x.2.isOk = true

theorem Sound.same {s : Store} {r : Result} : Sound s (s, r) := ⟨id, .inl rfl⟩

theorem Sound.ok {s s' : Store} {v : Val} (h : WF s → WF s') : Sound s (s', .ok v) := ⟨h, .inr rfl⟩

theorem Sound.wf_of_eq {s s1 : Store} {x : Store × Result} {r : Result} (hx : Sound s x) (heq : x = (s1, r))
    (h : WF s) : WF s1 := by
  subst heq; exact hx.wf h

/-- a check that fails leaves the store alone, so only the path on which all checks pass is left to look at -/
theorem sound_ite {s : Store} {c : Prop} [Decidable c] {a b : Store × Result} :
    Sound s (if c then a else b) ↔ (c → Sound s a) ∧ (¬ c → Sound s b) := by
  by_cases hc : c <;> simp [hc]

theorem createNode_sound (s : Store) (d : NodeId) (chk : Option (List Nat)) (mk : NodeRec)
    (h1 : mk.parent = none) (h2 : mk.children = []) (h3 : mk.attrs = []) (h4 : mk.ownerElem = none)
    (h5 : mk.kind ≠ .document) (h6 : mk.owner = d) : Sound s (createNode s d chk mk) := by
  unfold createNode
  split
  · exact .same
  · rename_i rd hd
    have hw : rd.kind = .document → Sound s ((s.alloc mk).1, .ok (.node (s.alloc mk).2)) := fun hk => .ok fun h =>
      wf_alloc s h mk h1 h2 h3 h4 h5 ⟨rd, h6 ▸ hd, hk, h6 ▸ h.docSelf d rd hd hk⟩
    cases chk <;> simp only [sound_ite, Sound.same, implies_true, true_and, and_true, ne_eq, Decidable.not_not]
    · exact hw
    · exact fun hk _ => hw hk

theorem insertBeforeCore_sound (s : Store) (p n : NodeId) (ref : Option NodeId) (a b : Bool) :
    Sound s (insertBeforeCore s p n ref a b) := by
  unfold insertBeforeCore
  split
  · rename_i rp rn hp hn
    split
    · exact .same
    · rename_i ms hplan
      refine .ok fun h => ?_
      obtain ⟨_, _, _, _, hown, hanc, _, _, hcase⟩ := (insertPlan_eq_ok s p n rp rn ref a b ms).mp hplan
      have hna := not_anc_of_isAncOrSelf_false s n p hanc
      have hown' : rn.kind ≠ .document ∧ rn.owner = rp.owner := by
        simpa [ownerDocOf] using hown
      split at hcase
      · obtain ⟨_, rfl⟩ := hcase
        refine wf_moveNodes s h rn.children p ref rp hp (fun m hm => ?_) (h.nodupChildren n rn hn)
        obtain ⟨rm, hrm, hpar, ho, hkd, hka⟩ := wf_kid h hn hm
        exact ⟨rm, hrm, ho.trans hown'.2, hkd, hka,
          fun ha => hna (anc_trans (.step (parentOf_eq_some.mpr ⟨rm, hrm, hpar⟩) .refl) ha)⟩
      · obtain ⟨hkid, rfl⟩ := hcase
        exact wf_moveNode s h n p ref rn rp hn hp hown'.2 hown'.1 (isKidOK_kind rp rn hkid).2 hna
  · exact .same

theorem removeChildCore_sound (s : Store) (p c : NodeId) : Sound s (removeChildCore s p c) := by
  unfold removeChildCore
  split
  · simp only [sound_ite, Sound.same, implies_true, true_and]
    exact fun _ _ _ => .ok fun h => wf_detach s h c
  · exact .same

theorem replaceChildCore_sound (s : Store) (p n old : NodeId) : Sound s (replaceChildCore s p n old) := by
  unfold replaceChildCore
  split
  · simp only [sound_ite, Sound.same, implies_true, true_and]
    intro _
    split
    · rename_i s1 _ heq
      exact .ok fun h => wf_detach s1 ((insertBeforeCore_sound s p n (some old) _ _).wf_of_eq heq h) old
    · exact .same
  · exact .same

/-- DOMAttrImpl::setValue; the surgery keeps `WF` on any live node -/
theorem wf_setValueCore (s : Store) (h : WF s) (a : NodeId) (ra : NodeRec) (ha : s.get a = some ra)
    (val : List Nat) : WF (setValueCore s a ra val) := by
  have hand : a ∉ ra.children := fun hm => by
    obtain ⟨rc, hrc, hpar, _⟩ := wf_kid h ha hm
    obtain ⟨rank, hrank⟩ := h.acyclic
    exact Nat.lt_irrefl _ (hrank a rc a hrc hpar)
  have htnd : s.size ∉ ra.children := fun hm => by
    obtain ⟨rc, hrc, _⟩ := wf_kid h ha hm
    exact Nat.lt_irrefl _ (lt_size_of_get s _ rc hrc)
  let tx : NodeRec := { kind := .text, data := val, owner := ra.owner }
  have hw1 : WF (s.alloc tx).1 := wf_alloc s h tx rfl rfl rfl rfl nofun (h.ownerDoc a ra ha)
  have hw2 : WF (killNodes (s.alloc tx).1 ra.children) := by
    refine wf_killNodes _ hw1 _ fun d r hd hr hkd => ?_
    obtain ⟨rc, hrc, _, _, hnd, _⟩ := wf_kid h ha hd
    rw [get_alloc_old _ hrc, Option.some.injEq] at hr; subst hr
    exact hnd hkd
  have ht2 := get_killNodes_of (get_alloc_new s tx) htnd
  exact wf_moveNode _ hw2 s.size a none _ _ ht2 (get_killNodes_of (get_alloc_old tx ha) hand) rfl nofun nofun
    fun hanc => Nat.ne_of_gt (lt_size_of_get s a ra ha) (eq_of_anc_childless _ hw2 _ a _ ht2 rfl hanc)

theorem setValueOp_sound (s : Store) (a : NodeId) (val : List Nat) : Sound s (setValueOp s a val) := by
  unfold setValueOp
  split
  · exact .same
  · rename_i ra ha
    simp only [sound_ite, Sound.same, implies_true, true_and, ne_eq, Decidable.not_not]
    exact fun _ _ => .ok fun h => wf_setValueCore s h a ra ha val

theorem setAttributeCore_sound (s : Store) (e : NodeId) (nm val : List Nat) :
    Sound s (setAttributeCore s e nm val) := by
  unfold setAttributeCore
  split
  · exact .same
  · rename_i re he
    simp only [sound_ite, Sound.same, implies_true, true_and, ne_eq, Decidable.not_not]
    intro hke _
    split
    · rename_i a hfind
      split
      · rename_i ra hra
        exact .ok fun h => wf_setValueCore s h a ra hra val
      · exact .same
    · rename_i hfind
      simp only [sound_ite, Sound.same, implies_true, true_and]
      refine fun _ => .ok fun h => ?_
      -- a fresh attribute is linked and then given its value
      let ra : NodeRec := { kind := .attr, name := nm, owner := re.owner }
      have hw1 := wf_alloc s h ra rfl rfl rfl rfl nofun (h.ownerDoc e re he)
      have ha1 := get_alloc_new s ra
      have hw2 : WF (linkAttr (s.alloc ra).1 e s.size nm) := by
        refine wf_linkAttr _ hw1 e s.size nm re _ (get_alloc_old _ he) ha1 hke rfl rfl rfl rfl fun x hx => ?_
        obtain ⟨rx, hrx, _⟩ := h.attrLink e re x he hx
        have : nameOf (s.alloc ra).1 x = nameOf s x := by
          unfold nameOf; rw [get_alloc_old _ hrx, hrx]
        rw [this]; exact findAttr_none s re.attrs nm hfind x hx
      exact wf_setValueCore _ hw2 s.size _ (get_map_of (get_linkAttr _ e s.size nm) _ _ ha1) val

theorem removeAttributeCore_sound (s : Store) (e : NodeId) (nm : List Nat) :
    Sound s (removeAttributeCore s e nm) := by
  unfold removeAttributeCore
  split
  · exact .same
  · rename_i re he
    simp only [sound_ite, Sound.same, implies_true, true_and]
    intro _ _
    split
    · exact .same
    · rename_i a hfind
      refine .ok fun h => ?_
      obtain ⟨ra, hra, hk, _⟩ := h.attrLink e re a he (findAttr_some s re.attrs nm a hfind).1
      refine wf_killNodes _ (wf_unlinkAttr s h a) _ fun d r hd hr hkd => ?_
      obtain ⟨r0, hr0, rfl⟩ := get_map_eq_some (get_unlinkAttr s a) hr
      rw [hra] at hd
      rcases List.mem_cons.mp hd with rfl | hd
      · rw [hra] at hr0; cases hr0; rw [hk] at hkd; cases hkd
      · obtain ⟨rc, hrc, _, _, hnd, _⟩ := wf_kid h hra hd
        rw [hr0] at hrc; cases hrc
        exact hnd hkd

theorem removeAttributeNodeCore_sound (s : Store) (e a : NodeId) : Sound s (removeAttributeNodeCore s e a) := by
  unfold removeAttributeNodeCore
  split
  · simp only [sound_ite, Sound.same, implies_true, true_and, and_true]
    exact fun _ _ _ _ => .ok fun h => wf_unlinkAttr s h a
  · exact .same

theorem setAttributeNodeCore_sound (s : Store) (e a : NodeId) : Sound s (setAttributeNodeCore s e a) := by
  unfold setAttributeNodeCore
  split
  · rename_i re ra he hra
    simp only [sound_ite, Sound.same, implies_true, true_and, ne_eq, Decidable.not_not]
    intro hke hka _ hown
    split
    · simp only [sound_ite, Sound.same, implies_true, and_true]
    · rename_i hoe
      split <;> rename_i hfind <;>
        exact .ok fun h => wf_setNamedItem s h e a ra.name re ra he hra hke hka hoe hown rfl _ hfind
  · exact .same

theorem charDataOp_sound (s : Store) (t : NodeId) (op : CDOp) : Sound s (charDataOp s t op) := by
  unfold charDataOp
  split
  · exact .same
  · simp only [sound_ite, Sound.same, implies_true, true_and]
    intro _ _
    split
    · exact .same
    · exact .same
    · exact .ok fun h => wf_setDataOf s h t _

theorem splitTextCore_sound (s : Store) (t off : Nat) : Sound s (splitTextCore s t off) := by
  unfold splitTextCore
  split
  · exact .same
  · rename_i rt ht
    simp only [sound_ite, Sound.same, implies_true, true_and]
    intro hkind _ _
    split
    · exact .same
    have hdoc : rt.kind ≠ .document := fun hk => hkind (by rw [hk]; exact ⟨nofun, nofun⟩)
    have hattr : rt.kind ≠ .attr := fun hk => hkind (by rw [hk]; exact ⟨nofun, nofun⟩)
    let nw : NodeRec := { kind := rt.kind, data := rt.data.drop off, owner := rt.owner }
    have hw2 : WF s → WF (setDataOf (s.alloc nw).1 t (rt.data.take off)) := fun h =>
      wf_setDataOf _ (wf_alloc s h nw rfl rfl rfl rfl hdoc (h.ownerDoc t rt ht)) t _
    split
    · exact .ok hw2
    · rename_i p hpar
      refine .ok fun h => ?_
      obtain ⟨rp, hrp, _⟩ := h.parentChild t rt p ht hpar
      have hg2 := get_setDataOf (s.alloc nw).1 t (rt.data.take off)
      have hk2 : (setDataOf (s.alloc nw).1 t (rt.data.take off)).get s.size = some nw := by
        rw [hg2, get_alloc_new, Option.map_some, if_neg (Nat.ne_of_gt (lt_size_of_get s t rt ht))]
      refine wf_moveNode _ (hw2 h) s.size p _ _ _ hk2 (get_map_of hg2 _ _ (get_alloc_old nw hrp)) ?_ hdoc hattr
        fun hanc => Nat.ne_of_gt (lt_size_of_get s p rp hrp) (eq_of_anc_childless _ (hw2 h) _ p _ hk2 rfl hanc)
      exact h.ownerUniform t rt p rp ht hpar hrp

theorem cloneNodeCore_sound (s : Store) (n : NodeId) (deep : Bool) : Sound s (cloneNodeCore s n deep) := by
  unfold cloneNodeCore
  split
  · exact .same
  · rename_i rn hn
    simp only [sound_ite, Sound.same, implies_true, true_and]
    refine fun _ => .ok fun h => ?_
    obtain ⟨rd, hrd, hk, _⟩ := h.ownerDoc n rn hn
    exact wf_cloneInto s h n rn deep rn.owner rd hrd hk

theorem importNodeCore_sound (s : Store) (d n : NodeId) (deep : Bool) : Sound s (importNodeCore s d n deep) := by
  unfold importNodeCore
  split
  · rename_i rd rn hd hn
    simp only [sound_ite, Sound.same, implies_true, true_and, ne_eq, Decidable.not_not]
    exact fun hk _ => .ok fun h => wf_cloneInto s h n rn _ d rd hd hk
  · exact .same

theorem adoptNodeCore_sound (s : Store) (d n : NodeId) : Sound s (adoptNodeCore s d n) := by
  unfold adoptNodeCore
  split
  · simp only [sound_ite, Sound.same, implies_true, true_and]
    refine fun _ _ _ => ⟨fun _ => ?_, fun _ => ?_⟩
    · split
      · rename_i e _
        split
        · rename_i heq
          exact .ok ((removeAttributeNodeCore_sound s e n).wf_of_eq heq)
        · exact .same
      · exact .same
    · split
      · rename_i p _
        split
        · rename_i heq
          exact .ok ((removeChildCore_sound s p n).wf_of_eq heq)
        · exact .same
      · exact .same
  · exact .same

theorem normalizeCore_sound (s : Store) (n : NodeId) : Sound s (normalizeCore s n) := by
  unfold normalizeCore
  split
  · exact .same
  · simp only [sound_ite, Sound.same, implies_true, true_and]
    exact fun _ => .ok fun h => wf_normalize s h n

theorem renameNodeCore_sound (s : Store) (d n : NodeId) (nm : List Nat) : Sound s (renameNodeCore s d n nm) := by
  unfold renameNodeCore
  split
  · rename_i rd rn hd hn
    simp only [sound_ite, Sound.same, implies_true, true_and, and_true]
    refine fun _ _ => ⟨fun hk _ => .ok fun h => ?_, fun _ hk _ => ?_⟩
    · refine wf_setNameOf s h n nm fun e re he hm => ?_
      obtain ⟨ra, hra, hka, _⟩ := h.attrLink e re n he hm
      rw [hn] at hra; cases hra; rw [hk] at hka; cases hka
    · split
      · rename_i hoe
        refine .ok fun h => wf_setNameOf s h n nm fun e re he hm => ?_
        obtain ⟨ra, hra, _, h2, _⟩ := h.attrLink e re n he hm
        rw [hn] at hra; cases hra; rw [hoe] at h2; cases h2
      · rename_i e hoe
        -- el->removeAttributeNode(this); fName = name; el->setAttributeNode(this)
        refine ⟨fun h => ?_, .inr (by split <;> rfl)⟩
        obtain ⟨re, hre, hmem⟩ := h.attrBack n rn e hn hoe
        obtain ⟨rn2, hrn2, _, _, hown⟩ := h.attrLink e re n hre hmem
        rw [hn] at hrn2; cases hrn2
        have hke : re.kind = .element := h.attrsElem e re hre (List.ne_nil_of_mem hmem)
        have hen : e ≠ n := by rintro rfl; rw [hn] at hre; cases hre; rw [hk] at hke; cases hke
        have hgu := get_unlinkAttr s n
        have hw1 : WF (setNameOf (unlinkAttr s n) n nm) := by
          refine wf_setNameOf _ (wf_unlinkAttr s h n) n nm fun e' re' he' hm => ?_
          obtain ⟨re0, _, rfl⟩ := get_map_eq_some hgu he'
          simp at hm
        have hg1 := get_setNameOf (unlinkAttr s n) n nm
        have he1 : (setNameOf (unlinkAttr s n) n nm).get e =
            some { re with attrs := re.attrs.filter (fun x => x != n) } := by
          rw [hg1, hgu, hre]; simp [hen]
        have hn1 : (setNameOf (unlinkAttr s n) n nm).get n =
            some { rn with attrs := rn.attrs.filter (fun x => x != n), ownerElem := none, name := nm } := by
          rw [hg1, hgu, hn]; simp
        simp only [he1]
        split <;> rename_i hfind <;> exact wf_setNamedItem _ hw1 e n nm _ _ he1 hn1 hke hk rfl hown rfl _ hfind
  · exact .same

theorem step_sound (s : Store) (op : Op) : Sound s (step s op) := by
  cases op <;> dsimp only [step]
  case createElement | createText | createComment | createCDATA | createPI | createAttribute | createFragment |
      createEntityRef =>
    exact createNode_sound s _ _ _ rfl rfl rfl rfl nofun rfl
  case appendChild | insertBefore => exact insertBeforeCore_sound ..
  case removeChild => exact removeChildCore_sound ..
  case replaceChild => exact replaceChildCore_sound ..
  case setAttribute => exact setAttributeCore_sound ..
  case removeAttribute => exact removeAttributeCore_sound ..
  case setAttributeNode => exact setAttributeNodeCore_sound ..
  case removeAttributeNode => exact removeAttributeNodeCore_sound ..
  case setValue => exact setValueOp_sound ..
  case substringData | appendData | insertData | deleteData | replaceData | setData => exact charDataOp_sound ..
  case splitText => exact splitTextCore_sound ..
  case cloneNode => exact cloneNodeCore_sound ..
  case importNode => exact importNodeCore_sound ..
  case adoptNode => exact adoptNodeCore_sound ..
  case normalize => exact normalizeCore_sound ..
  case renameNode => exact renameNodeCore_sound ..

end XV.Lemmas.Dom
