/- The four generated code pages pass the one-pass check of XV.Lemmas.ByteCodec; their shape and round-trip
facts are read off it. -/
import XV.Lemmas.ByteCodec
open XV.Model.ByteCodec XV.Gen.ByteTables XV.Lemmas.ByteCodec

namespace XV.Lemmas.ByteTableWin1252

def WellFormed (t : Table) : Prop :=
    t.declaredToSize = t.toTable.length ∧ t.fromTable.length = 256 ∧ 0 < t.toTable.length ∧
    strictSorted (t.toTable.map (·.1)) = true ∧ t.toTable.getD 0 (1, 1) = (0, 0) ∧
    (∀ b, b < 256 → t.fromTable.getD b 0xFFFF ≠ 0xFFFF)

theorem checked : Checked tblWin1252 := by decide +kernel

theorem wellformed : tblWin1252.declaredToSize = tblWin1252.toTable.length ∧ tblWin1252.fromTable.length = 256 ∧ 0 < tblWin1252.toTable.length ∧
    strictSorted (tblWin1252.toTable.map (·.1)) = true ∧ tblWin1252.toTable.getD 0 (1, 1) = (0, 0) ∧
    (∀ b, b < 256 → tblWin1252.fromTable.getD b 0xFFFF ≠ 0xFFFF) := checked.wellformed

theorem roundtrip : ∀ b, b < 256 →
    tblWin1252.fromTable.getD (lookup tblWin1252.toTable (tblWin1252.fromTable.getD b 0xFFFF)) 0xFFFF = tblWin1252.fromTable.getD b 0xFFFF :=
  checked.roundtrip

end XV.Lemmas.ByteTableWin1252

namespace XV.Lemmas.ByteTableEbcdic037

def WellFormed (t : Table) : Prop :=
    t.declaredToSize = t.toTable.length ∧ t.fromTable.length = 256 ∧ 0 < t.toTable.length ∧
    strictSorted (t.toTable.map (·.1)) = true ∧ t.toTable.getD 0 (1, 1) = (0, 0) ∧
    (∀ b, b < 256 → t.fromTable.getD b 0xFFFF ≠ 0xFFFF)

theorem checked : Checked tblEbcdic037 := by decide +kernel

theorem wellformed : tblEbcdic037.declaredToSize = tblEbcdic037.toTable.length ∧ tblEbcdic037.fromTable.length = 256 ∧ 0 < tblEbcdic037.toTable.length ∧
    strictSorted (tblEbcdic037.toTable.map (·.1)) = true ∧ tblEbcdic037.toTable.getD 0 (1, 1) = (0, 0) ∧
    (∀ b, b < 256 → tblEbcdic037.fromTable.getD b 0xFFFF ≠ 0xFFFF) := checked.wellformed

theorem roundtrip : ∀ b, b < 256 →
    tblEbcdic037.fromTable.getD (lookup tblEbcdic037.toTable (tblEbcdic037.fromTable.getD b 0xFFFF)) 0xFFFF = tblEbcdic037.fromTable.getD b 0xFFFF :=
  checked.roundtrip

end XV.Lemmas.ByteTableEbcdic037

namespace XV.Lemmas.ByteTableIbm1047

def WellFormed (t : Table) : Prop :=
    t.declaredToSize = t.toTable.length ∧ t.fromTable.length = 256 ∧ 0 < t.toTable.length ∧
    strictSorted (t.toTable.map (·.1)) = true ∧ t.toTable.getD 0 (1, 1) = (0, 0) ∧
    (∀ b, b < 256 → t.fromTable.getD b 0xFFFF ≠ 0xFFFF)

theorem checked : Checked tblIbm1047 := by decide +kernel

theorem wellformed : tblIbm1047.declaredToSize = tblIbm1047.toTable.length ∧ tblIbm1047.fromTable.length = 256 ∧ 0 < tblIbm1047.toTable.length ∧
    strictSorted (tblIbm1047.toTable.map (·.1)) = true ∧ tblIbm1047.toTable.getD 0 (1, 1) = (0, 0) ∧
    (∀ b, b < 256 → tblIbm1047.fromTable.getD b 0xFFFF ≠ 0xFFFF) := checked.wellformed

theorem roundtrip : ∀ b, b < 256 →
    tblIbm1047.fromTable.getD (lookup tblIbm1047.toTable (tblIbm1047.fromTable.getD b 0xFFFF)) 0xFFFF = tblIbm1047.fromTable.getD b 0xFFFF :=
  checked.roundtrip

end XV.Lemmas.ByteTableIbm1047

namespace XV.Lemmas.ByteTableIbm1140

def WellFormed (t : Table) : Prop :=
    t.declaredToSize = t.toTable.length ∧ t.fromTable.length = 256 ∧ 0 < t.toTable.length ∧
    strictSorted (t.toTable.map (·.1)) = true ∧ t.toTable.getD 0 (1, 1) = (0, 0) ∧
    (∀ b, b < 256 → t.fromTable.getD b 0xFFFF ≠ 0xFFFF)

theorem checked : Checked tblIbm1140 := by decide +kernel

theorem wellformed : tblIbm1140.declaredToSize = tblIbm1140.toTable.length ∧ tblIbm1140.fromTable.length = 256 ∧ 0 < tblIbm1140.toTable.length ∧
    strictSorted (tblIbm1140.toTable.map (·.1)) = true ∧ tblIbm1140.toTable.getD 0 (1, 1) = (0, 0) ∧
    (∀ b, b < 256 → tblIbm1140.fromTable.getD b 0xFFFF ≠ 0xFFFF) := checked.wellformed

theorem roundtrip : ∀ b, b < 256 →
    tblIbm1140.fromTable.getD (lookup tblIbm1140.toTable (tblIbm1140.fromTable.getD b 0xFFFF)) 0xFFFF = tblIbm1140.fromTable.getD b 0xFFFF :=
  checked.roundtrip

end XV.Lemmas.ByteTableIbm1140

namespace XV.Lemmas.ByteCodec

theorem all_checked : ∀ t ∈ all, Checked t :=
  List.forall_mem_cons.2 ⟨ByteTableWin1252.checked, List.forall_mem_cons.2 ⟨ByteTableEbcdic037.checked,
    List.forall_mem_cons.2 ⟨ByteTableIbm1047.checked, List.forall_mem_cons.2 ⟨ByteTableIbm1140.checked,
      fun _ h => nomatch h⟩⟩⟩⟩

end XV.Lemmas.ByteCodec
