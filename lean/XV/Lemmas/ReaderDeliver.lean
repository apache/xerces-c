/-
C04: what is delivered.  First what is needed of the Spec (`normEOL` at a CR, with `dropLF` for the LF that goes with
it) and the equations of the model functions that hand out a character (advance, handleEOL with its look-ahead `lookLF`,
takeChar, getNextChar).  Then, on the readers of `SInv`, refreshCharBuffer leaves `pend` as it is and one getNextChar is
the abstract step `Step`: it hands out the end-of-line normalised head of `pend` and moves the position by `posStep`.
Hence repeated getNextChar hands out all of `pend`, or a prefix of it followed by the exception that the whole-input
reading ends with.
-/
import XV.Lemmas.ReaderInv
namespace XV.Lemmas.ReaderDeliver
open XV.Gen.ReaderConsts
open XV.Model.Utf8 XV.Model.Reader XV.Spec.Reader XV.Lemmas.ReaderDec XV.Lemmas.ReaderInv

theorem eolMask_spec (c : Nat) (h : ((c &&& eolMask) != 0) = true) :
    c ≠ chCR ∧ c ≠ chLF ∧ c ≠ chNEL ∧ c ≠ chLineSeparator := by
  refine ⟨?_, ?_, ?_, ?_⟩ <;> (intro hc; subst hc; exact absurd h (by decide))

theorem normOne_plain (nel : Bool) (c : Nat) (h1 : c ≠ chCR) (h2 : c ≠ chNEL) (h3 : c ≠ chLineSeparator) :
    normOne nel c = c := by
  unfold normOne; simp [h1, h2, h3]

theorem normEOL_cons_ne (nel : Bool) (c : Nat) (t : List Nat) (h : c ≠ chCR) :
    normEOL nel (c :: t) = normOne nel c :: normEOL nel t := by
  rcases t with _ | ⟨d, t'⟩
  · rfl
  · simp [normEOL, h]

/-- what is left of the characters after a CR once the line end is taken off: a LF (NEL) directly after it goes too -/
def dropLF (nel : Bool) : List Nat → List Nat
  | [] => []
  | d :: t => if d = chLF ∨ (d = chNEL ∧ nel = true) then t else d :: t

theorem normEOL_cr (nel : Bool) (t : List Nat) : normEOL nel (chCR :: t) = chLF :: normEOL nel (dropLF nel t) := by
  rcases t with _ | ⟨d, t⟩
  · simp [normEOL, normOne, dropLF]
  · by_cases h : d = chLF ∨ (d = chNEL ∧ nel = true)
    · simp [normEOL, dropLF, h]
    · simp [normEOL, dropLF, h, normOne]

theorem normEOL_cr_nil (nel : Bool) : normEOL nel [chCR] = [chLF] := normEOL_cr nel []

theorem normEOL_cr_cons (nel : Bool) (d : Nat) (t : List Nat) :
    normEOL nel (chCR :: d :: t) =
      if d = chLF ∨ (d = chNEL ∧ nel = true) then chLF :: normEOL nel t else chLF :: normEOL nel (d :: t) := by
  rw [normEOL_cr, dropLF]; split <;> rfl

theorem dropLF_len (nel : Bool) (t : List Nat) : (dropLF nel t).length ≤ t.length := by
  rcases t with _ | ⟨d, t⟩
  · exact Nat.le_refl _
  · rw [dropLF]
    split
    · exact Nat.le_succ _
    · exact Nat.le_refl _

theorem deliver_nil (nel ext : Bool) : deliver nel ext [] = [] := by
  unfold deliver; cases ext <;> rfl

/-- the first `readBytes` of a constructor -/
def firstRead (cfg : Cfg) (s : List (List Nat)) : List Nat := (readBytes s cfg.rawBufSize).1

theorem advance_facts (r : Reader) (hinv : Inv r) (hne : r.charWin ≠ []) :
    Inv r.advance ∧ r.charWin = r.curChar :: r.advance.charWin := by
  obtain ⟨c, w, hw⟩ := List.exists_cons_of_ne_nil hne
  have h1 := hinv.char_len
  have h2 := hinv.size_len
  rw [hw, List.length_cons] at h1 h2
  refine ⟨⟨hinv.raw_len, hinv.raw_le, ?_, hinv.char_le, ?_, hinv.fuel_ok⟩,
    by rw [Reader.curChar, Reader.advance, hw]; rfl⟩
  · show r.charIdx + 1 + r.charWin.tail.length = r.charsAvail
    rw [hw, List.tail_cons]; omega
  · show r.sizeWin.tail.length = r.charWin.tail.length
    rw [List.length_tail, hw, List.tail_cons]; omega

theorem advance_same (r : Reader) : Same r r.advance := ⟨rfl, rfl, rfl, rfl, rfl, rfl, rfl, rfl⟩

theorem win_ne_of_lt (r : Reader) (h : Inv r) (hlt : r.charIdx < r.charsAvail) : r.charWin ≠ [] := by
  intro hw
  have := h.char_len
  rw [hw, List.length_nil] at this
  omega

def setPos (r : Reader) (l c : Nat) : Reader := { r with line := l, col := c }

theorem setPos_inv (r : Reader) (l c : Nat) (h : Inv r) : Inv (setPos r l c) :=
  ⟨h.raw_len, h.raw_le, h.char_len, h.char_le, h.size_len, h.fuel_ok⟩

theorem eatLF_cases (r : Reader) :
    eatLF r = if r.curChar = chLF ∨ (r.curChar = chNEL ∧ r.nel = true) then r.advance else r := by
  rw [eatLF]
  by_cases h : r.curChar = chLF ∨ (r.curChar = chNEL ∧ r.nel = true)
  · rw [if_pos h, if_pos (by simpa using h)]
  · rw [if_neg h, if_neg (by simpa using h)]

/-- handleEOL after a CR in an external entity: `if (fCharIndex < fCharsAvail || refreshCharBuffer())` eat a following LF -/
def lookLF (q : Reader) : HRes :=
  if q.charIdx < q.charsAvail then .ok chLF (eatLF q)
  else match refreshCharBuffer q with
    | .fuelOut => .fuelOut
    | .exc e => .exc e q
    | .ok true r' => .ok chLF (eatLF r')
    | .ok false r' => .ok chLF r'

theorem handleEOL_eq (r : Reader) (c : Nat) : handleEOL r c =
    if c = chCR then
      (if r.external = true then lookLF (setPos r (r.line + 1) 1) else .ok c (setPos r (r.line + 1) 1))
    else if c = chLF then .ok c (setPos r (r.line + 1) 1)
    else if c = chNEL ∨ c = chLineSeparator then
      (if r.nel = true ∧ r.external = true then .ok chLF (setPos r (r.line + 1) 1) else .ok c r)
    else .ok c (setPos r r.line (r.col + 1)) := by
  unfold handleEOL
  simp only [beq_iff_eq, Bool.or_eq_true, Bool.and_eq_true]
  rfl

theorem handleEOL_cr (r : Reader) (hx : r.external = true) : handleEOL r chCR = lookLF (setPos r (r.line + 1) 1) := by
  rw [handleEOL_eq, if_pos rfl, if_pos hx]

/-- handleEOL where it needs no look-ahead: anything but the CR of an external entity -/
theorem handleEOL_plain (r : Reader) (c : Nat) (h : ¬ (c = chCR ∧ r.external = true)) :
    ∃ c', c' = (if r.external = true then normOne r.nel c else c) ∧
      handleEOL r c = .ok c' (setPos r (posStep (r.line, r.col) c').1 (posStep (r.line, r.col) c').2) := by
  refine ⟨_, rfl, ?_⟩
  rw [handleEOL_eq]
  by_cases h1 : c = chCR
  · -- the CR of an internal entity is handed out as it is
    have hx : ¬ r.external = true := fun hx => h ⟨h1, hx⟩
    rw [if_pos h1, if_neg hx, if_neg hx, posStep, if_pos (.inr h1)]
  rw [if_neg h1, normOne, if_neg h1]
  by_cases h3 : c = chNEL ∨ c = chLineSeparator
  · have h2 : ¬ c = chLF := by
      rcases h3 with h3 | h3
      · rw [h3]; decide
      · rw [h3]; decide
    rw [if_neg h2, if_pos h3]
    by_cases h4 : r.nel = true ∧ r.external = true
    · rw [if_pos h4, if_pos h4.2, if_pos (And.intro h3 h4.1)]
      rfl
    · -- not a line end for this reader
      have hc : (if r.external = true then (if (c = chNEL ∨ c = chLineSeparator) ∧ r.nel = true then chLF else c) else c) = c := by
        split
        · rename_i hx
          exact if_neg fun hq => h4 ⟨hq.2, hx⟩
        · rfl
      rw [if_neg h4, hc, posStep, if_neg (not_or.mpr ⟨h2, h1⟩), if_pos h3]
      rfl
  · rw [if_neg (mt And.left h3), ite_self, if_neg h3]
    by_cases h2 : c = chLF
    · rw [if_pos h2, posStep, if_pos (.inl h2)]
    · rw [if_neg h2, posStep, if_neg (not_or.mpr ⟨h2, h1⟩), if_neg h3]

theorem takeChar_eq (r : Reader) : takeChar r =
    if ((r.curChar &&& eolMask) != 0) = true then .char r.curChar (setPos r.advance r.advance.line (r.advance.col + 1))
    else match handleEOL r.advance r.curChar with
      | .ok c r => .char c r
      | .exc e r => .exc e r
      | .fuelOut => .fuelOut := rfl

/-- the `eolMask` test of getNextChar is a short cut: handleEOL does the same to a character that passes it -/
theorem takeChar_handleEOL (r : Reader) : takeChar r =
    match handleEOL r.advance r.curChar with
    | .ok c r => .char c r
    | .exc e r => .exc e r
    | .fuelOut => .fuelOut := by
  rw [takeChar_eq]
  split
  · rename_i hm
    obtain ⟨n1, n2, n3, n4⟩ := eolMask_spec r.curChar hm
    rw [handleEOL_eq, if_neg n1, if_neg n2, if_neg (not_or.mpr ⟨n3, n4⟩)]
  · rfl

theorem getNextChar_eq (r : Reader) : getNextChar r =
    if r.charIdx ≥ r.charsAvail then
      (if r.noMore = true then .eof r
       else match refreshCharBuffer r with
        | .fuelOut => .fuelOut
        | .exc e => .exc e r
        | .ok false r' => .eof r'
        | .ok true r' => takeChar r')
    else takeChar r := rfl

/-- the readers on which refreshCharBuffer conserves `pend` and getNextChar hands out its head: not a parameter entity
(its trailing space is no part of `pend`), a stream that returns nothing only at its end, room for a surrogate pair (`cb`)
and for the longest UTF-8 sequence (`rb`) -/
structure SInv (r : Reader) : Prop where
  inv : Inv r
  clean : Clean r.stream
  pe : r.pe = false
  nomore : NoMoreOK r
  cb : 2 ≤ r.cfg.charBufSize
  rb : 6 ≤ r.cfg.rawBufSize

theorem setPos_pend (r : Reader) (l c : Nat) : pend (setPos r l c) = pend r := rfl

theorem setPos_sinv (r : Reader) (l c : Nat) (h : SInv r) : SInv (setPos r l c) :=
  ⟨setPos_inv r l c h.inv, h.clean, h.pe, h.nomore, h.cb, h.rb⟩

/-- what one successful getNextChar does to `pend` and to the position -/
structure Step (r r' : Reader) (c : Nat) : Prop where
  sinv : SInv r'
  nel : r'.nel = r.nel
  external : r'.external = r.external
  chars : deliver r.nel r.external (pend r).1 = c :: deliver r.nel r.external (pend r').1
  ending : (pend r').2 = (pend r).2
  shorter : (pend r').1.length < (pend r).1.length
  pos : (r'.line, r'.col) = posStep (r.line, r.col) c

theorem advance_sinv (r : Reader) (h : SInv r) (hne : r.charWin ≠ []) :
    SInv r.advance ∧ (pend r).1 = r.curChar :: (pend r.advance).1 ∧ (pend r.advance).2 = (pend r).2 := by
  obtain ⟨a2, a4⟩ := advance_facts r h.inv hne
  have hp : (pend r).1 = r.curChar :: (pend r.advance).1 := by
    show r.charWin ++ _ = _
    rw [a4]; rfl
  refine ⟨⟨a2, h.clean, h.pe, fun hn => ?_, h.cb, h.rb⟩, hp, rfl⟩
  rw [h.nomore hn] at hp
  cases hp

/-- `hle`: refreshCharBuffer as getNextChar and handleEOL call it, on an empty window; the whole character buffer is then
room for the transcoder, and `cb` makes that room for a surrogate pair. -/
theorem refresh_sinv (r : Reader) (h : SInv r) (hle : r.charsAvail ≤ r.charIdx) :
    match refreshCharBuffer r with
    | .ok more r' => SInv r' ∧ Same r r' ∧ pend r' = pend r ∧ (more = false → pend r = ([], .eof)) ∧
        (more = true → r'.charWin ≠ [])
    | .exc e => (pend r).2 = .exc e
    | .fuelOut => False := by
  have hcb := h.cb
  cases hnm : r.noMore with
  | true =>
    rw [refresh_noMore r hnm]
    exact ⟨h, .refl r, rfl, fun _ => h.nomore hnm, nofun⟩
  | false =>
    have hwin : r.charWin = [] := List.eq_nil_of_length_eq_zero (by have := h.inv.char_len; omega)
    have hfull : r.charsAvail - r.charIdx ≠ r.cfg.charBufSize := by omega
    have hc := refresh_cinv r ⟨h.inv, Nat.le_of_succ_le hcb⟩
    rw [refresh_main r hnm hfull, Nat.sub_eq_zero_of_le hle] at hc ⊢
    have hinvx : Inv { r with xcoder := some (encOf r) } :=
      ⟨h.inv.raw_len, h.inv.raw_le, h.inv.char_len, h.inv.char_le, h.inv.size_len, h.inv.fuel_ok⟩
    have hs := xcodeMoreChars_safe _ (r.cfg.charBufSize - 0) hinvx
    have hx := xcodeMoreChars_spec _ (r.cfg.charBufSize - 0) hinvx hcb h.rb h.clean
    cases hxr : xcodeMoreChars { r with xcoder := some (encOf r) } (r.cfg.charBufSize - 0) with
    | fuelOut => rw [hxr] at hc; exact hc
    | exc e => rw [hxr] at hx; exact hx
    | ok chars sizes r1 =>
      rw [hxr] at hc hs hx
      obtain ⟨c1, c2, c3, c4⟩ := hc
      obtain ⟨⟨w, i, a, st, e1⟩, _⟩ := hs
      obtain ⟨hclean, hA, hnil⟩ := hx
      have hf := refreshTail_not_pe r1 chars sizes 0 (by rw [e1]; exact h.pe)
      have hp : pend (refreshTail r1 chars sizes 0) = pend r := by
        rw [hf]
        show (r1.charWin ++ chars ++ (decodeAll (encOf r1) (bytes r1)).1, (decodeAll (encOf r1) (bytes r1)).2) = _
        rw [pend, show decodeAll (encOf r) (bytes r) = _ from hA, hwin, show r1.charWin = [] by rw [e1]; exact hwin,
          show encOf r1 = encOf r by rw [e1]; rfl]
        rfl
      have hno : NoMoreOK (refreshTail r1 chars sizes 0) := fun hnm2 => by
        -- fNoMore has just been set: nothing transcoded
        rw [hf, e1] at hnm2
        have hch : chars = [] := List.eq_nil_of_length_eq_zero (by
          have : (r.noMore || (chars.length + 0 == 0)) = true := hnm2
          rwa [hnm, Bool.false_or, beq_iff_eq] at this)
        rw [hp, pend, hwin, show decodeAll (encOf r) (bytes r) = _ from hnil hch]
        rfl
      exact ⟨⟨c1.inv, by rw [hf]; exact hclean, c2.pe.trans h.pe, hno, by rw [c2.cfg]; exact hcb, by rw [c2.cfg]; exact h.rb⟩,
        c2, hp, fun hm => hp ▸ hno (c3 hm), c4⟩

theorem eatLF_spec (r : Reader) (h : SInv r) (hne : r.charWin ≠ []) :
    SInv (eatLF r) ∧ Same r (eatLF r) ∧ pend (eatLF r) = (dropLF r.nel (pend r).1, (pend r).2) := by
  obtain ⟨a1, a2, a3⟩ := advance_sinv r h hne
  rw [eatLF_cases, a2, dropLF]
  by_cases hd : r.curChar = chLF ∨ (r.curChar = chNEL ∧ r.nel = true)
  · rw [if_pos hd, if_pos hd]
    exact ⟨a1, advance_same r, Prod.ext rfl a3⟩
  · rw [if_neg hd, if_neg hd, ← a2]
    exact ⟨h, .refl r, rfl⟩

theorem lookLF_spec (q : Reader) (h : SInv q) :
    match lookLF q with
    | .ok c q' => c = chLF ∧ SInv q' ∧ Same q q' ∧ pend q' = (dropLF q.nel (pend q).1, (pend q).2)
    | .exc e _ => (pend q).2 = .exc e
    | .fuelOut => False := by
  rw [lookLF]
  by_cases hlt : q.charIdx < q.charsAvail
  · rw [if_pos hlt]
    exact ⟨rfl, eatLF_spec q h (win_ne_of_lt q h.inv hlt)⟩
  · rw [if_neg hlt]
    have hrf := refresh_sinv q h (Nat.le_of_not_lt hlt)
    cases hr : refreshCharBuffer q with
    | fuelOut => rw [hr] at hrf; exact hrf
    | exc e => rw [hr] at hrf; exact hrf
    | ok more r' =>
      rw [hr] at hrf
      obtain ⟨hs, i2, i4, i5, i6⟩ := hrf
      cases more with
      | false =>
        -- nothing follows the CR
        refine ⟨rfl, hs, i2, ?_⟩
        rw [i4, i5 rfl]
        rfl
      | true =>
        obtain ⟨b1, b2, b3⟩ := eatLF_spec r' hs (i6 rfl)
        rw [i2.nel, i4] at b3
        exact ⟨rfl, b1, i2.trans b2, b3⟩

/-- what getNextChar may return on an `SInv` reader `r`, in terms of `pend r` -/
def GPost (r : Reader) : GRes → Prop
  | .char c r' => Step r r' c
  | .eof _ => pend r = ([], .eof)
  | .exc e _ => (pend r).2 = .exc e
  | .fuelOut => False

theorem GPost.transfer {r r' : Reader} {res : GRes} (h : GPost r' res) (hp : pend r' = pend r) (hs : Same r r') :
    GPost r res := by
  cases res with
  | char c r'' =>
    have h : Step r' r'' c := h
    exact ⟨h.sinv, h.nel.trans hs.nel, h.external.trans hs.external, by rw [← hs.nel, ← hs.external, ← hp]; exact h.chars,
      by rw [h.ending, hp], by rw [← hp]; exact h.shorter, by rw [← hs.line, ← hs.col]; exact h.pos⟩
  | eof _ => exact hp.symm.trans h
  | exc e _ => exact (congrArg Prod.snd hp).symm.trans h
  | fuelOut => exact h

theorem takeChar_spec (r : Reader) (h : SInv r) (hne : r.charWin ≠ []) : GPost r (takeChar r) := by
  obtain ⟨hs1, hpa1, hpa2⟩ := advance_sinv r h hne
  have hlen : (pend r.advance).1.length < (pend r).1.length := by rw [hpa1]; exact Nat.lt_succ_self _
  rw [takeChar_handleEOL]
  by_cases hcr : r.curChar = chCR ∧ r.external = true
  · -- the CR of an external entity: a line end, and a following LF goes with it
    rw [hcr.1, handleEOL_cr r.advance hcr.2]
    have hq := lookLF_spec (setPos r.advance (r.advance.line + 1) 1) (setPos_sinv _ _ _ hs1)
    cases hh : lookLF (setPos r.advance (r.advance.line + 1) 1) with
    | fuelOut => rw [hh] at hq; exact hq
    | exc e q' => rw [hh] at hq; exact hpa2.symm.trans hq
    | ok c' q' =>
      rw [hh] at hq
      obtain ⟨rfl, b1, b2, b3⟩ := hq
      refine ⟨b1, b2.nel, b2.external, ?_, by rw [b3]; exact hpa2, ?_, ?_⟩
      · rw [b3, deliver, deliver, hcr.2, if_pos rfl, if_pos rfl, hpa1, hcr.1]
        exact normEOL_cr _ _
      · rw [b3]
        exact Nat.lt_of_le_of_lt (dropLF_len _ _) hlen
      · rw [b2.line, b2.col]
        rfl
  · obtain ⟨c', hc', he⟩ := handleEOL_plain r.advance r.curChar hcr
    -- `advance` leaves the flags alone
    have hc' : c' = if r.external = true then normOne r.nel r.curChar else r.curChar := hc'
    rw [he]
    refine ⟨setPos_sinv _ _ _ hs1, rfl, rfl, ?_, hpa2, hlen, rfl⟩
    rw [setPos_pend, hpa1, deliver, deliver, hc']
    split
    · rename_i hx
      exact normEOL_cons_ne _ _ _ fun hc => hcr ⟨hc, hx⟩
    · rfl

theorem getNextChar_spec (r : Reader) (h : SInv r) : GPost r (getNextChar r) := by
  rw [getNextChar_eq]
  by_cases hge : r.charIdx ≥ r.charsAvail
  · rw [if_pos hge]
    by_cases hnm : r.noMore = true
    · rw [if_pos hnm]; exact h.nomore hnm
    rw [if_neg hnm]
    have hrf := refresh_sinv r h hge
    cases hr : refreshCharBuffer r with
    | fuelOut => rw [hr] at hrf; exact hrf
    | exc e => rw [hr] at hrf; exact hrf
    | ok more r' =>
      rw [hr] at hrf
      obtain ⟨hs3, i2, i4, i5, i6⟩ := hrf
      cases more with
      | false => exact i5 rfl
      | true =>
        exact (takeChar_spec r' hs3 (i6 rfl)).transfer i4 i2
  · rw [if_neg hge]
    exact takeChar_spec r h (win_ne_of_lt r h.inv (by omega))

theorem getNextChar_step {r r' : Reader} {c : Nat} (h : SInv r) (hg : getNextChar r = .char c r') : Step r r' c := by
  have := getNextChar_spec r h
  rwa [hg] at this

theorem deliveredLoop_spec : ∀ (fuel : Nat) (r : Reader), SInv r → (pend r).1.length < fuel →
    (deliveredLoop fuel r).2 = (pend r).2 ∧
    (deliveredLoop fuel r).1 <+: deliver r.nel r.external (pend r).1 ∧
    ((pend r).2 = .eof → (deliveredLoop fuel r).1 = deliver r.nel r.external (pend r).1) := by
  intro fuel
  induction fuel with
  | zero => intro r _ h; omega
  | succ fuel ih =>
    intro r hs hlen
    have hg := getNextChar_spec r hs
    unfold deliveredLoop
    cases hgc : getNextChar r with
    | char c r' =>
      rw [hgc] at hg
      simp only [] at hg ⊢
      obtain ⟨j1, j2, j3⟩ := ih r' hg.sinv (by have := hg.shorter; omega)
      rw [hg.nel, hg.external] at j2 j3
      refine ⟨by rw [j1, hg.ending], ?_, ?_⟩
      · rw [hg.chars]; exact List.cons_prefix_cons.mpr ⟨rfl, j2⟩
      · intro he; rw [hg.chars, j3 (by rw [hg.ending]; exact he)]
    | eof r' =>
      rw [hgc] at hg
      simp only [] at hg ⊢
      rw [hg]
      exact ⟨rfl, by rw [deliver_nil]; exact List.prefix_refl _, fun _ => by rw [deliver_nil]⟩
    | exc e r' =>
      rw [hgc] at hg
      simp only [] at hg ⊢
      exact ⟨hg.symm, List.nil_prefix, fun he => by rw [hg] at he; cases he⟩
    | fuelOut => rw [hgc] at hg; exact hg.elim

theorem pend_len (r : Reader) (h : Inv r) : (pend r).1.length < r.charWin.length + r.rawWin.length + r.fuel := by
  unfold pend
  have h1 := decodeAll_len (encOf r) (bytes r)
  have h2 := h.fuel_ok
  simp only [List.length_append]
  have : (bytes r).length = r.rawWin.length + streamBytes r.stream := by
    unfold bytes; simp only [List.length_append, flatten_len]
  unfold mu at h2
  omega

theorem delivered_of_sinv (r : Reader) (h : SInv r) :
    (delivered r).2 = (pend r).2 ∧
    (delivered r).1 <+: deliver r.nel r.external (pend r).1 ∧
    ((pend r).2 = .eof → (delivered r).1 = deliver r.nel r.external (pend r).1) :=
  deliveredLoop_spec _ r h (pend_len r h.inv)

theorem delivered_congr {r r' : Reader} (h : SInv r) (h' : SInv r') (hp : pend r' = pend r) (hn : r'.nel = r.nel)
    (hx : r'.external = r.external) :
    (delivered r).2 = (delivered r').2 ∧ ((delivered r).2 = .eof → (delivered r).1 = (delivered r').1) ∧
    ((delivered r).1 <+: (delivered r').1 ∨ (delivered r').1 <+: (delivered r).1) := by
  obtain ⟨a1, a2, a3⟩ := delivered_of_sinv r h
  obtain ⟨b1, b2, b3⟩ := delivered_of_sinv r' h'
  rw [hp] at b1 b2 b3
  rw [hn, hx] at b2 b3
  refine ⟨a1.trans b1.symm, fun he => ?_, List.prefix_or_prefix_of_prefix a2 b2⟩
  rw [a1] at he
  rw [a3 he, b3 he]

end XV.Lemmas.ReaderDeliver
