/-
C07 — assembly.  `buildDFA_spec`: what `buildDFA (nodeOfCM c)` returns — the lists are those of `c #` (`DfaData`), the
table satisfies `Tbl`.  The element map covers every leaf name, hence `dfa_iff'`: the code-shaped DFAContentModel
accepts exactly `CM.Lang c`.
-/
import XV.Lemmas.DfaTable
namespace XV.Lemmas.DfaFinal
open XV.Spec.ContentModel XV.Model.ContentModel XV.Lemmas.Glushkov XV.Lemmas.DfaTree XV.Lemmas.DfaRun XV.Lemmas.DfaTable

theorem countLeafNodes_nodeOfCM (c : CM) : countLeafNodes (nodeOfCM c) = size c := by
  induction c <;> simp [countLeafNodes, nodeOfCM, size, *]

theorem mem_elemMapOf (x : Option Name) (l acc : List (Option Name)) (h : x ∈ l ∨ x ∈ acc) : x ∈ elemMapOf l acc := by
  fun_induction elemMapOf l acc with
  | case1 acc => exact h.elim (nomatch ·) id
  | case2 n ns acc hc ih =>
    exact ih (h.elim (fun h => (List.mem_cons.1 h).elim (fun e => .inr (e ▸ List.contains_iff_mem.1 hc)) .inl) .inr)
  | case3 n ns acc _ ih =>
    refine ih (h.elim (fun h => ?_) fun h => .inr (List.mem_append_left _ h))
    exact (List.mem_cons.1 h).elim (fun e => .inr (List.mem_append_right acc (List.mem_singleton.2 e))) .inl

theorem getD_replicate_zero (n p : Nat) : (List.replicate n (0 : Nat)).getD p 0 = 0 := by
  rw [List.getD_eq_getElem?_getD, List.getElem?_replicate]
  split <;> rfl

/-- the lists computed by `buildDFA` for the tree of `c`: its three extra lines (EOC name, edges into EOC, EOC in the
    initial set) are what `buildSyntaxTree` does at the Sequence node over `c` and the EOC leaf -/
theorem dfaData_of_build (c : CM) :
    let st0 : BState := { curIndex := 0, leafList := [], followList := List.replicate (size c + 1) 0 }
    let r := buildSyntaxTree (nodeOfCM c) st0
    DfaData c (r.2.leafList ++ [none]) (addFollow r.2.followList r.1.lastPos (bit (size c)))
      (if r.1.nullable then r.1.firstPos ||| bit (size c) else r.1.firstPos) := by
  intro st0 r
  have T : TreeSpec c st0 r.1 r.2 := buildSyntaxTree_spec c st0
  have A := treeSpec_seq T (treeSpec_leaf 0 r.2)
  rw [T.cur, Nat.zero_add] at A
  refine ⟨congrArg (· ++ [none]) T.leaves, fun p q => (A.follow p q).trans ?_, A.first⟩
  show (((List.replicate (size c + 1) 0).getD p 0).testBit q ||
    (decide (p < (List.replicate (size c + 1) 0).length) && fol (aug c) 0 p q)) = fol (aug c) 0 p q
  rw [getD_replicate_zero, Nat.zero_testBit, Bool.false_or, List.length_replicate]
  -- positions with a follow set are below `size (c #)`
  cases h : fol (aug c) 0 p q
  · exact Bool.and_false _
  · rw [decide_eq_true (Nat.zero_add (size c + 1) ▸ (fol_range h).1.2)]; rfl

theorem stepSet_lt {c : CM} {ll : List (Option Name)} {fl : List StateSet} {head : StateSet}
    (D : DfaData c ll fl head) (S : StateSet) (e : Option Name) : stepSet ll fl S e < 2 ^ (size c + 1) := by
  refine Nat.lt_pow_two_of_testBit _ fun i hi => Bool.eq_false_iff.2 fun h => ?_
  obtain ⟨p, _, _, h3⟩ := (testBit_stepSet ll fl S e i).1 h
  rw [D.fl_eq] at h3
  exact Nat.not_lt.2 hi (Nat.zero_add (size c + 1) ▸ (fol_range h3).2.2)

theorem stepSet_cov (ll : List (Option Name)) (fl : List StateSet) (e : Option Name)
    (he : e ∉ elemMapOf ll []) (S : StateSet) : stepSet ll fl S e = 0 :=
  stepSet_eq_zero fl S fun h => he (mem_elemMapOf e ll [] (.inl h))

theorem buildDFA_spec (c : CM) : ∃ ll fl head ext rows, DfaData c ll fl head ∧
    buildDFA (nodeOfCM c) = some ⟨nullable c, elemMapOf ll [], rows, (head :: ext).map (·.testBit (size c))⟩ ∧
    Tbl ll fl (size c + 1) (elemMapOf ll []) (head :: ext) rows ∧ rows.length = (head :: ext).length := by
  have D := dfaData_of_build c
  have hn := (buildSyntaxTree_spec c
    { curIndex := 0, leafList := [], followList := List.replicate (size c + 1) 0 }).nullable
  dsimp only at D
  obtain ⟨ext, rows, e1, e2, e3⟩ :=
    dfaLoop_spec _ _ (size c + 1) (stepSet_lt D) (elemMapOf _ []) (2 ^ (size c + 1) + 2) [_] []
      ⟨⟨List.cons_ne_nil _ _, List.nodup_nil, nofun⟩, Nat.zero_le _, nofun⟩ (Nat.le_refl _)
  refine ⟨_, _, _, ext, rows, D, ?_, e2, e3⟩
  simp only [buildDFA, countLeafNodes_nodeOfCM, Nat.add_sub_cancel]
  rw [e1, hn]
  rfl

/-- the code-shaped DFAContentModel (construction + table walk) accepts exactly the language of the
    particle, for every particle and every child sequence -/
theorem dfa_iff' (c : CM) (w : List Name) :
    (Model.dfa (nodeOfCM c)).validate w = .ok ↔ CM.Lang c w := by
  obtain ⟨ll, fl, head, ext, rows, D, hb, T, hlen⟩ := buildDFA_spec c
  rw [Model.validate, hb]
  cases w with
  | nil =>
    rw [← nullable_iff_lang_nil]
    simp only [dfaValidate]
    cases nullable c <;> simp
  | cons x w =>
    exact (dfaWalk_spec ll fl (elemMapOf ll []) (head :: ext) rows (size c) (nullable c) T hlen
      (stepSet_cov ll fl) (x :: w) 0 0 head rfl).trans (reach_accepts D x w)

end XV.Lemmas.DfaFinal
