/- For C12, level 1 of XV.Props.C12 (the escaping core): `formatBuf(…, UnRep_CharRef)` of the model writes exactly the reference
escaping `Spec.Escaping.escUnits` (`formatBuf_charRef_eq`), and the reader of XV.Spec.Unescape reads that back as the string
(`Rd.read_escUnits`).  The notions: `Good`, what is asked of a transcoder (`surr`: the halves of a surrogate pair are representable
together or not at all, which reading a pair back needs); `wfUnits`, well-formed UTF-16, which only a transcoder that recombines
pairs needs; `escUnits_cons`, one equation for the first unit of the escaping, with the induction `twoStep` that fits it; `Rd.Reads`,
what the reader makes of a piece of text whatever follows it, so that the read-back is put together piece by piece (`Reads.append`). -/
import XV.Model.Formatter
import XV.Spec.Unescape
import XV.Spec.Escaping
import XV.Lemmas.RangeExp
namespace XV.Lemmas.Formatter
open XV.Model.Formatter XV.Gen.Escapes XV.Spec.Escaping
open XV.Spec.Unescape (numAcc hexDigit decodeRef readChars St refOK literalOK legalUnits highSurr lowSurr utf16 scalarOfPair)

theorem hexDigit_hexChar : ∀ d, d < 16 → hexDigit (hexChar d) = some d := by decide

theorem numAcc_append (dg : Nat → Option Nat) (r : Nat) (l1 l2 : List Nat) (a : Nat) :
    numAcc dg r (l1 ++ l2) a = (numAcc dg r l1 a).bind (numAcc dg r l2) := by
  induction l1 generalizing a with
  | nil => rfl
  | cons d t ih =>
    simp only [List.cons_append, numAcc]
    cases dg d with
    | none => rfl
    | some v => exact ih _

theorem numAcc_hexFuel (f n : Nat) (h : n < 16 ^ f) : numAcc hexDigit 16 (hexFuel f n) 0 = some n := by
  fun_induction hexFuel f n with
  | case1 n => cases Nat.lt_one_iff.1 h; rfl
  | case2 f n h16 => simp only [numAcc, hexDigit_hexChar n h16, Nat.zero_mul, Nat.zero_add]
  | case3 f n _ ih =>
    rw [numAcc_append, ih (Nat.div_lt_of_lt_mul (by rwa [Nat.pow_succ, Nat.mul_comm] at h))]
    simp only [Option.bind_some, numAcc, hexDigit_hexChar _ (Nat.mod_lt n (by decide : 0 < 16)), Option.some.injEq]
    omega

theorem hexChar_range (d : Nat) (h : d < 16) : (48 ≤ hexChar d ∧ hexChar d ≤ 57) ∨ (65 ≤ hexChar d ∧ hexChar d ≤ 70) := by
  unfold hexChar; split <;> omega

theorem hexFuel_mem (f n c : Nat) (h : c ∈ hexFuel f n) : (48 ≤ c ∧ c ≤ 57) ∨ (65 ≤ c ∧ c ≤ 70) := by
  fun_induction hexFuel f n with
  | case1 n => cases h
  | case2 f n h16 => cases List.mem_singleton.1 h; exact hexChar_range n h16
  | case3 f n _ ih =>
    rcases List.mem_append.1 h with h | h
    · exact ih h
    · cases List.mem_singleton.1 h; exact hexChar_range _ (Nat.mod_lt _ (by decide))

theorem hexFuel_ne_nil (f n : Nat) : hexFuel (f + 1) n ≠ [] := by
  unfold hexFuel; split <;> simp

theorem hexDigits_val (n : Nat) (h : n < 18446744073709551616) : numAcc hexDigit 16 (hexDigits n) 0 = some n :=
  numAcc_hexFuel 16 n h

/-! The model's `isHigh`, `isLow`, `scalarUnits` and the reader's `highSurr`, `lowSurr`, `utf16` are the same functions
(`rfl`), so a hypothesis about one is used as one about the other. -/

theorem surr_range {h l : Nat} (hh : highSurr h = true) (hl : lowSurr l = true) :
    (0xD800 ≤ h ∧ h ≤ 0xDBFF) ∧ (0xDC00 ≤ l ∧ l ≤ 0xDFFF) := by
  simpa only [highSurr, lowSurr, Bool.and_eq_true, decide_eq_true_eq] using And.intro hh hl

theorem pair_split {h l : Nat} (hh : highSurr h = true) (hl : lowSurr l = true) :
    ∃ a b, a < 1024 ∧ b < 1024 ∧ h = 0xD800 + a ∧ l = 0xDC00 + b ∧ scalarOfPair h l = 0x10000 + (1024 * a + b) := by
  have hr := surr_range hh hl
  exact ⟨h - 0xD800, l - 0xDC00, by omega, by omega, by omega, by omega, by unfold scalarOfPair; omega⟩

theorem utf16_pair (h l : Nat) (hh : highSurr h = true) (hl : lowSurr l = true) :
    0x10000 ≤ scalarOfPair h l ∧ scalarOfPair h l < 0x110000 ∧ utf16 (scalarOfPair h l) = [h, l] := by
  obtain ⟨a, b, ha, hb, rfl, rfl, e⟩ := pair_split hh hl
  rw [e, utf16, if_neg (by omega), Nat.add_sub_cancel_left, Nat.mul_add_div (by decide), Nat.mul_add_mod,
    Nat.div_eq_of_lt hb, Nat.mod_eq_of_lt hb]
  exact ⟨by omega, by omega, rfl⟩

/-- the 32-bit arithmetic of XMLUTF8Transcoder does not wrap on a surrogate pair -/
theorem pairVal32_eq (h l : Nat) (hh : highSurr h = true) (hl : lowSurr l = true) : pairVal32 h l = scalarOfPair h l := by
  obtain ⟨a, b, ha, hb, rfl, rfl, e⟩ := pair_split hh hl
  rw [e, pairVal32]; omega

/-- nor does the XMLSize_t arithmetic of specialFormat -/
theorem pairRef_eq (h l : Nat) (hh : highSurr h = true) (hl : lowSurr l = true) : pairRef h l = scalarOfPair h l := by
  obtain ⟨a, b, ha, hb, rfl, rfl, e⟩ := pair_split hh hl
  rw [e, pairRef]; omega

theorem noSurr_of_lt {u : Nat} (h : u < 0xD800) : isHigh u = false ∧ isLow u = false := by
  simp only [isHigh, isLow, Bool.and_eq_false_iff, decide_eq_false_iff_not]; omega

def wfUnits : List Nat → Bool
  | [] => true
  | [c] => !isHigh c && !isLow c
  | c :: n :: t => if isHigh c then isLow n && wfUnits t else !isLow c && wfUnits (n :: t)

theorem wf_cons_plain {c : Nat} {t : List Nat} (h1 : isHigh c = false) :
    wfUnits (c :: t) = (!isLow c && wfUnits t) := by
  cases t <;> simp [wfUnits, h1]

theorem wf_append_plain {c : Nat} (hc : isHigh c = false ∧ isLow c = false) (a b : List Nat) :
    wfUnits (a ++ c :: b) = (wfUnits a && wfUnits b) := by
  fun_induction wfUnits a with
  | case1 => simp [wf_cons_plain hc.1, hc.2]
  | case2 x => cases hx : isHigh x <;> simp [wfUnits, hx, hc.2, wf_cons_plain hc.1]
  | case3 x y t hx ih => simp [wfUnits, hx, ih, Bool.and_assoc]
  | case4 x y t hx ih =>
    simp only [List.cons_append] at ih ⊢
    rw [wf_cons_plain (by simpa using hx), ih, Bool.and_assoc]

theorem wf_append (a b : List Nat) (ha : wfUnits a = true) (hb : wfUnits b = true) : wfUnits (a ++ b) = true := by
  fun_induction wfUnits a with
  | case1 => exact hb
  | case2 x =>
    simp only [Bool.and_eq_true, Bool.not_eq_true'] at ha
    rw [List.singleton_append, wf_cons_plain ha.1, ha.2, hb]; rfl
  | case3 x y t hx ih =>
    simp only [Bool.and_eq_true] at ha
    simp only [List.cons_append, wfUnits, hx, if_true, ha.1, ih ha.2, Bool.and_self]
  | case4 x y t hx ih =>
    simp only [Bool.and_eq_true] at ha
    rw [List.cons_append, wf_cons_plain (by simpa using hx), ha.1, ih ha.2]; rfl

theorem wf_of_noSurr (l : List Nat) (h : ∀ u ∈ l, isHigh u = false ∧ isLow u = false) : wfUnits l = true := by
  induction l with
  | nil => rfl
  | cons c t ih =>
    obtain ⟨hc, ht⟩ := List.forall_mem_cons.1 h
    rw [wf_cons_plain hc.1, hc.2, ih ht]; rfl

theorem legalUnits_wf (v11 : Bool) (s : List Nat) (h : legalUnits v11 s = true) : (∀ u ∈ s, u < 65536) ∧ wfUnits s = true := by
  fun_induction legalUnits v11 s with
  | case1 => exact ⟨nofun, rfl⟩
  | case2 c =>
    simp only [Bool.and_eq_true, Bool.not_eq_true', decide_eq_true_eq] at h
    exact ⟨List.forall_mem_singleton.2 h.1.2, by rw [wfUnits, show isHigh c = false from h.1.1.1, show isLow c = false from h.1.1.2]; rfl⟩
  | case3 c n t hh ih =>
    simp only [Bool.and_eq_true] at h
    have hr := surr_range hh h.1
    refine ⟨?_, by rw [wfUnits, if_pos (show isHigh c = true from hh), show isLow n = true from h.1, (ih h.2).2]; rfl⟩
    exact List.forall_mem_cons.2 ⟨by omega, List.forall_mem_cons.2 ⟨by omega, (ih h.2).1⟩⟩
  | case4 c n t hh ih =>
    simp only [Bool.and_eq_true, Bool.not_eq_true', decide_eq_true_eq] at h
    refine ⟨List.forall_mem_cons.2 ⟨h.1.1.2, (ih h.2).1⟩, ?_⟩
    rw [wf_cons_plain (show isHigh c = false from Bool.eq_false_iff.2 hh), show isLow c = false from h.1.1.1, (ih h.2).2]; rfl

structure Good (cd : Coder) : Prop where
  ascii : ∀ c, 32 ≤ c → c < 127 → cd.rep c = true
  asciiBack : ∀ c, 32 ≤ c → c < 127 → cd.back c = c
  surr : (∀ c, 0xD800 ≤ c → c ≤ 0xDFFF → cd.rep c = true) ∨ (∀ c, 0xD800 ≤ c → c ≤ 0xDFFF → cd.rep c = false)
  pairsAll : cd.pairs = true → ∀ c, c < 65536 → cd.rep c = true

/-- printable ASCII, the alphabet of markup and of references, is taken as it stands -/
theorem Good.takes_ascii {cd : Coder} (hg : Good cd) {l : List Nat} (h : ∀ u ∈ l, 32 ≤ u ∧ u < 127) :
    (∀ u ∈ l, cd.ok u) ∧ (cd.pairs = true → wfUnits l = true) :=
  ⟨fun u hu => ⟨hg.ascii u (h u hu).1 (h u hu).2, hg.asciiBack u (h u hu).1 (h u hu).2⟩,
   fun _ => wf_of_noSurr l fun u hu => noSurr_of_lt (by have := h u hu; omega)⟩

theorem xcodeUnits_rep (cd : Coder) (thr : Bool) (run : List Nat) (h : ∀ u ∈ run, cd.ok u) :
    xcodeUnits cd thr run = .ok run := by
  induction run with
  | nil => rfl
  | cons c t ih =>
    obtain ⟨hc, ht⟩ := List.forall_mem_cons.1 h
    simp only [xcodeUnits, hc.1, hc.2, if_true, ih ht, Except.map]

theorem xcodePairs_wf (thr : Bool) (run : List Nat) (hw : wfUnits run = true) : xcodePairs thr run = .ok (run, []) := by
  fun_induction wfUnits run with
  | case1 => rfl
  | case2 c => simp only [Bool.and_eq_true, Bool.not_eq_true'] at hw; simp only [xcodePairs, hw.1, Bool.false_eq_true, if_false]
  | case3 c n t hc ih =>
    simp only [Bool.and_eq_true] at hw
    have hp := utf16_pair c n hc hw.1
    rw [← pairVal32_eq c n hc hw.1] at hp
    simp only [xcodePairs, hc, if_true, ge_iff_le, Nat.not_le.2 hp.2.1, if_false, ih hw.2, Except.map, scalarUnits, utf16] at hp ⊢
    rw [hp.2.2]; rfl
  | case4 c n t hc ih =>
    simp only [Bool.and_eq_true] at hw
    simp only [xcodePairs, hc, Bool.false_eq_true, if_false, ih hw.2, Except.map]

theorem handle_ok (cd : Coder) (unrep : UnRepFlags) (run : List Nat) (h : ∀ u ∈ run, cd.ok u)
    (hw : cd.pairs = true → wfUnits run = true) : handleUnEscapedChars cd unrep run = .ok run := by
  unfold handleUnEscapedChars
  cases run with
  | nil => rfl
  | cons c t =>
    simp only [List.isEmpty_cons, Bool.false_eq_true, if_false]
    by_cases hp : cd.pairs = true
    · simp [hp, xcodePairs_wf _ _ (hw hp)]
    · simp [hp, xcodeUnits_rep cd _ _ h]

theorem getCharRef_ok (cd : Coder) (r : List Nat) (h : ∀ u ∈ r, cd.ok u) (hw : cd.pairs = true → wfUnits r = true) :
    getCharRef cd r = .ok r := by
  unfold getCharRef
  by_cases hp : cd.pairs = true
  · simp [hp, xcodePairs_wf _ _ (hw hp)]
  · simp [hp, xcodeUnits_rep cd _ _ h]

theorem escPlain_append (cfg : Cfg) (esc : EscapeFlags) (a b : List Nat) :
    escPlain cfg esc (a ++ b) = escPlain cfg esc a ++ escPlain cfg esc b := by
  simp [escPlain]

theorem charRefText_mem (v c : Nat) (h : c ∈ charRefText v) : 32 ≤ c ∧ c < 127 := by
  unfold charRefText at h
  rcases List.mem_append.1 h with h | h
  · rcases List.mem_append.1 h with h | h
    · simp only [List.mem_cons, List.not_mem_nil, or_false] at h; omega
    · have := hexFuel_mem 16 v c h; omega
  · cases List.mem_singleton.1 h; omega

theorem refText_cases (c : Nat) :
    ((c = 38 ∨ c = 39 ∨ c = 34 ∨ c = 62 ∨ c = 60) ∧ refText c ∈ [gAmpRef, gAposRef, gQuoteRef, gGTRef, gLTRef] ∧
      ∀ cd, escapeOne cd c = getCharRef cd (refText c)) ∨
    (refText c = charRefText c ∧ ∀ cd, escapeOne cd c = writeCharRef cd c) := by
  fun_cases refText c <;> simp_all [escapeOne]

theorem stdRef_mem : ∀ r ∈ [gAmpRef, gAposRef, gQuoteRef, gGTRef, gLTRef], ∀ c ∈ r, 32 ≤ c ∧ c < 127 := by decide

theorem refText_mem (c u : Nat) (h : u ∈ refText c) : 32 ≤ u ∧ u < 127 := by
  rcases refText_cases c with ⟨_, hs, _⟩ | ⟨hc, _⟩
  · exact stdRef_mem _ hs u h
  · exact charRefText_mem c u (hc ▸ h)

theorem writeCharRef_ok (cd : Coder) (hg : Good cd) (v : Nat) : writeCharRef cd v = .ok (charRefText v) :=
  handle_ok cd _ _ (hg.takes_ascii (charRefText_mem v)).1 (hg.takes_ascii (charRefText_mem v)).2

theorem escapeOne_ok (cd : Coder) (hg : Good cd) (c : Nat) : escapeOne cd c = .ok (refText c) := by
  rcases refText_cases c with ⟨_, hs, he⟩ | ⟨hc, he⟩
  · rw [he]; exact getCharRef_ok cd _ (hg.takes_ascii (stdRef_mem _ hs)).1 (hg.takes_ascii (stdRef_mem _ hs)).2
  · rw [he, hc]; exact writeCharRef_ok cd hg c

theorem scanRow_char (c : Nat) : scanRow (escRow .CharEscapes) c = decide (c = 38 ∨ c = 60 ∨ c = 62 ∨ c = 13) := by
  simp [escRow, escCharEscapes, scanRow, eq_comm]

theorem scanRow_attr (c : Nat) :
    scanRow (escRow .AttrEscapes) c = decide (c = 38 ∨ c = 60 ∨ c = 34 ∨ c = 10 ∨ c = 13 ∨ c = 9) := by
  simp [escRow, escAttrEscapes, scanRow, eq_comm]

theorem scanRow_mem (row : List Nat) (c : Nat) (h : scanRow row c = true) : c ∈ row := by
  fun_induction scanRow row c with
  | case1 => cases h
  | case2 => cases h
  | case3 => exact .head _
  | case4 _ _ _ _ _ ih => exact .tail _ (ih h)

theorem scanRow_lt (esc : EscapeFlags) (c : Nat) (h : scanRow (escRow esc) c = true) : c < 63 := by
  have hm := scanRow_mem _ c h
  clear h
  revert c
  cases esc <;> decide

open XV.Lemmas.RangeExp RExp in
/-- the productions Char (1.0, 1.1) and RestrictedChar as XV.Spec.Unescape writes them: `isChar10 c` is `char10E.eval c` by
unfolding, and so for the other two -/
def char10E : RExp := or (or (or (or (or (pt 9) (pt 10)) (pt 13)) (rng 0x20 0xD7FF)) (rng 0xE000 0xFFFD)) (rng 0x10000 0x10FFFF)
open XV.Lemmas.RangeExp RExp in
def char11E : RExp := or (or (rng 1 0xD7FF) (rng 0xE000 0xFFFD)) (rng 0x10000 0x10FFFF)
open XV.Lemmas.RangeExp RExp in
def restricted11E : RExp := or (or (or (or (rng 1 8) (rng 0xB 0xC)) (rng 0xE 0x1F)) (rng 0x7F 0x84)) (rng 0x86 0x9F)

open XV.Lemmas.RangeExp RExp in
/-- the XML 1.1 rule of `inEscapeList` (a control character that is not white space) selects the RestrictedChars -/
theorem control11_restricted (c : Nat) :
    (inRanges control11 c && !inRanges whitespace11 c) = XV.Spec.Unescape.isRestricted11 c :=
  eq_of_always (a := and (ofRanges control11) (not (ofRanges whitespace11))) (b := restricted11E) (by decide +kernel) c

theorem inEscapeList_eq (cfg : Cfg) (esc : EscapeFlags) (c : Nat) :
    inEscapeList cfg esc c = (scanRow (escRow esc) c ||
      (cfg.xml11 && ((cfg.eolFix && (c == 0x85 || c == 0x2028)) || XV.Spec.Unescape.isRestricted11 c))) := by
  rw [inEscapeList, control11_restricted]
  cases scanRow (escRow esc) c <;> cases cfg.xml11 <;> cases (cfg.eolFix && (c == 0x85 || c == 0x2028)) <;> rfl

/-- every unit the escape table (or the XML 1.1 rule) selects lies below the surrogates -/
theorem inEscapeList_lt (cfg : Cfg) (esc : EscapeFlags) (c : Nat) (h : inEscapeList cfg esc c = true) : c < 0x2029 := by
  simp only [inEscapeList_eq, XV.Spec.Unescape.isRestricted11, Bool.or_eq_true, Bool.and_eq_true, beq_iff_eq,
    decide_eq_true_eq] at h
  rcases h with h | h
  · have := scanRow_lt esc c h; omega
  · omega

theorem escd_high (cfg : Cfg) (esc : EscapeFlags) (u : Nat) (h : 0x2029 ≤ u) : escd cfg esc u = false := by
  cases hh : inEscapeList cfg esc u with
  | false => simp [escd, hh]
  | true => have := inEscapeList_lt cfg esc u hh; omega

theorem escd_eq (cfg : Cfg) {esc : EscapeFlags} (hne : esc ≠ .NoEscapes) (c : Nat) : escd cfg esc c = inEscapeList cfg esc c := by
  simp [escd, hne]

theorem not_escaped (cfg : Cfg) {esc : EscapeFlags} (hne : esc ≠ .NoEscapes) (c : Nat) (h : escd cfg esc c = false) :
    scanRow (escRow esc) c = false ∧ (cfg.xml11 = true → cfg.eolFix = true → c ≠ 0x85 ∧ c ≠ 0x2028) := by
  rw [escd_eq cfg hne, inEscapeList_eq, Bool.or_eq_false_iff] at h
  refine ⟨h.1, fun h1 h2 => ?_⟩
  have := h.2
  simp only [h1, h2, Bool.true_and, Bool.or_eq_false_iff, beq_eq_false_iff_ne] at this
  exact this.1

/-- `handleUnEscapedChars` tests for the empty run itself -/
theorem flushRun_eq (cd : Coder) (unrep : UnRepFlags) (run : List Nat) :
    flushRun cd unrep run = handleUnEscapedChars cd unrep run := by
  unfold flushRun handleUnEscapedChars
  split
  · rfl
  · rfl

theorem escLoop_ok (cd : Coder) (hg : Good cd) (cfg : Cfg) (esc : EscapeFlags) (hne : esc ≠ .NoEscapes)
    (unrep : UnRepFlags) (src run : List Nat) (hr : ∀ u ∈ run ++ src, cd.ok u)
    (hw : cd.pairs = true → wfUnits (run ++ src) = true) :
    escLoop cd cfg esc unrep src run = .ok (run ++ escPlain cfg esc src) := by
  fun_induction escLoop cd cfg esc unrep src run with
  | case1 run =>
    rw [List.append_nil] at hr hw
    rw [flushRun_eq, handle_ok cd unrep _ hr hw, escPlain, List.flatMap_nil, List.append_nil]
  | case2 c t run he ih =>
    obtain ⟨hr1, hr2⟩ := List.forall_mem_append.1 hr
    have hc := noSurr_of_lt (u := c) (by have := inEscapeList_lt cfg esc c he; omega)
    have hw' : cd.pairs = true → wfUnits run = true ∧ wfUnits t = true := fun hp => by
      rw [← Bool.and_eq_true, ← wf_append_plain hc]; exact hw hp
    rw [flushRun_eq, handle_ok cd unrep run hr1 fun hp => (hw' hp).1, escapeOne_ok cd hg c,
      ih (List.forall_mem_cons.1 hr2).2 fun hp => (hw' hp).2]
    simp [seq3, escPlain, escd_eq cfg hne, he]
  | case3 c t run he ih =>
    rw [ih (by simpa using hr) (by simpa using hw)]
    simp [escPlain, escd_eq cfg hne, he]

theorem formatPlain_ok (cd : Coder) (hg : Good cd) (cfg : Cfg) (esc : EscapeFlags) (unrep : UnRepFlags)
    (run : List Nat) (hr : ∀ u ∈ run, cd.ok u) (hw : cd.pairs = true → wfUnits run = true) :
    formatPlain cd cfg esc unrep run = .ok (escPlain cfg esc run) := by
  unfold formatPlain
  split
  · rename_i hne
    rw [handle_ok cd unrep run hr hw, hne]
    simp [escPlain, escd]
  · rename_i hne
    rw [escLoop_ok cd hg cfg esc hne unrep run [] hr hw]; rfl

theorem flushPlain_ok (cd : Coder) (hg : Good cd) (cfg : Cfg) (esc : EscapeFlags)
    (run : List Nat) (hr : ∀ u ∈ run, cd.ok u) (hw : cd.pairs = true → wfUnits run = true) :
    flushPlain cd cfg esc run = .ok (escPlain cfg esc run) := by
  unfold flushPlain
  split
  · rename_i h; rw [List.isEmpty_iff.1 h]; rfl
  · exact formatPlain_ok cd hg cfg esc .UnRep_Fail _ hr hw

/-- the reference escaping unit by unit: after an unrepresentable high surrogate the next unit goes into the same reference -/
theorem escUnits_cons (cd : Coder) (cfg : Cfg) (esc : EscapeFlags) (c : Nat) (t : List Nat) :
    escUnits cd cfg esc (c :: t) =
      if cd.rep c then (if escd cfg esc c then refText c else [c]) ++ escUnits cd cfg esc t
      else if isHigh c then charRefText (pairRef c (t.headD 0)) ++ escUnits cd cfg esc t.tail
      else charRefText c ++ escUnits cd cfg esc t := by
  cases t with
  | nil => simp only [escUnits, List.append_nil, List.headD_nil, List.tail_nil]
  | cons n t => rfl

theorem escUnits_rep_cons (cd : Coder) (cfg : Cfg) (esc : EscapeFlags) (c : Nat) (t : List Nat) (h : cd.rep c = true) :
    escUnits cd cfg esc (c :: t) = (if escd cfg esc c then refText c else [c]) ++ escUnits cd cfg esc t := by
  rw [escUnits_cons, if_pos h]

theorem escUnits_unrep_plain (cd : Coder) (cfg : Cfg) (esc : EscapeFlags) (c : Nat) (t : List Nat)
    (h : cd.rep c = false) (hh : isHigh c = false) :
    escUnits cd cfg esc (c :: t) = charRefText c ++ escUnits cd cfg esc t := by
  rw [escUnits_cons, h, hh]; rfl

theorem escUnits_unrep_pair (cd : Coder) (cfg : Cfg) (esc : EscapeFlags) (c n : Nat) (t : List Nat)
    (h : cd.rep c = false) (hh : isHigh c = true) :
    escUnits cd cfg esc (c :: n :: t) = charRefText (pairRef c n) ++ escUnits cd cfg esc t := by
  rw [escUnits_cons, h, hh]; rfl

theorem specialLoop_cons (cd : Coder) (cfg : Cfg) (esc : EscapeFlags) (c : Nat) (t run : List Nat) :
    specialLoop cd cfg esc (c :: t) run =
      if cd.rep c then specialLoop cd cfg esc t (run ++ [c])
      else if isHigh c then
        seq3 (flushPlain cd cfg esc run) (writeCharRef cd (pairRef c (t.headD 0))) (specialLoop cd cfg esc t.tail [])
      else seq3 (flushPlain cd cfg esc run) (writeCharRef cd c) (specialLoop cd cfg esc t []) := by
  cases t <;> rfl

/-- induction for what looks at a unit and, after a high surrogate, at the next one too: the claim for the rest and for
the rest without its first unit -/
theorem twoStep {P : List Nat → Prop} (nil : P []) (cons : ∀ c t, P t → P t.tail → P (c :: t)) (l : List Nat) : P l := by
  suffices P l ∧ P l.tail from this.1
  induction l with
  | nil => exact ⟨nil, nil⟩
  | cons c t ih => exact ⟨cons c t ih.1 ih.2, ih.1⟩

/-- `run` is what `specialFormat` has passed over since the last reference; the transcoder takes it, and it gives back
the units of `src` it accepts.  Only a transcoder that recombines pairs cares about well-formedness, and that one
accepts every unit (`Good.pairsAll`), so after a reference `run ++ src` need not be looked at again. -/
theorem specialLoop_ok (cd : Coder) (hg : Good cd) (cfg : Cfg) (esc : EscapeFlags) (src run : List Nat) :
    (∀ u ∈ run, cd.ok u) → (∀ u ∈ src, u < 65536 ∧ (cd.rep u = true → cd.back u = u)) →
    (cd.pairs = true → wfUnits (run ++ src) = true) →
      specialLoop cd cfg esc src run = .ok (escPlain cfg esc run ++ escUnits cd cfg esc src) := by
  induction src using twoStep generalizing run with
  | nil =>
    intro hr _ hw
    rw [List.append_nil] at hw
    simp [specialLoop, escUnits, flushPlain_ok cd hg cfg esc run hr hw]
  | cons c t ih ih' =>
    intro hr hs hw
    obtain ⟨hc', ht⟩ := List.forall_mem_cons.1 hs
    rw [specialLoop_cons, escUnits_cons]
    by_cases hc : cd.rep c = true
    · have hr' : ∀ u ∈ run ++ [c], cd.ok u :=
        List.forall_mem_append.2 ⟨hr, List.forall_mem_singleton.2 ⟨hc, hc'.2 hc⟩⟩
      rw [if_pos hc, if_pos hc, ih _ hr' ht (by simpa using hw)]
      simp [escPlain]
    · -- a transcoder that refuses a unit does not recombine pairs, and does not ask for well-formedness
      have nop : ∀ {l : List Nat}, cd.pairs = true → wfUnits l = true := fun hp => absurd (hg.pairsAll hp _ hc'.1) hc
      rw [if_neg hc, if_neg hc, flushPlain_ok cd hg cfg esc run hr nop, writeCharRef_ok cd hg, writeCharRef_ok cd hg,
        ih [] nofun ht nop, ih' [] nofun (fun u h => ht u (List.mem_of_mem_tail h)) nop]
      split <;> simp [seq3, escPlain]

/-- **What `formatBuf(…, UnRep_CharRef)` writes**, for every string of 16-bit units when the transcoder works
unit by unit, and for every well-formed UTF-16 string when it recombines surrogate pairs — provided the units the
transcoder accepts are read back unchanged (`hb`; this excludes the best-fit entries of the table transcoders). -/
theorem formatBuf_charRef_eq (cd : Coder) (hg : Good cd) (cfg : Cfg) (esc : EscapeFlags) (s : List Nat)
    (hu : ∀ u ∈ s, u < 65536) (hb : ∀ u ∈ s, cd.rep u = true → cd.back u = u)
    (hw : cd.pairs = true → wfUnits s = true) :
    formatBuf cd cfg esc .UnRep_CharRef s = .ok (escUnits cd cfg esc s) := by
  rw [formatBuf, if_pos rfl, specialLoop_ok cd hg cfg esc s [] nofun (fun u h => ⟨hu u h, hb u h⟩) hw]; rfl

theorem escUnits_rep (cd : Coder) (hg : Good cd) (cfg : Cfg) (esc : EscapeFlags) (s : List Nat) :
    ∀ u ∈ escUnits cd cfg esc s, cd.rep u = true := by
  have asc : ∀ l : List Nat, (∀ u ∈ l, 32 ≤ u ∧ u < 127) → ∀ u ∈ l, cd.rep u = true :=
    fun l h u hu => hg.ascii u (h u hu).1 (h u hu).2
  induction s using twoStep with
  | nil => exact nofun
  | cons c t ih ih' =>
    rw [escUnits_cons]
    by_cases hc : cd.rep c = true
    · rw [if_pos hc]
      refine List.forall_mem_append.2 ⟨?_, ih⟩
      split
      · exact asc _ (refText_mem c)
      · exact List.forall_mem_singleton.2 hc
    · rw [if_neg hc]
      split
      · exact List.forall_mem_append.2 ⟨asc _ (charRefText_mem _), ih'⟩
      · exact List.forall_mem_append.2 ⟨asc _ (charRefText_mem _), ih⟩

namespace Rd
open XV.Spec.Unescape

/-- where the reader stands between two units of character data (`attr = false`) or of an attribute value, not after a CR,
it takes `x` for `y`, whatever follows.  `b` is its count of `]` just read (`St.norm`); a literal may leave it other
than 0, hence `b'`. -/
def Reads (v11 attr : Bool) (x y : List Nat) : Prop :=
  ∀ t b, ∃ b', readChars v11 attr (x ++ t) (.norm false b) = (readChars v11 attr t (.norm false b')).map (y ++ ·)

theorem Reads.nil {v11 attr : Bool} : Reads v11 attr [] [] := fun t b => ⟨b, by simp⟩

theorem Reads.append {v11 attr : Bool} {x y x' y' : List Nat} (h : Reads v11 attr x y) (h' : Reads v11 attr x' y') :
    Reads v11 attr (x ++ x') (y ++ y') := fun t b => by
  obtain ⟨b1, e1⟩ := h (x' ++ t) b
  obtain ⟨b2, e2⟩ := h' t b1
  refine ⟨b2, ?_⟩
  rw [List.append_assoc, e1, e2, Option.map_map]
  congr 1; funext l; exact (List.append_assoc ..).symm

theorem Reads.whole {v11 attr : Bool} {x y : List Nat} (h : Reads v11 attr x y) (b : Nat) :
    readChars v11 attr x (.norm false b) = some y := by
  obtain ⟨b', e⟩ := h [] b
  simpa [readChars] using e

theorem read_ref_aux (v11 attr : Bool) (us t : List Nat) : ∀ (body acc : List Nat), (∀ x ∈ body, x ≠ 59) →
    decodeRef v11 (acc ++ body) = some us →
    readChars v11 attr (body ++ 59 :: t) (.ref acc) = (readChars v11 attr t (.norm false 0)).map (us ++ ·) := by
  intro body
  induction body with
  | nil => intro acc _ hd; rw [List.append_nil] at hd; simp only [List.nil_append, readChars, if_true, hd]
  | cons x r ih =>
    intro acc h hd
    obtain ⟨hx, hr⟩ := List.forall_mem_cons.1 h
    simp only [List.cons_append, readChars, hx, if_false]
    exact ih (acc ++ [x]) hr (by simpa using hd)

theorem read_ref (v11 attr : Bool) (body us : List Nat) (h59 : ∀ x ∈ body, x ≠ 59) (hd : decodeRef v11 body = some us) :
    Reads v11 attr (38 :: body ++ [59]) us := fun t b => ⟨0, by
  simp only [List.cons_append, List.append_assoc, List.nil_append, readChars, Bool.false_and, Bool.false_eq_true,
    if_false, if_true]
  exact read_ref_aux v11 attr us t body [] h59 hd⟩

theorem read_pair (v11 attr : Bool) (h l : Nat) (hh : highSurr h = true) (hl : lowSurr l = true) :
    Reads v11 attr [h, l] [h, l] := fun t b => ⟨0, by
  have hr := surr_range hh hl
  have ne : ∀ k, k < 0xD800 → (h = k) = False := fun k hk => eq_false (by omega)
  simp [readChars, ne, hh, hl]⟩

theorem read_charRef (v11 attr : Bool) (v : Nat) (hv : v < 18446744073709551616) (hok : refOK v11 v = true) :
    Reads v11 attr (charRefText v) (utf16 v) := by
  have hne : (hexDigits v).isEmpty = false := by simpa [hexDigits] using hexFuel_ne_nil 15 v
  have hd : decodeRef v11 (35 :: 120 :: hexDigits v) = some (utf16 v) := by
    simp only [decodeRef, hne, Bool.false_eq_true, if_false, hexDigits_val v hv, hok, if_true]
  have h59 : ∀ x ∈ 35 :: 120 :: hexDigits v, x ≠ 59 :=
    List.forall_mem_cons.2 ⟨by decide, List.forall_mem_cons.2 ⟨by decide, fun x hx => by have := hexFuel_mem 16 v x hx; omega⟩⟩
  exact read_ref v11 attr _ _ h59 hd

theorem read_refText (v11 attr : Bool) (c : Nat) (hlt : c < 0x10000) (hok : refOK v11 c = true) :
    Reads v11 attr (refText c) [c] := by
  rcases refText_cases c with ⟨hstd, _⟩ | ⟨hc, _⟩
  · rcases hstd with rfl | rfl | rfl | rfl | rfl
    · exact read_ref v11 attr [97, 109, 112] [38] (by decide) (by rfl)
    · exact read_ref v11 attr [97, 112, 111, 115] [39] (by decide) (by rfl)
    · exact read_ref v11 attr [113, 117, 111, 116] [34] (by decide) (by rfl)
    · exact read_ref v11 attr [103, 116] [62] (by decide) (by rfl)
    · exact read_ref v11 attr [108, 116] [60] (by decide) (by rfl)
  · have := read_charRef v11 attr c (by omega) hok
    rwa [utf16, if_pos hlt, ← hc] at this

theorem refOK_supp (v11 : Bool) (v : Nat) (h1 : 0x10000 ≤ v) (h2 : v < 0x110000) : refOK v11 v = true := by
  cases v11 <;> simp [refOK, isChar10, isChar11] <;> omega

/-- the row of a reading context: character data, or an attribute value between double quotes -/
abbrev rowOf (attr : Bool) : EscapeFlags := if attr then .AttrEscapes else .CharEscapes

/-- **the rows are sufficient**: a legal unit that `inEscapeList` does not select is one the reader takes as it
stands — under XML 1.0, and under XML 1.1 once NEL and LSEP are selected (`heol`) -/
theorem read_unescaped (cfg : Cfg) (heol : cfg.xml11 = true → cfg.eolFix = true) (attr : Bool) (c : Nat)
    (nh : highSurr c = false) (nl : lowSurr c = false) (hok : refOK cfg.xml11 c = true)
    (he : inEscapeList cfg (rowOf attr) c = false) : Reads cfg.xml11 attr [c] [c] := fun t b => by
  simp only [inEscapeList_eq, Bool.or_eq_false_iff] at he
  obtain ⟨hrow, h11⟩ := he
  have lit : literalOK cfg.xml11 c = true := by
    cases hx : cfg.xml11 with
    | false => rw [hx] at hok; exact hok
    | true =>
      rw [hx] at hok h11
      simp only [Bool.true_and, Bool.or_eq_false_iff] at h11
      simp only [literalOK, if_true, h11.2, Bool.not_false, Bool.and_true]; exact hok
  have hv : cfg.xml11 = true → c ≠ 0x85 ∧ c ≠ 0x2028 := fun hx => by
    simp only [hx, heol hx, Bool.true_and, Bool.or_eq_false_iff, beq_eq_false_iff_ne] at h11
    exact h11.1
  cases attr with
  | true =>
    simp only [rowOf, if_true, scanRow_attr, decide_eq_false_iff_not, not_or] at hrow
    obtain ⟨n38, n60, n34, n10, n13, n9⟩ := hrow
    cases hx : cfg.xml11 with
    | true => exact ⟨_, by simp [readChars, n38, n60, n13, n34, n9, n10, (hv hx).1, (hv hx).2, hx ▸ lit, nh, nl]; rfl⟩
    | false => exact ⟨_, by simp [readChars, n38, n60, n13, n34, n9, n10, hx ▸ lit, nh, nl]; rfl⟩
  | false =>
    simp only [rowOf, Bool.false_eq_true, if_false, scanRow_char, decide_eq_false_iff_not, not_or] at hrow
    obtain ⟨n38, n60, n62, n13⟩ := hrow
    by_cases h10 : c = 10
    · exact ⟨0, by simp [readChars, h10]⟩
    · cases hx : cfg.xml11 with
      | true => exact ⟨_, by simp [readChars, n38, n60, n13, n62, h10, (hv hx).1, (hv hx).2, hx ▸ lit, nh, nl]; rfl⟩
      | false => exact ⟨_, by simp [readChars, n38, n60, n13, n62, h10, hx ▸ lit, nh, nl]; rfl⟩

theorem read_escUnits (cd : Coder) (hg : Good cd) (cfg : Cfg) (heol : cfg.xml11 = true → cfg.eolFix = true) (attr : Bool)
    (s : List Nat) (hleg : legalUnits cfg.xml11 s = true) : Reads cfg.xml11 attr (escUnits cd cfg (rowOf attr) s) s := by
  have hne : rowOf attr ≠ .NoEscapes := by cases attr <;> decide
  have one : ∀ c t, highSurr c = false → lowSurr c = false → c < 0x10000 → refOK cfg.xml11 c = true →
      Reads cfg.xml11 attr (escUnits cd cfg (rowOf attr) t) t →
      Reads cfg.xml11 attr (escUnits cd cfg (rowOf attr) (c :: t)) (c :: t) := by
    intro c t hh hlow hlt hok iht
    by_cases hc : cd.rep c = true
    · rw [escUnits_rep_cons cd cfg _ c _ hc, escd_eq cfg hne]
      cases he : inEscapeList cfg (rowOf attr) c with
      | true => exact (read_refText cfg.xml11 attr c hlt hok).append iht
      | false => exact (read_unescaped cfg heol attr c hh hlow hok he).append iht
    · rw [escUnits_unrep_plain cd cfg _ c t (by simpa using hc) hh]
      have := read_charRef cfg.xml11 attr c (by omega) hok
      rw [utf16, if_pos hlt] at this
      exact this.append iht
  fun_induction legalUnits cfg.xml11 s with
  | case1 => exact .nil
  | case2 c =>
    simp only [Bool.and_eq_true, Bool.not_eq_true', decide_eq_true_eq] at hleg
    exact one c [] hleg.1.1.1 hleg.1.1.2 hleg.1.2 hleg.2 .nil
  | case3 c n t hh ih =>
    simp only [Bool.and_eq_true] at hleg
    have hp := utf16_pair c n hh hleg.1
    have hr := surr_range hh hleg.1
    by_cases hc : cd.rep c = true
    · have hn : cd.rep n = true := by
        rcases hg.surr with h | h
        · exact h n (by omega) (by omega)
        · rw [h c (by omega) (by omega)] at hc; cases hc
      rw [escUnits_rep_cons cd cfg _ c _ hc, escUnits_rep_cons cd cfg _ n _ hn, escd_high cfg _ c (by omega),
        escd_high cfg _ n (by omega)]
      exact (read_pair cfg.xml11 attr c n hh hleg.1).append (ih hleg.2)
    · rw [escUnits_unrep_pair cd cfg _ c n t (by simpa using hc) hh, pairRef_eq c n hh hleg.1]
      have := read_charRef cfg.xml11 attr _ (by omega) (refOK_supp cfg.xml11 _ hp.1 hp.2.1)
      rw [hp.2.2] at this
      exact this.append (ih hleg.2)
  | case4 c n t hh ih =>
    simp only [Bool.and_eq_true, Bool.not_eq_true', decide_eq_true_eq] at hleg
    exact one c (n :: t) (by simpa using hh) hleg.1.1.1 hleg.1.1.2 hleg.1.2 (ih hleg.2)

end Rd
end XV.Lemmas.Formatter
