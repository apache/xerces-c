/-
C04: the transcoders as stream decoders: what the reader needs of a `transcodeFrom` function.

`DecOK D A k` relates `D` to the whole-input reading `A` (XV.Spec.Reader.decodeAll) by what a call may return (`Ret`):
it consumes a prefix made of complete sequences whose decoding does not depend on what follows, an exception is the one
the reading of the whole input ends in, and a call that consumes nothing although there is room for a surrogate pair has
fewer than `k` bytes in front of it, all of one incomplete sequence.  `decode_bounds` is the smaller contract, the
lengths of what a call returns, which is all that the index invariant of the reader needs.  Both hold of the four
modelled transcoders.
-/
import XV.Spec.Reader
import XV.Lemmas.Utf8
namespace XV.Lemmas.ReaderDec
open XV.Model.Utf8 XV.Model.Reader XV.Spec.Reader XV.Lemmas.Utf8
open XV.Spec.Utf8 (utf16)

def Ret (A : List Nat → List Nat × End) (k : Nat) (src : List Nat) (room : Nat) : Res → Prop
  | .ok c _ n => (0 < n → 0 < c.length) ∧
      (∀ ext, A (src ++ ext) = (c ++ (A (src.drop n ++ ext)).1, (A (src.drop n ++ ext)).2)) ∧
      (n = 0 → 2 ≤ room → src.length < k ∧ (src ≠ [] → A src = ([], .exc .badSrcSeq)))
  | .exc e => ∀ ext, (A (src ++ ext)).2 = .exc e

structure DecOK (D : List Nat → Nat → Res) (A : List Nat → List Nat × End) (k : Nat) : Prop where
  nil : A [] = ([], .eof)
  ret : ∀ src room, Ret A k src room (D src room)

theorem DecOK.of_eq {D A k} (h : DecOK D A k) {src room res} (e : D src room = res) : Ret A k src room res :=
  e ▸ h.ret src room

theorem all8_succ (fuel : Nat) (src : List Nat) : all8 (fuel + 1) src =
    match next src with
    | .more => ([], if src = [] then .eof else .exc .badSrcSeq)
    | .exc e => ([], .exc e)
    | .val v n =>
      if v > 0x10FFFF then ([], .exc .badSrcSeq)
      else (utf16 v ++ (all8 fuel (src.drop n)).1, (all8 fuel (src.drop n)).2) := by
  rcases src with _ | ⟨b0, rest⟩
  · rfl
  rw [all8]
  simp only [next]
  by_cases hb : b0 ≤ 127
  · rw [if_pos hb, if_pos hb]
    simp only [utf16_bmp (by omega : b0 < 65536)]
    rw [if_neg (by omega)]
    rfl
  rw [if_neg hb, if_neg hb]
  cases decodeStep (b0 :: rest) with
  | more => rfl
  | exc e => rfl
  | val v n =>
    simp only []
    by_cases h1 : v < 65536
    · rw [if_pos h1, if_neg (by omega), utf16_bmp h1]; rfl
    · rw [if_neg h1, utf16_pair h1]; rfl

theorem all8_fuel : ∀ (f f' : Nat) (src : List Nat), src.length ≤ f → src.length ≤ f' → all8 f src = all8 f' src := by
  intro f
  induction f with
  | zero =>
    intro f' src h _
    obtain rfl := List.eq_nil_of_length_eq_zero (Nat.le_zero.mp h)
    cases f' <;> rfl
  | succ f ih =>
    intro f' src h h'
    cases f' with
    | zero =>
      obtain rfl := List.eq_nil_of_length_eq_zero (Nat.le_zero.mp h')
      rfl
    | succ f' =>
      rw [all8_succ, all8_succ]
      cases hn : next src with
      | more => rfl
      | exc e => rfl
      | val v n =>
        obtain ⟨h1, h2⟩ := next_val hn
        have := utf16_len v
        simp only []
        rw [ih f' (src.drop n) (by rw [List.length_drop]; omega) (by rw [List.length_drop]; omega)]

/-- the whole-input UTF-8 reading -/
def A8 (src : List Nat) : List Nat × End := all8 src.length src

theorem A8_nil : A8 [] = ([], .eof) := rfl

theorem A8_next (src : List Nat) : A8 src =
    match next src with
    | .more => ([], if src = [] then .eof else .exc .badSrcSeq)
    | .exc e => ([], .exc e)
    | .val v n =>
      if v > 0x10FFFF then ([], .exc .badSrcSeq)
      else (utf16 v ++ (A8 (src.drop n)).1, (A8 (src.drop n)).2) := by
  rcases src with _ | ⟨b0, rest⟩
  · rfl
  unfold A8
  rw [List.length_cons, all8_succ]
  cases hn : next (b0 :: rest) with
  | more => rfl
  | exc e => rfl
  | val v n =>
    have := utf16_len v
    simp only []
    rw [all8_fuel rest.length _ _ (by have := next_val hn; rw [List.length_drop, List.length_cons]; omega) (Nat.le_refl _)]

theorem A8_val {src : List Nat} {v n : Nat} (hn : next src = .val v n) (hv : ¬ v > 0x10FFFF) (ext : List Nat) :
    A8 (src ++ ext) = (utf16 v ++ (A8 (src.drop n ++ ext)).1, (A8 (src.drop n ++ ext)).2) := by
  rw [A8_next, next_full (by rw [hn]; nofun) ext, hn]
  simp only []
  rw [if_neg hv, List.drop_append_of_le_length (next_val hn).2]

theorem A8_encodeAll : ∀ (ss : List Nat), XV.Spec.Utf8.Scalars ss → ∀ rest,
    A8 (XV.Spec.Utf8.encodeAll ss ++ rest) = (XV.Spec.Utf8.utf16All ss ++ (A8 rest).1, (A8 rest).2)
  | [], _, _ => rfl
  | s :: ss, hs, rest => by
    obtain ⟨hs0, hss⟩ := scalars_cons.1 hs
    obtain ⟨hwf, hval⟩ := scalar_wf_encode s hs0
    have hn : next (XV.Spec.Utf8.encode s) = .val s (XV.Spec.Utf8.encode s).length := by
      have := next_complete _ [] hwf
      rwa [List.append_nil, hval] at this
    rw [encodeAll_cons, List.append_assoc, A8_val hn (Nat.not_lt.mpr (Nat.le_of_lt_succ hs0.1)), List.drop_length,
      List.nil_append, A8_encodeAll ss hss rest, utf16All_cons, List.append_assoc]

/-- What a run of `fromLoop` on `src`, started with `chars` and `eaten` in hand, may return: the new characters are the
reading of the bytes eaten, whatever follows `src`.  Last clause: with room for a surrogate pair nothing is eaten only in
front of an incomplete sequence, unless more than 32 characters are in hand (then a value above 10FFFF makes the
transcoder stop where otherwise it throws). -/
def Good (src : List Nat) (room : Nat) (chars : List Nat) (eaten : Nat) : Res → Prop
  | .ok c _ n => ∃ c' n', c = chars ++ c' ∧ n = eaten + n' ∧ (0 < n' → 0 < c'.length) ∧
      (∀ ext, A8 (src ++ ext) = (c' ++ (A8 (src.drop n' ++ ext)).1, (A8 (src.drop n' ++ ext)).2)) ∧
      (n' = 0 → 2 ≤ room → chars.length ≤ 32 → next src = .more)
  | .exc e => ∀ ext, (A8 (src ++ ext)).2 = .exc e

theorem Good.stop {src : List Nat} {room : Nat} {chars sizes : List Nat} {eaten : Nat}
    (h : 2 ≤ room → chars.length ≤ 32 → next src = .more) : Good src room chars eaten (.ok chars sizes eaten) :=
  ⟨[], 0, (List.append_nil _).symm, rfl, fun h => absurd h (Nat.lt_irrefl _), fun _ => rfl, fun _ => h⟩

theorem Good.step {src : List Nat} {room : Nat} {chars : List Nat} {eaten v n : Nat} {res : Res}
    (hn : next src = .val v n) (hv : ¬ v > 0x10FFFF)
    (h : Good (src.drop n) (room - (utf16 v).length) (chars ++ utf16 v) (eaten + n) res) :
    Good src room chars eaten res := by
  cases res with
  | exc e =>
    intro ext
    rw [A8_val hn hv ext]
    exact h ext
  | ok c s m =>
    obtain ⟨c', n', e1, e2, _, e7, _⟩ := h
    have hpos := (utf16_len v).1
    refine ⟨utf16 v ++ c', n + n', by rw [e1, List.append_assoc], by rw [e2, Nat.add_assoc], fun _ => ?_, fun ext => ?_,
      fun h0 => absurd (Nat.eq_zero_of_add_eq_zero_right h0) (Nat.ne_of_gt (Nat.lt_of_lt_of_le hpos (next_val hn).1))⟩
    · rw [List.length_append]
      exact Nat.add_pos_left hpos _
    · rw [A8_val hn hv ext, e7 ext, List.drop_drop, List.append_assoc]

theorem run_good {src : List Nat} {room : Nat} {chars sizes : List Nat} {eaten : Nat} {res : Res}
    (h : Run src room chars sizes eaten res) : Good src room chars eaten res := by
  induction h with
  | full => exact .stop fun h => absurd h (by decide)
  | more hn => exact .stop fun _ _ => hn
  | exc _ hn =>
    intro ext
    rw [A8_next, next_full (by rw [hn]; nofun) ext, hn]
  | @over src room chars sizes eaten v n _ hn hv =>
    by_cases hc : chars.length > 32
    · rw [if_pos hc]; exact .stop fun _ h => absurd hc (Nat.not_lt.mpr h)
    · rw [if_neg hc]
      intro ext
      rw [A8_next, next_full (by rw [hn]; nofun) ext, hn]
      exact congrArg Prod.snd (if_pos hv)
  | @tight src room chars sizes eaten v n _ hroom =>
    exact .stop fun h => absurd (Nat.lt_of_lt_of_le hroom (utf16_len v).2) (Nat.not_lt.mpr h)
  | @item src room chars sizes eaten v n res hn hv _ _ ih => exact .step hn (Nat.not_lt.mpr hv) ih

theorem decOK_utf8 : DecOK transcodeFrom (decodeAll .utf8) 6 := by
  refine ⟨rfl, fun src room => ?_⟩
  have := run_good (fromLoop_run src.length src room [] [] 0 (Nat.le_refl _))
  show Ret A8 6 src room (fromLoop src.length src room [] [] 0)
  generalize fromLoop src.length src room [] [] 0 = res at this ⊢
  cases res with
  | exc e => exact this
  | ok c s n =>
    obtain ⟨c', n', rfl, rfl, e6, e7, e9⟩ := this
    rw [Nat.zero_add] at *
    refine ⟨e6, e7, fun h0 hroom => ?_⟩
    have hm := e9 h0 hroom (Nat.zero_le _)
    refine ⟨next_more hm, fun hne => ?_⟩
    rw [A8_next, hm]
    exact congrArg (Prod.mk []) (if_neg hne)

theorem decOK_latin1 : DecOK decLatin1 (decodeAll .latin1) 1 := by
  refine ⟨rfl, fun src room => ⟨fun h => ?_, fun ext => ?_, fun h0 hroom => ?_⟩⟩
  · rw [List.length_take]; omega
  · show (src ++ ext, End.eof) = (src.take _ ++ (src.drop _ ++ ext), End.eof)
    rw [← List.append_assoc, List.take_append_drop]
  · have : src.length = 0 := by omega
    rw [List.eq_nil_of_length_eq_zero this]
    exact ⟨Nat.zero_lt_one, fun h => absurd rfl h⟩

theorem allAscii_fst_snd (l : List Nat) : allAscii l = ((allAscii l).1, (allAscii l).2) := rfl

theorem asciiLoop_stream (src : List Nat) (room done : Nat) :
    match asciiLoop src room done with
    | some cs => cs.length ≤ room ∧ cs.length ≤ src.length ∧
        (∀ ext, allAscii (src ++ ext) = (cs ++ (allAscii (src.drop cs.length ++ ext)).1, (allAscii (src.drop cs.length ++ ext)).2)) ∧
        (cs = [] → 1 ≤ room → done ≤ 32 → src = [])
    | none => ∀ ext, (allAscii (src ++ ext)).2 = .exc .unrepresentable := by
  fun_induction asciiLoop src room done with
  | case1 => exact ⟨Nat.zero_le _, Nat.zero_le _, fun _ => rfl, fun _ _ _ => rfl⟩
  | case2 b rest done => exact ⟨Nat.zero_le _, Nat.zero_le _, fun _ => rfl, fun _ h => absurd h (by omega)⟩
  | case3 b rest room done hr hb ih =>
    cases hl : asciiLoop rest (room - 1) (done + 1) with
    | none =>
      rw [hl] at ih
      intro ext
      rw [List.cons_append, allAscii, if_pos hb]
      exact ih ext
    | some cs =>
      rw [hl] at ih
      obtain ⟨h1, h2, h3, _⟩ := ih
      refine ⟨Nat.succ_le_of_lt (by omega), Nat.succ_le_succ h2, fun ext => ?_, nofun⟩
      rw [List.cons_append, allAscii, if_pos hb, h3 ext]
      rfl
  | case4 b rest room done hr hb hd => exact ⟨Nat.zero_le _, Nat.zero_le _, fun _ => rfl, fun _ _ h => absurd h (by omega)⟩
  | case5 b rest room done hr hb hd =>
    intro ext
    rw [List.cons_append, allAscii, if_neg hb]

theorem decOK_ascii : DecOK decAscii (decodeAll .ascii) 1 := by
  refine ⟨rfl, fun src room => ?_⟩
  have := asciiLoop_stream src room 0
  unfold decAscii
  generalize asciiLoop src room 0 = o at this ⊢
  cases o with
  | none => exact this
  | some cs =>
    refine ⟨id, this.2.2.1, fun h0 hroom => ?_⟩
    rw [this.2.2.2 (List.eq_nil_of_length_eq_zero h0) (Nat.le_of_succ_le hroom) (Nat.zero_le _)]
    exact ⟨Nat.zero_lt_one, fun h => absurd rfl h⟩

theorem units16_split (le : Bool) : ∀ (m : Nat) (l ext : List Nat), 2 * m ≤ l.length →
    units16 le (l ++ ext) = (units16 le l).take m ++ units16 le (l.drop (2 * m) ++ ext)
  | 0, _, _, _ => rfl
  | _ + 1, [], _, h => (Nat.not_succ_le_zero _ h).elim
  | _ + 1, [_], _, h => (Nat.not_succ_le_zero _ (Nat.le_of_succ_le_succ h)).elim
  | m + 1, a :: b :: l', ext, h => by
    show units16 le (a :: b :: (l' ++ ext)) = _ :: ((units16 le l').take m ++ units16 le (l'.drop (2 * m) ++ ext))
    rw [units16, units16_split le m l' ext (Nat.le_of_succ_le_succ (Nat.le_of_succ_le_succ h))]

theorem units16_length (le : Bool) : ∀ l : List Nat, (units16 le l).length = l.length / 2
  | [] => rfl
  | [_] => (Nat.div_eq_of_lt (Nat.lt_succ_self 1)).symm
  | a :: b :: l => by
    show (units16 le (a :: b :: l)).length = (l.length + 2) / 2
    rw [units16, List.length_cons, units16_length le l, Nat.add_div_right _ Nat.two_pos]

/-- `decodeAll .utf16le` / `.utf16be`, the byte order a parameter -/
def A16 (le : Bool) (src : List Nat) : List Nat × End :=
  (units16 le src, if src.length % 2 = 1 then .exc .badSrcSeq else .eof)

theorem units16_take {le : Bool} {src : List Nat} {k : Nat} (h : k ≤ src.length / 2) :
    2 * k ≤ src.length ∧ ((units16 le src).take k).length = k :=
  ⟨Nat.le_trans (Nat.le_of_eq (Nat.mul_comm 2 k)) (Nat.mul_le_of_le_div _ _ _ h),
    List.length_take_of_le (by rw [units16_length]; exact h)⟩

theorem decOK_utf16 (le : Bool) : DecOK (decUtf16 le) (A16 le) 2 := by
  refine ⟨rfl, fun src room => ?_⟩
  unfold decUtf16
  generalize hk : min (src.length / 2) room = k
  obtain ⟨h2, hl⟩ := units16_take (le := le) (show k ≤ src.length / 2 from hk ▸ Nat.min_le_left _ _)
  refine ⟨fun h => ?_, fun ext => ?_, fun h0 hroom => ?_⟩
  · rw [hl]
    exact Nat.pos_of_mul_pos_left h
  · unfold A16
    rw [units16_split le k src ext h2, List.length_append, List.length_append, List.length_drop]
    rw [show (src.length + ext.length) % 2 = (src.length - 2 * k + ext.length) % 2 by omega]
  · have hlt : src.length < 2 := by omega
    refine ⟨hlt, ?_⟩
    rcases src with _ | ⟨a, _ | ⟨b, r⟩⟩
    · exact fun h => absurd rfl h
    · exact fun _ => rfl
    · exact absurd hlt (by simp only [List.length_cons]; omega)

/-- longest incomplete sequence + 1, per encoding -/
def maxSeq : Enc → Nat
  | .utf8 => 6 | .latin1 => 1 | .ascii => 1 | .utf16le => 2 | .utf16be => 2

theorem decOK (enc : Enc) : DecOK (decode enc) (decodeAll enc) (maxSeq enc) := by
  cases enc
  · exact decOK_utf8
  · exact decOK_latin1
  · exact decOK_ascii
  · exact decOK_utf16 true
  · exact decOK_utf16 false

theorem maxSeq_le6 (enc : Enc) : maxSeq enc ≤ 6 := by cases enc <;> simp [maxSeq]

theorem decode_bounds (enc : Enc) {src : List Nat} {room : Nat} {c s : List Nat} {n : Nat}
    (h : decode enc src room = .ok c s n) : n ≤ src.length ∧ c.length ≤ room ∧ s.length = c.length := by
  have h16 : ∀ le, decUtf16 le src room = .ok c s n → n ≤ src.length ∧ c.length ≤ room ∧ s.length = c.length := by
    intro le h
    cases h
    obtain ⟨h2, hl⟩ := units16_take (le := le) (Nat.min_le_left (src.length / 2) room)
    exact ⟨h2, Nat.le_trans (Nat.le_of_eq hl) (Nat.min_le_right _ _), List.length_replicate.trans hl.symm⟩
  cases enc with
  | utf8 =>
    have := run_bounds (fromLoop_run src.length src room [] [] 0 (Nat.le_refl _))
    rw [show fromLoop src.length src room [] [] 0 = _ from h] at this
    obtain ⟨h1, h2, h3⟩ := this
    exact ⟨Nat.le_trans h1 (Nat.le_of_eq (Nat.zero_add _)), Nat.le_trans h2 (Nat.le_of_eq (Nat.zero_add _)), h3⟩
  | latin1 =>
    cases h
    have hk : (src.take (min src.length room)).length = min src.length room :=
      List.length_take_of_le (Nat.min_le_left _ _)
    exact ⟨Nat.min_le_left _ _, Nat.le_trans (Nat.le_of_eq hk) (Nat.min_le_right _ _), List.length_replicate.trans hk.symm⟩
  | ascii =>
    have := asciiLoop_stream src room 0
    replace h : decAscii src room = _ := h
    unfold decAscii at h
    generalize asciiLoop src room 0 = o at this h
    cases o with
    | none => cases h
    | some cs =>
      cases h
      exact ⟨this.2.1, this.1, List.length_replicate⟩
  | utf16le => exact h16 true h
  | utf16be => exact h16 false h

theorem all8_len : ∀ (fuel : Nat) (src : List Nat), (all8 fuel src).1.length ≤ src.length := by
  intro fuel
  induction fuel with
  | zero => intro src; exact Nat.zero_le _
  | succ f ih =>
    intro src
    rw [all8_succ]
    cases hn : next src with
    | more => exact Nat.zero_le _
    | exc e => exact Nat.zero_le _
    | val v n =>
      obtain ⟨h1, h2⟩ := next_val hn
      simp only []
      split
      · exact Nat.zero_le _
      · have := ih (src.drop n)
        rw [List.length_drop] at this
        rw [List.length_append]
        omega

theorem allAscii_len : ∀ (src : List Nat), (allAscii src).1.length ≤ src.length := by
  intro src
  induction src with
  | nil => simp [allAscii]
  | cons b rest ih =>
    unfold allAscii
    split
    · simp only [List.length_cons]; omega
    · simp

theorem decodeAll_len (enc : Enc) (src : List Nat) : (decodeAll enc src).1.length ≤ src.length := by
  cases enc
  · exact all8_len _ _
  · simp [decodeAll]
  · exact allAscii_len _
  · simp only [decodeAll, units16_length]; omega
  · simp only [decodeAll, units16_length]; omega

end XV.Lemmas.ReaderDec
