/-
C08 — counting states, specification side: `compact_lang`, the particle language of a compact tree is the
language of its skeleton cut down by the block check `chk`.
-/
import XV.Lemmas.ParticleCountSpec
namespace XV.Lemmas.ParticleCount
open XV.Spec.Particle XV.Model.Particle XV.Model.ParticleDfa XV.Lemmas.Particle XV.Lemmas.ParticleExpand
open XV.Spec.ContentModel (CM)
open XV.Lemmas.Glushkov (names size lang_names)
open XV.Lemmas.ContentModel (lang_seq lang_choice)

theorem rep_leaf_iff (a mn : Nat) (mx : Option Nat) (w : List Nat) :
    PLang SymM (.rep mn mx (.leaf a)) w ↔ (∀ x, x ∈ w → x = a) ∧ mn ≤ w.length ∧ ∀ m, mx = some m → w.length ≤ m := by
  rw [rep_inv, XV.Lemmas.Lang.rep_syms (· = a) fun u => by simp [leaf_inv, SymM]]

theorem chk_block (r : Rng) (a mn : Nat) (mx : Option Nat) (hr : r a = some (mn, mx)) (hocc : occOk mn mx = true) :
    ∀ w : List Nat, (∀ x, x ∈ w → x = a) →
      (chk r none 0 w = true ↔ w = [] ∨ (mn ≤ w.length ∧ ∀ m, mx = some m → w.length ≤ m))
  | [], _ => by simp [chk, endOk]
  | x :: w, hw => by
    obtain rfl := hw x List.mem_cons_self
    -- the first child is within `maxOccurs` since that is at least 1
    rw [chk, localOK, if_neg nofun, if_neg nofun, endOk, Bool.true_and,
      chk_same r x mn mx hr w 1 (fun y hy => hw y (List.mem_cons_of_mem _ hy)) ((rangeOk_iff 1 mx).1 (rangeOk_one hocc)),
      Nat.add_comm 1, or_iff_right (List.cons_ne_nil x w)]
    rfl

/-- a range on a leaf: the words of the `*` / `+` (`l` = 0 / 1) around the leaf whose one block passes the check -/
theorem loop_lang (r : Rng) (a mn : Nat) (mx : Option Nat) (hr : r a = some (mn, mx)) (hocc : occOk mn mx = true)
    (l : Nat) (hl : l ≤ mn) (h0 : l = 0 → mn = 0) (w : List Nat) :
    PLang SymM (.rep mn mx (.leaf a)) w ↔ PLang SymM (.rep l none (.leaf a)) w ∧ chk r none 0 w = true := by
  rw [rep_leaf_iff, rep_leaf_iff, and_assoc]
  refine and_congr_right fun hw => ?_
  rw [chk_block r a mn mx hr hocc w hw]
  constructor
  · exact fun h => ⟨⟨Nat.le_trans hl h.1, nofun⟩, .inr h⟩
  · rintro ⟨⟨hk, _⟩, rfl | h⟩
    · exact ⟨Nat.le_of_eq (h0 (Nat.le_zero.1 hk)), fun _ _ => Nat.zero_le _⟩
    · exact h

theorem chk_of_lang {c : CM} {R : Rng} (hR : ∀ a, a ∈ names c → R a = none) {w : List Nat} (hl : CM.Lang c w) :
    chk R none 0 w = true :=
  chk_none R w fun y hy => hR y (lang_names hl y hy)

theorem isCM_lang {x : XNode Nat} {c : CM} (h : IsCM x c) {R : Rng} (hR : ∀ a, a ∈ names c → R a = none) (w : List Nat) :
    PLang SymM x.toParticle w ↔ CM.Lang c w ∧ chk R none 0 w = true :=
  (h.lang w).symm.trans (and_iff_left_of_imp (chk_of_lang hR)).symm

theorem chk_split (r : Rng) (u v : List Nat) (hd : ∀ y, y ∈ u → y ∉ v) :
    chk r none 0 (u ++ v) = (chk r none 0 u && chk r none 0 v) := by
  cases v with
  | nil => simp [chk, endOk]
  | cons y v => exact chk_append r y v u none 0 nofun fun h => hd y h List.mem_cons_self

/-- `R` is any table of occurrence ranges that is right on every leaf of `x` (the table of a tree around `x`) -/
theorem compact_lang (x : XNode Nat) (hc : Compact x = true) (hn : (names (sk x)).Nodup) (R : Rng)
    (hR : ∀ i, i ∈ leafInfos x → R i.1 = i.2) (w : List Nat) :
    PLang SymM x.toParticle w ↔ CM.Lang (sk x) w ∧ chk R none 0 w = true := by
  fun_induction Compact x generalizing w with
  | case1 a => exact isCM_lang (.leaf a) (fun y hy => List.mem_singleton.1 hy ▸ hR (a, none) List.mem_cons_self) w
  | case2 t a =>
    cases t <;> refine isCM_lang (.unary _ (.leaf a)) ?_ w <;>
      exact fun y hy => List.mem_singleton.1 hy ▸ hR (a, none) List.mem_cons_self
  | case3 mn mx a =>
    -- the skeleton `a*` allows any number of `a`s, the block check cuts it down to the range
    rw [Bool.and_eq_true, beq_iff_eq] at hc
    exact (loop_lang R a mn mx (hR (a, some (mn, mx)) List.mem_cons_self) hc.2 0 (Nat.zero_le _) (fun _ => hc.1) w).trans
      (and_congr_left' ((IsCM.unary .ZeroOrMore (.leaf a)).lang w).symm)
  | case4 mn mx a =>
    rw [Bool.and_eq_true, decide_eq_true_eq] at hc
    exact (loop_lang R a mn mx (hR (a, some (mn, mx)) List.mem_cons_self) hc.2 1 hc.1 nofun w).trans
      (and_congr_left' ((IsCM.unary .OneOrMore (.leaf a)).lang w).symm)
  | case5 x1 x2 ih1 ih2 =>
    rw [Bool.and_eq_true] at hc
    obtain ⟨hn1, hn2, hd⟩ := List.nodup_append.1 hn
    have hR1 := fun i hi => hR i (List.mem_append_left _ hi)
    have hR2 := fun i hi => hR i (List.mem_append_right _ hi)
    rw [toParticle_seq, seq_inv, show sk (.bin .Sequence x1 x2) = .seq (sk x1) (sk x2) from rfl, lang_seq]
    -- the two halves have no child in common, so a block never spans the cut
    have key : ∀ u v, CM.Lang (sk x1) u → CM.Lang (sk x2) v →
        chk R none 0 (u ++ v) = (chk R none 0 u && chk R none 0 v) := fun u v hu hv =>
      chk_split R u v fun y hy hy' => hd y (lang_names hu y hy) y (lang_names hv y hy') rfl
    constructor
    · rintro ⟨u, v, rfl, hu, hv⟩
      obtain ⟨hu1, hu2⟩ := (ih1 hc.1 hn1 hR1 u).1 hu
      obtain ⟨hv1, hv2⟩ := (ih2 hc.2 hn2 hR2 v).1 hv
      exact ⟨⟨u, v, rfl, hu1, hv1⟩, by rw [key u v hu1 hv1, hu2, hv2]; rfl⟩
    · rintro ⟨⟨u, v, rfl, hu, hv⟩, hk⟩
      rw [key u v hu hv, Bool.and_eq_true] at hk
      exact ⟨u, v, rfl, (ih1 hc.1 hn1 hR1 u).2 ⟨hu, hk.1⟩, (ih2 hc.2 hn2 hR2 v).2 ⟨hv, hk.2⟩⟩
  | case6 x1 x2 ih1 ih2 =>
    rw [Bool.and_eq_true] at hc
    obtain ⟨hn1, hn2, hd⟩ := List.nodup_append.1 hn
    have hR1 := fun i hi => hR i (List.mem_append_left _ hi)
    have hR2 := fun i hi => hR i (List.mem_append_right _ hi)
    rw [toParticle_choice, choice_inv, show sk (.bin .Choice x1 x2) = .choice (sk x1) (sk x2) from rfl, lang_choice,
      ih1 hc.1 hn1 hR1 w, ih2 hc.2 hn2 hR2 w, or_and_right]
  | case7 => cases hc

end XV.Lemmas.ParticleCount
