/- For C12, whole trees: what the serializer model writes for a tree is, unit for unit, the rendering of the concrete syntax
tree `toNodes` — `node e (unitsNode n) = .ok (U (renderNodes (toNodes e.cfg n)))` for a `Transparent` transcoder and the
serializer as it is now (`Fixed`), node kind by node kind (`node_out`), then with the XML declaration (`document_out`).
Text and attribute values meet in `escStr`: it is what `render` prints for `v.map textLeaf` and what `formatBuf` writes for
`U v`. -/
import XV.Lemmas.TreeScan
import XV.Lemmas.Infoset
namespace XV.Lemmas.TreeOut
open XV.Model.TreeSyntax XV.Model.Formatter XV.Model.Cdata XV.Spec.Escaping XV.Gen.Escapes
open XV.Model.Serializer (node nodes attrOut rawF rawCR seqL document Env invalid ensureValidString)
open XV.Lemmas.TreeUnits XV.Lemmas.TreeScan XV.Lemmas.Formatter XV.Lemmas.Serializer
open XV.Spec.Xml
open XV.Lemmas.Infoset (renderToks_append)

def renderNodes (ns : List Node) : Str := renderToks (Node.toksL ns)

theorem toksL_append (a b : List Node) : Node.toksL (a ++ b) = Node.toksL a ++ Node.toksL b := by
  induction a with
  | nil => rfl
  | cons n r ih => simp only [List.cons_append, Node.toksL, ih, List.append_assoc]

theorem renderNodes_append (a b : List Node) : renderNodes (a ++ b) = renderNodes a ++ renderNodes b := by
  simp [renderNodes, toksL_append, renderToks_append]

theorem renderNodes_leaf (l : Leaf) : renderNodes [.leaf l] = renderLeaf l := List.append_nil _

/-- in the shape `toNodes` has for text (`f := textLeaf cfg`) and for the pieces of a CDATA section (`f := .cdata`) -/
theorem renderNodes_leaves {α} (f : α → Leaf) (l : List α) :
    renderNodes (l.map fun x => .leaf (f x)) = renderLeaves (l.map f) := by
  induction l with
  | nil => rfl
  | cons x r ih => exact congrArg (renderLeaf (f x) ++ ·) ih

def stdNames : List (Char × Str) :=
  [('&', ['a', 'm', 'p']), ('\'', ['a', 'p', 'o', 's']), ('"', ['q', 'u', 'o', 't']), ('>', ['g', 't']), ('<', ['l', 't'])]

/-- the `switch` of formatBuf, looked at once: `refLeaf`, `refPiece` and `refText` name a predefined entity for the
same five characters and are the hexadecimal character reference for every other one.  What holds of the five is
then checked by evaluation over `stdNames`. -/
theorem ref_cases (c : Char) :
    (∃ p ∈ stdNames, c = p.1 ∧ refLeaf c = .eref p.2 ∧ refPiece c = .eref p.2) ∨
    (refLeaf c = .cref ⟨true, hexStr c.toNat⟩ ∧ refPiece c = .cref ⟨true, hexStr c.toNat⟩ ∧
      refText c.toNat = charRefText c.toNat) := by
  by_cases h : ∃ p ∈ stdNames, c.toNat = p.1.toNat
  · obtain ⟨p, hp, h⟩ := h
    cases Char.toNat_inj.1 h
    exact .inl ⟨p, hp, rfl, (by decide : ∀ p ∈ stdNames, refLeaf p.1 = .eref p.2 ∧ refPiece p.1 = .eref p.2) p hp⟩
  · simp only [stdNames, List.mem_cons, List.not_mem_nil, or_false, exists_eq_or_imp, exists_eq_left, Char.reduceToNat, not_or] at h
    exact .inr (by simp only [refLeaf, refPiece, refText, h, if_false, and_self])

theorem render_hexRef (n : Nat) : renderCharRef ⟨true, hexStr n⟩ = asciiStr (charRefText n) := by
  simp [renderCharRef, charRefText, asciiStr, hexStr]

theorem render_refLeaf (c : Char) : renderLeaf (refLeaf c) = asciiStr (refText c.toNat) := by
  rcases ref_cases c with ⟨p, hp, rfl, h, _⟩ | ⟨h, _, ht⟩
  · rw [h]; exact (by decide : ∀ p ∈ stdNames, renderLeaf (.eref p.2) = asciiStr (refText p.1.toNat)) p hp
  · rw [h, ht]; exact render_hexRef _

theorem render_refPiece (c : Char) : renderPiece (refPiece c) = asciiStr (refText c.toNat) := by
  rcases ref_cases c with ⟨p, hp, rfl, _, h⟩ | ⟨_, h, ht⟩
  · rw [h]; exact (by decide : ∀ p ∈ stdNames, renderPiece (.eref p.2) = asciiStr (refText p.1.toNat)) p hp
  · rw [h, ht]; exact render_hexRef _

theorem render_text (cfg : Cfg) (v : Str) : renderLeaves (v.map (textLeaf cfg)) = escStr cfg .CharEscapes v := by
  induction v with
  | nil => rfl
  | cons c t ih =>
    simp only [List.map_cons, renderLeaves, ih, escStr, List.flatMap_cons]
    congr 1
    unfold textLeaf
    split
    · exact render_refLeaf c
    · rfl

theorem render_attval (cfg : Cfg) (v : Str) : renderPieces (v.map (attPiece cfg)) = escStr cfg .AttrEscapes v := by
  induction v with
  | nil => rfl
  | cons c t ih =>
    simp only [List.map_cons, renderPieces, ih, escStr, List.flatMap_cons]
    congr 1
    unfold attPiece
    split
    · exact render_refPiece c
    · rfl

theorem writePiece_U (cd : Coder) (ht : Transparent cd) (p : Str) :
    writePiece cd (U p) = .ok (U (renderLeaf (.cdata p))) := by
  have hr : U (renderLeaf (.cdata p)) = gStartCDATA ++ U p ++ gEndCDATA := by
    rw [renderLeaf, U_append, U_append]; rfl
  have hA : ∀ l, (∀ u ∈ l, 32 ≤ u ∧ u < 127) → raw cd l = .ok l :=
    fun l h => handle_ok cd _ l (ht.good.takes_ascii h).1 (ht.good.takes_ascii h).2
  rw [writePiece, U_isEmpty, hr]
  cases p with
  | nil => exact hA _ (by decide)
  | cons c t =>
    rw [if_neg (by simp), procUnrep, XV.Lemmas.Cdata.unrepLoop_rep cd _ _ (fun u hu => (ht.all u (U_lt _ u hu)).1), List.nil_append, flushCdata, U_isEmpty,
      if_neg (by simp),
      hA gStartCDATA (by decide), hA gEndCDATA (by decide), handle_ok cd _ _ (nameOK_U cd ht _).1 (nameOK_U cd ht _).2]
    rfl

theorem seqAll_pieces (cd : Coder) (ht : Transparent cd) (ps : List Str) :
    seqAll ((ps.map U).map (writePiece cd)) = .ok (U (renderLeaves (ps.map Leaf.cdata))) := by
  induction ps with
  | nil => rfl
  | cons p r ih =>
    simp only [List.map_cons, seqAll, seq2, writePiece_U cd ht p, ih, seq3, renderLeaves, U_append]
    simp

theorem cdata_U (cd : Coder) (ht : Transparent cd) (v : Str) :
    procCdataFixed cd (U v) = .ok (U (renderLeaves ((splitFixedC v []).map Leaf.cdata))) := by
  rw [procCdataFixed, ← U_nil, splitFixed_U, seqAll_pieces cd ht]

open XV.Lemmas.RangeExp RExp in
theorem nameChar_legal (v11 : Bool) (c : Char) (h : isNameCharC c = true) : legalC v11 c = true :=
  legal_of_class (or (ofRanges XV.Spec.XmlChar.nameStart) (ofRanges XV.Spec.XmlChar.nameCharExtra)) (by decide +kernel) v11 c
    (by rw [eval, ← XV.Lemmas.CharTable.inRanges_eval, ← XV.Lemmas.CharTable.inRanges_eval]; exact h)

theorem name_legal (v11 : Bool) (n : Str) (h : isName n = true) : n.all (legalC v11) = true := by
  cases n with
  | nil => exact absurd h nofun
  | cons c t =>
    simp only [isName, Bool.and_eq_true] at h
    have h1 : isNameCharC c = true := Bool.or_eq_true_iff.2 (.inl h.1)
    exact List.all_eq_true.2 fun x hx => (List.mem_cons.1 hx).elim (· ▸ nameChar_legal v11 c h1)
      fun hx => nameChar_legal v11 x (List.all_eq_true.1 h.2 x hx)

/-- the serializer as it is in the repository now: split-cdata-sections on, the repaired CDATA branch, the
well-formedness checks of comments and PIs -/
structure Fixed (e : Env) : Prop where
  split : e.feat.splitCdata = true
  cdata : e.feat.cdataFix = true
  wf : e.feat.wfFix = true

theorem renderAttr_toAttr (cfg : Cfg) (a : Str × Str) :
    renderAttr (toAttr cfg a) = [' '] ++ a.1 ++ ['=', '"'] ++ escStr cfg .AttrEscapes a.2 ++ ['"'] := by
  simp [renderAttr, toAttr, sp1, eq0, renderEq, renderQuoted, Quote.char, render_attval]

theorem attr_out (e : Env) (ht : Transparent e.cd) (a : Str × Str) (h : okAttr e.cfg.xml11 a = true) :
    attrOut e (U a.1, U a.2) = .ok (U (renderAttr (toAttr e.cfg a))) := by
  simp only [okAttr, Bool.and_eq_true] at h
  have e1 : [32] ++ U a.1 ++ [61, 34] = U ([' '] ++ a.1 ++ ['=', '"']) := by rw [U_append, U_append]; rfl
  rw [attrOut, ensureValid_U e.cfg.xml11 a.2 h.2, if_neg (by simp), e1, show ([34] : List Nat) = U ['"'] from rfl,
    renderAttr_toAttr]
  simp only [seqL, seq2, seq3, rawCR_U e ht, formatBuf_U e.cd ht]
  simp only [U_append, List.append_nil, List.append_assoc]

theorem attrs_out (e : Env) (ht : Transparent e.cd) : ∀ (as : List (Str × Str)), as.all (okAttr e.cfg.xml11) = true →
    seqL ((unitsAttrs as).map (attrOut e)) = .ok (U (renderAttrs (toAttrs e.cfg as))) := by
  intro as
  induction as with
  | nil => intro _; rfl
  | cons a t ih =>
    intro h
    simp only [List.all_cons, Bool.and_eq_true] at h
    simp only [unitsAttrs, List.map_cons, seqL, seq2, attr_out e ht a h.1, ih h.2, toAttrs, renderAttrs, U_append]
    simp [seq3]

theorem unitsNodes_isEmpty (ks : List CNode) : (unitsNodes ks).isEmpty = ks.isEmpty := by
  cases ks <;> simp [unitsNodes]

theorem okNode_comment {v11 : Bool} {v : Str} (h : okNode v11 (.comment v) = true) :
    v.all (legalC v11) = true ∧ noLineEnd v11 v = true ∧ noEarly ['-', '-'] v = true := by
  simpa only [okNode, Bool.and_eq_true, and_assoc] using h

theorem okNode_pi {v11 : Bool} {t d : Str} (h : okNode v11 (.pi t d) = true) :
    isName t = true ∧ piTargetOk t = true ∧ d.all (legalC v11) = true ∧ noLineEnd v11 d = true ∧
      noEarly ['?', '>'] d = true ∧ headNotS d = true := by
  simpa only [okNode, Bool.and_eq_true, and_assoc] using h

theorem okNode_elem {v11 : Bool} {n : Str} {as : List (Str × Str)} {kids : List CNode} (h : okNode v11 (.elem n as kids) = true) :
    isName n = true ∧ as.all (okAttr v11) = true ∧ noDup (as.map (·.1)) = true ∧ okNodes v11 kids = true := by
  simpa only [okNode, Bool.and_eq_true, and_assoc] using h

theorem render_mkElem (cfg : Cfg) (n : Str) (as : List (Str × Str)) (kids : List Node) (b : Bool) :
    renderToks (mkElem cfg n as kids b).toks = ['<'] ++ n ++ renderAttrs (toAttrs cfg as) ++
      (if b then ['/', '>'] else ['>'] ++ renderNodes kids ++ ['<', '/'] ++ n ++ ['>']) := by
  cases b <;> simp [mkElem, renderNodes, Node.toks, renderToks, renderTok, renderTagOpen, renderETag, renderToks_append]

theorem render_elem (cfg : Cfg) (n : Str) (as : List (Str × Str)) (kids : List CNode) :
    renderNodes (toNodes cfg (.elem n as kids)) = ['<'] ++ n ++ renderAttrs (toAttrs cfg as) ++
      (if kids.isEmpty then ['/', '>'] else ['>'] ++ renderNodes (toNodesL cfg kids) ++ ['<', '/'] ++ n ++ ['>']) := by
  rw [toNodes, renderNodes, Node.toksL, Node.toksL, List.append_nil, render_mkElem]

mutual
theorem node_out (e : Env) (ht : Transparent e.cd) (hf : Fixed e) :
    (n : CNode) → okNode e.cfg.xml11 n = true → node e (unitsNode n) = .ok (U (renderNodes (toNodes e.cfg n)))
  | .text v, h => by
    rw [unitsNode, node, ensureValid_U e.cfg.xml11 v h, if_neg (by simp), formatBuf_U e.cd ht, toNodes, renderNodes_leaves,
      render_text]
  | .cdata v, h => by
    simp only [okNode, Bool.and_eq_true] at h
    rw [unitsNode, node, if_pos hf.split, if_pos hf.cdata, ensureValid_U e.cfg.xml11 v h.1, if_neg (by simp), cdata_U e.cd ht,
      toNodes, renderNodes_leaves]
  | .comment v, h => by
    obtain ⟨hl, _, he⟩ := okNode_comment h
    have h1 : XV.Model.Serializer.containsSub [45, 45] (U v) = false := noEarly_units '-' '-' (by decide) (by decide) v he
    have h2 : (U v).getLast? ≠ some 45 := noEarly_last '-' (by decide) v he
    have e1 : gStartComment ++ U v ++ gEndComment = U (renderLeaf (.comment v)) := by
      rw [renderLeaf, U_append, U_append]; rfl
    rw [unitsNode, node, ensureValid_U e.cfg.xml11 v hl, if_neg (by simp), if_neg (by simp [h1, h2]), e1, rawF_U e ht,
      toNodes, renderNodes_leaf]
  | .pi t d, h => by
    obtain ⟨hn, _, hl, _, he, _⟩ := okNode_pi h
    have h1 : XV.Model.Serializer.containsSub gEndPI (U d) = false := noEarly_units '?' '>' (by decide) (by decide) d he
    have e1 : gStartPI ++ U t ++ (if (U d).isEmpty then [] else [32] ++ U d) ++ gEndPI =
        U (renderLeaf (.pi t (if d.isEmpty then [] else sp1) d)) := by
      cases d with
      | nil => simp only [renderLeaf, U_append, U_nil, List.isEmpty_nil, if_true, List.append_nil]; rfl
      | cons c r =>
        rw [U_isEmpty]; simp only [renderLeaf, U_append, List.isEmpty_cons, Bool.false_eq_true, if_false, List.append_assoc]; rfl
    rw [unitsNode, node, ensureValid_U e.cfg.xml11 t (name_legal e.cfg.xml11 t hn), ensureValid_U e.cfg.xml11 d hl,
      if_neg (by simp), if_neg (by simp [h1]), e1, rawF_U e ht, toNodes, renderNodes_leaf]
  | .elem n as kids, h => by
    obtain ⟨_, has, _, hk⟩ := okNode_elem h
    have e1 : [60] ++ U n = U (['<'] ++ n) := by rw [U_append]; rfl
    have e4 : gEndElement ++ U n ++ [62] = U (['<', '/'] ++ n ++ ['>']) := by rw [U_append, U_append]; rfl
    rw [unitsNode, node, e1, e4, show ([47, 62] : List Nat) = U ['/', '>'] from rfl, show ([62] : List Nat) = U ['>'] from rfl,
      render_elem, unitsNodes_isEmpty]
    simp only [seqL, seq2, rawF_U e ht, rawCR_U e ht, attrs_out e ht as has, nodes_out e ht hf kids hk, seq3]
    cases kids.isEmpty <;> simp only [Bool.false_eq_true, if_false, if_true, U_append, List.append_nil, List.append_assoc]
theorem nodes_out (e : Env) (ht : Transparent e.cd) (hf : Fixed e) :
    (ns : List CNode) → okNodes e.cfg.xml11 ns = true → nodes e (unitsNodes ns) = .ok (U (renderNodes (toNodesL e.cfg ns)))
  | [], _ => rfl
  | n :: t, h => by
    simp only [okNodes, Bool.and_eq_true] at h
    simp only [unitsNodes, nodes, seq2, node_out e ht hf n h.1, nodes_out e ht hf t h.2, toNodesL, renderNodes_append, U_append,
      seq3, List.append_nil]
end

/-- the units `document` writes before and after the encoding name -/
def declPre (v11 : Bool) : List Nat :=
  gXMLDecl_VersionInfo ++ (if v11 then [49, 46, 49] else [49, 46, 48]) ++ gXMLDecl_separator ++ gXMLDecl_EncodingDecl
def declPost : List Nat := gXMLDecl_separator ++ gXMLDecl_SDDecl ++ [110, 111] ++ gXMLDecl_separator ++ gXMLDecl_endtag

theorem decl_ascii : ∀ v11, (∀ x ∈ declPre v11, 32 ≤ x ∧ x < 127) ∧ ∀ x ∈ declPost, 32 ≤ x ∧ x < 127 := by decide

theorem render_toDecl (cfg : Cfg) (enc : Str) :
    renderXmlDecl (toDecl cfg enc) = asciiStr (declPre cfg.xml11) ++ enc ++ asciiStr declPost := by
  cases h : cfg.xml11 <;> simp [renderXmlDecl, toDecl, pseudo, sp1, eq0, renderPseudo, renderEq, renderQuoted, Quote.char, h] <;> rfl

theorem render_toDoc (cfg : Cfg) (xd : Bool) (enc n : Str) (as : List (Str × Str)) (kids : List CNode) :
    render (toDoc cfg xd enc n as kids) =
      (if xd then renderXmlDecl (toDecl cfg enc) else []) ++ renderNodes (toNodes cfg (.elem n as kids)) := by
  cases xd <;> simp [render, toDoc, Doc.toks, renderNodes, toNodes, Node.toksL]

theorem document_out (e : Env) (ht : Transparent e.cd) (hf : Fixed e) (enc n : Str) (as : List (Str × Str))
    (kids : List CNode) (henc : e.encName = U enc) (hok : okNode e.cfg.xml11 (.elem n as kids) = true) :
    document e false [unitsNode (.elem n as kids)] = .ok (U (render (toDoc e.cfg e.feat.xmlDecl enc n as kids))) := by
  have hA : ∀ l : List Nat, (∀ u ∈ l, 32 ≤ u ∧ u < 127) → rawCR e l = .ok l := fun l h =>
    rawCR_ok e ht.good l (fun u hu => Nat.lt_trans (h u hu).2 (by decide)) (ascii_nameOK _ ht.good l h)
  rw [render_toDoc, document]
  simp only [nodes, seq2, node_out e ht hf (.elem n as kids) hok]
  cases hx : e.feat.xmlDecl with
  | false => simp [seq3]
  | true =>
    rw [if_pos rfl, if_pos rfl, render_toDecl, U_append, U_append, U_append, U_ascii _ (decl_ascii _).1, U_ascii _ (decl_ascii true).2]
    cases e.cfg.xml11 <;>
      simp (disch := decide) only [seqL, seq2, Bool.false_eq_true, if_false, if_true, hA, henc, rawCR_U e ht, seq3, declPre, declPost,
        List.append_assoc, List.append_nil]

end XV.Lemmas.TreeOut
