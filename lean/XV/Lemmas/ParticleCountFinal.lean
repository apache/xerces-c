/-
C08 — counting states: assembly.  The occurrence ranges recorded per leaf id sit on `*` / `+` leaf positions of the
skeleton (`rng_pos`); `buildDFA` on a compact skeleton with pairwise different leaves yields a table satisfying `Ctx`
(`build_ctx`), from which `counting_compact` follows by `cwalk_iff` and `compact_lang`.
-/
import XV.Lemmas.ParticleCountRun
import XV.Lemmas.ParticleCountFol
import XV.Lemmas.ParticleCountLang
import XV.Lemmas.ParticleCountShape
namespace XV.Lemmas.ParticleCount
open XV.Spec.Particle XV.Model.Particle XV.Model.ParticleDfa XV.Lemmas.ParticleExpand
open XV.Spec.ContentModel XV.Model.ContentModel XV.Lemmas.DfaTree XV.Lemmas.DfaRun XV.Lemmas.DfaTable XV.Lemmas.DfaFinal
-- `PLang` and `walk` are those of the particle side here, not the position language and walk of Glushkov
open XV.Lemmas.Glushkov hiding PLang walk

theorem compact_sk (x : XNode Nat) (h : Compact x = true) : CompactCM (sk x) = true := by
  fun_induction Compact x with
  | case1 a | case3 mn mx a | case4 mn mx a => rfl
  | case2 t a => cases t <;> rfl
  | case5 x y ihx ihy | case6 x y ihx ihy =>
    rw [Bool.and_eq_true] at h
    exact Bool.and_eq_true_iff.2 ⟨ihx h.1, ihy h.2⟩
  | case7 => cases h

theorem leafInfos_length (x : XNode Nat) : (leafInfos x).length = size (sk x) := by
  rw [← names_length, ← leafInfos_names x, List.length_map]

theorem rng_pos (x : XNode Nat) (hc : Compact x = true) (lo p a mn : Nat) (mx : Option Nat)
    (h : (leafInfos x)[p]? = some (a, some (mn, mx))) :
    fol (sk x) lo (lo + p) (lo + p) = true ∧ (1 ≤ mn → plusAt (sk x) lo (lo + p) = true) ∧ occOk mn mx = true := by
  fun_induction Compact x generalizing lo p with
  | case1 a' => cases p <;> simp [leafInfos] at h
  | case2 t a' => cases p <;> simp [leafInfos] at h
  | case3 mn' mx' a' =>
    obtain ⟨rfl, rfl, rfl, rfl⟩ : p = 0 ∧ a' = a ∧ mn' = mn ∧ mx' = mx := by cases p <;> simp_all [leafInfos]
    rw [Bool.and_eq_true, beq_iff_eq] at hc
    exact ⟨by simp [sk, fol, last, first], fun h1 => absurd (Nat.lt_of_lt_of_eq h1 hc.1) (Nat.lt_irrefl 0), hc.2⟩
  | case4 mn' mx' a' =>
    obtain ⟨rfl, rfl, rfl, rfl⟩ : p = 0 ∧ a' = a ∧ mn' = mn ∧ mx' = mx := by cases p <;> simp_all [leafInfos]
    rw [Bool.and_eq_true] at hc
    exact ⟨by simp [sk, fol, last, first], fun _ => by simp [sk, plusAt], hc.2⟩
  | case5 x1 x2 ih1 ih2 | case6 x1 x2 ih1 ih2 =>
    rw [Bool.and_eq_true] at hc
    have hl := leafInfos_length x1
    rw [leafInfos] at h
    by_cases hlt : p < (leafInfos x1).length
    · rw [List.getElem?_append_left hlt] at h
      obtain ⟨r1, r2, r3⟩ := ih1 hc.1 lo p h
      exact ⟨by simp [sk, fol, r1], fun h1 => Bool.or_eq_true_iff.2 (.inl (r2 h1)), r3⟩
    · rw [List.getElem?_append_right (Nat.le_of_not_lt hlt)] at h
      obtain ⟨r1, r2, r3⟩ := ih2 hc.2 (lo + size (sk x1)) _ h
      rw [show lo + size (sk x1) + (p - (leafInfos x1).length) = lo + p by omega] at r1 r2
      exact ⟨by simp [sk, fol, r1], fun h1 => Bool.or_eq_true_iff.2 (.inr (r2 h1)), r3⟩
  | case7 => cases hc

theorem build_ctx (K : CM) (hK : CompactCM K = true) (hn : (names K).Nodup) (infos : List (Nat × Option (Nat × Option Nat)))
    (hN : infos.map (·.1) = names K)
    (hr : ∀ p a mn mx, infos[p]? = some (a, some (mn, mx)) →
      fol K 0 p p = true ∧ (1 ≤ mn → plusAt K 0 p = true) ∧ occOk mn mx = true) :
    ∃ fl states d, buildDFA (nodeOfCM K) = some d ∧
      Ctx (size K + 1) (names K) fl states (rngOf infos) d (countingStates d (elemOccurrence infos (llOf (names K)))) := by
  obtain ⟨ll, fl, head, ext, rows, D, hb, T, hlen⟩ := buildDFA_spec K
  obtain rfl : ll = llOf (names K) := D.ll_eq
  rw [elemMapOf_nodup _ (llOf_nodup _ hn)] at hb T
  -- the follow sets are those of `K #`, which is a compact skeleton like `K`
  have hA : CompactCM (aug K) = true := by rw [aug, CompactCM, hK]; rfl
  refine ⟨fl, head :: ext, _, hb, ⟨hn, rfl, T, hlen, fun p q h => fol_le hA (D.fl_eq p q ▸ h), ?_,
    fun i row o h => cs_iff_row infos _ i row h o⟩⟩
  intro p a mn mx hp hra
  have hps := ((names_get K p a).1 hp).1
  -- the leaf at position `p` is the one the lookup by id finds
  obtain ⟨i, hi, rfl⟩ : ∃ i, infos[p]? = some i ∧ i.1 = a := by simpa [← hN, List.getElem?_map] using hp
  rw [rngOf_mem (hN ▸ hn) (List.mem_of_getElem? hi)] at hra
  obtain ⟨r1, r2, r3⟩ := hr p i.1 mn mx (hi.trans (congrArg some (Prod.ext rfl hra)))
  refine ⟨by rw [D.step_inner p hps, r1], r3, fun h1 q hq heq => ?_⟩
  have hl : ∀ x, x < size K → last (aug K) 0 x = false := fun x hx => by
    rw [aug, last_seq_left ((Nat.zero_add _).symm ▸ hx)]; rfl
  rcases plus_sep hA (show plusAt (aug K) 0 p = true by rw [aug, plusAt, r2 h1]; rfl) hq
    with ⟨t, hne⟩ | hne
  · exact hne (by rw [← D.fl_eq, ← D.fl_eq, heq])
  · exact hne (by rw [hl q (Nat.lt_trans hq hps), hl p hps])

/-- the schema-mode DFAContentModel with counting states built from a compact tree with pairwise different
    leaves accepts exactly the particle language of the tree -/
theorem counting_compact (s : SNode Nat) (hc : Compact (makeTree s) = true) (hn : (names (sk (makeTree s))).Nodup)
    (w : List Nat) : validateTree s w = .ok ↔ PLang SymM (makeTree s).toParticle w := by
  rw [validateTree]
  generalize makeTree s = x at hc hn ⊢
  have hN := leafInfos_names x
  rw [compact_lang x hc hn (rngOf (leafInfos x)) (fun _ hi => rngOf_mem (hN ▸ hn) hi) w]
  obtain ⟨fl, states, d, hb, C⟩ := build_ctx (sk x) (compact_sk x hc) hn (leafInfos x) hN
    (fun p a mn mx h => Nat.zero_add p ▸ rng_pos x hc 0 p a mn mx h)
  have hdfa := dfa_iff' (sk x) w
  rw [Model.validate, hb] at hdfa
  rw [buildCDFA, toNode_sk, hb]
  simp only [C.emap]
  split
  · cases w with
    | nil => rw [← hdfa]; simp [validate, dfaValidate, chk, endOk]
    | cons y w => rw [← hdfa]; exact blockOf_zero C ▸ cwalk_iff C (y :: w) 0 0 0 C.pos
  · next hany =>
    -- no element-map entry carries a range: `fCountingStates` is not allocated and the walk is the plain one
    rw [XV.Lemmas.ParticleDfa.validate_eq ⟨_, none⟩ rfl w, hdfa]
    exact (and_iff_left_of_imp (chk_of_lang fun a ha => (elemOccurrence_any _ _).1 (Bool.eq_false_iff.2 hany) a
      (List.mem_append_left _ (List.mem_map_of_mem ha)))).symm

end XV.Lemmas.ParticleCount
