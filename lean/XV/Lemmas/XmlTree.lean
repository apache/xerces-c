/- Round trip of stage 2 of the reference recogniser (XV.Spec.Xml.Parse): tokens ↔ tree. -/
import XV.Lemmas.XmlTok
namespace XV.Lemmas.Xml
open XV.Spec.Xml XV.Spec.XmlChar

/-- where `parseNodes` stops -/
def EndOk : List Tok → Prop
  | [] => True
  | .etag _ _ :: _ => True
  | _ => False

theorem parseNodes_iff {fuel : Nat} {ts : List Tok} {ns : List Node} {r : List Tok} (hf : ts.length < fuel) :
    parseNodes fuel ts = .ok (ns, r) ↔ ts = Node.toksL ns ++ r ∧ EndOk r := by
  constructor
  · clear hf
    fun_induction parseNodes fuel ts generalizing ns r
    case case2 | case3 => rintro ⟨⟩; exact ⟨rfl, trivial⟩
    case case6 f ts l ns' r' h1 ih | case8 f ts t ns' r' h1 ih =>
      rintro ⟨⟩
      obtain ⟨rfl, he⟩ := ih h1
      exact ⟨rfl, he⟩
    case case12 f ts t kids r1 en ew ns' r' h2 h1 ih1 ih2 =>
      rintro ⟨⟩
      obtain ⟨rfl, -⟩ := ih1 h1
      obtain ⟨rfl, he⟩ := ih2 h2
      exact ⟨by simp only [Node.toksL, Node.toks, List.cons_append, List.nil_append, List.append_assoc], he⟩
    all_goals nofun
  · rintro ⟨rfl, he⟩
    induction fuel generalizing ns r with
    | zero => cases hf
    | succ fuel ih =>
      cases ns with
      | nil =>
        cases r with
        | nil => rfl
        | cons t ts =>
          cases t with
          | etag => rfl
          | _ => cases he
      | cons n ns =>
        cases n with
        | leaf l | empty t =>
          simp only [Node.toksL, Node.toks, List.cons_append, List.nil_append, List.length_cons] at hf ⊢
          simp only [parseNodes, ih he (Nat.lt_of_succ_lt_succ hf)]
        | elem t kids en ew =>
          simp only [Node.toksL, Node.toks, List.cons_append, List.append_assoc, List.nil_append, List.length_cons] at hf ⊢
          have hk := ih (ns := kids) (r := .etag en ew :: (Node.toksL ns ++ r)) trivial (Nat.lt_of_succ_lt_succ hf)
          have hns := ih (ns := ns) he (by simp only [List.length_append, List.length_cons] at hf ⊢; omega)
          simp only [parseNodes, hk, hns]

theorem takeLeaves_append {ls : List Leaf} {rest : List Tok} (h : takeLeaves rest = ([], rest)) :
    takeLeaves (ls.map .leaf ++ rest) = (ls, rest) := by
  induction ls with
  | nil => exact h
  | cons l ls ih => simp only [List.map_cons, List.cons_append, takeLeaves, ih]

theorem takeLeaves_sound (ts : List Tok) : ts = (takeLeaves ts).1.map .leaf ++ (takeLeaves ts).2 := by
  fun_induction takeLeaves ts with
  | case1 l ts ih => exact congrArg _ ih
  | case2 => rfl

theorem takeLeaves_root {root : Node} (rest : List Tok) (h : root.isElement = true) :
    takeLeaves (root.toks ++ rest) = ([], root.toks ++ rest) := by
  cases root with
  | leaf l => cases h
  | _ => rfl

theorem buildRoot_iff {decl : Option XmlDecl} {pre : List Leaf} {dt : Option (Doctype × List Leaf)} {ts : List Tok}
    {d : Doc} : buildRoot decl pre dt ts = .ok d ↔
      ∃ root post, d = ⟨decl, pre, dt, root, post⟩ ∧ ts = root.toks ++ post.map .leaf ∧ root.isElement = true := by
  constructor
  · fun_cases buildRoot decl pre dt ts
    case case2 t r hr =>
      rintro ⟨⟩
      have s2 := takeLeaves_sound r
      rw [hr, List.append_nil] at s2
      exact ⟨_, _, rfl, congrArg _ s2, rfl⟩
    case case6 t r kids r' en ew hr hn =>
      rintro ⟨⟩
      have s2 := takeLeaves_sound r'
      rw [hr, List.append_nil] at s2
      obtain ⟨rfl, -⟩ := (parseNodes_iff (Nat.lt_succ_self _)).mp hn
      exact ⟨_, _, rfl, by simp only [Node.toks, ← s2, List.cons_append, List.nil_append, List.append_assoc], rfl⟩
    all_goals nofun
  · rintro ⟨root, post, rfl, rfl, hroot⟩
    have hp := takeLeaves_append (ls := post) (rest := []) rfl
    rw [List.append_nil] at hp
    cases root with
    | leaf l => cases hroot
    | empty t => simp only [Node.toks, List.cons_append, List.nil_append, buildRoot, hp, if_true]
    | elem t kids en ew =>
      have hk := (parseNodes_iff (ns := kids) (r := .etag en ew :: post.map .leaf) (Nat.lt_succ_self _)).mpr ⟨rfl, trivial⟩
      simp only [Node.toks, List.cons_append, List.append_assoc, List.nil_append, buildRoot, hk, hp, if_true]

theorem buildDoc_iff {decl : Option XmlDecl} {ts : List Tok} {d : Doc} :
    buildDoc decl ts = .ok d ↔ d.decl = decl ∧ d.toks = ts ∧ d.root.isElement = true := by
  constructor
  · intro h
    have s1 := takeLeaves_sound ts
    unfold buildDoc at h
    split at h
    · next dd r hT =>
      obtain ⟨root, post, rfl, h4, h5⟩ := buildRoot_iff.mp h
      refine ⟨rfl, ?_, h5⟩
      simp only [Doc.toks, List.cons_append, List.append_assoc]
      rw [← h4, ← takeLeaves_sound r, ← hT, ← s1]
    · obtain ⟨root, post, rfl, h4, h5⟩ := buildRoot_iff.mp h
      refine ⟨rfl, ?_, h5⟩
      simp only [Doc.toks, List.append_assoc, List.append_nil]
      rw [← h4, ← s1]
  · obtain ⟨decl', pre, doctype, root, post⟩ := d
    rintro ⟨rfl, rfl, hroot⟩
    have hr := takeLeaves_root (post.map .leaf) hroot
    cases doctype with
    | none =>
      have h1 := takeLeaves_append (ls := pre) hr
      simp only [Doc.toks, List.append_nil, List.append_assoc, buildDoc, h1]
      cases root with
      | leaf l => cases hroot
      | _ => exact buildRoot_iff.mpr ⟨_, _, rfl, rfl, hroot⟩
    | some p =>
      obtain ⟨dt, m⟩ := p
      have h1 := takeLeaves_append (ls := pre) (rest := .doctype dt :: (m.map .leaf ++ (root.toks ++ post.map .leaf))) rfl
      simp only [Doc.toks, List.append_assoc, List.cons_append, buildDoc, h1, takeLeaves_append (ls := m) hr,
        buildRoot_iff.mpr ⟨_, _, rfl, rfl, hroot⟩]

end XV.Lemmas.Xml
