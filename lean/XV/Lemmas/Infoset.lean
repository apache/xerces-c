/-
What holds of XV.Spec.Infoset by itself (no model, no parser).  §2.11: `eolFrom` in the look-ahead form a reader has, and
the texts the rule leaves alone (`clean`: its image and its fixed points).  §3.3.3: `collapse` is the two-state machine
`mach` that the scanners run.  Event words: every balanced word is the walk of a forest (`OkForest`), on which `buildForest`
inverts the walk; balance depends on the bracket skeleton alone (`skel`), which is why merging character data keeps it;
the pieces of `rawEvents` are balanced.  The SAX and pull adapters, one event and one step at a time; the tree filter
takes at a node (`kept`) the decision that `filterEvents` takes at its opening event.
-/
import XV.Spec.Infoset
namespace XV.Lemmas.Infoset
open XV.Spec.Xml XV.Spec.Infoset

theorem eolFrom_cr (v p : Bool) (t : Str) : eolFrom v p (chCR :: t) = chLF :: eolFrom v true t := rfl

theorem eolFrom_true (v : Bool) (d : Char) (t : Str) :
    eolFrom v true (d :: t) = eolFrom v false (if d == chLF || (d == chNEL && v) then t else d :: t) := by
  cases hd : d == chCR with
  | true => rw [eq_of_beq hd]; rfl
  | false =>
    cases hc : (d == chLF || (d == chNEL && v)) <;>
      simp only [eolFrom, eolStep, hd, Bool.and_comm v, hc, Bool.true_and, Bool.false_and, if_true, if_false,
        Bool.false_eq_true]

theorem eolFrom_false (v : Bool) (c : Char) (t : Str) (hc : (c == chCR) = false) :
    eolFrom v false (c :: t) =
      if (c == chNEL || c == chLS) && v then chLF :: eolFrom v false t else c :: eolFrom v false t := by
  cases hn : ((c == chNEL || c == chLS) && v) <;>
    simp only [eolFrom, eolStep, hc, Bool.and_comm v, hn, Bool.false_and, if_true, if_false, Bool.false_eq_true]

/-- a text in which the §2.11 rule (`v`: of XML 1.1) finds nothing to do -/
def clean (v : Bool) (s : Str) : Prop := ∀ c ∈ s, c ≠ chCR ∧ (v = true → c ≠ chNEL ∧ c ≠ chLS)

theorem nel_ls_iff (v : Bool) (c : Char) :
    ((c == chNEL || c == chLS) && v) = false ↔ (v = true → c ≠ chNEL ∧ c ≠ chLS) := by
  cases v with
  | false => exact ⟨fun _ h => Bool.noConfusion h, fun _ => Bool.and_false _⟩
  | true =>
    rw [Bool.and_true, Bool.or_eq_false_iff, beq_eq_false_iff_ne, beq_eq_false_iff_ne]
    exact ⟨fun h _ => h, fun h => h rfl⟩

theorem eolFrom_clean (v : Bool) : ∀ (s : Str) (p : Bool), clean v (eolFrom v p s) := by
  intro s
  induction s with
  | nil => intro p c hc; cases hc
  | cons c t ih =>
    have lf : ∀ p, clean v (chLF :: eolFrom v p t) := fun p =>
      List.forall_mem_cons.2 ⟨⟨by decide, fun _ => by decide⟩, ih p⟩
    have hf : clean v (eolFrom v false (c :: t)) := by
      cases hc : c == chCR with
      | true => rw [eq_of_beq hc]; exact lf true
      | false =>
        rw [eolFrom_false v c t hc]
        split
        · exact lf false
        next h => exact List.forall_mem_cons.2 ⟨⟨beq_eq_false_iff_ne.1 hc, (nel_ls_iff v c).1 (eq_false_of_ne_true h)⟩, ih false⟩
    intro p
    cases p with
    | false => exact hf
    | true =>
      rw [eolFrom_true]
      split
      · exact ih false
      · exact hf

theorem eolFrom_of_clean (v : Bool) : ∀ (s : Str), clean v s → eolFrom v false s = s := by
  intro s
  induction s with
  | nil => intro _; rfl
  | cons c t ih =>
    intro hc
    have ⟨h1, h2⟩ := List.forall_mem_cons.1 hc
    rw [eolFrom_false v c t (beq_eq_false_iff_ne.2 h1.1), if_neg (ne_true_of_eq_false ((nel_ls_iff v c).2 h1.2)), ih h2]

theorem feed_append (v : Bool) : ∀ (a b : Str) (st : LineSt), st.feed v (a ++ b) = (st.feed v a).feed v b := by
  intro a
  induction a with
  | nil => intro b st; rfl
  | cons c t ih => intro b st; exact ih b _

theorem feed_spec (v : Bool) : ∀ (s : Str) (st : LineSt),
    (st.feed v s).line = st.line + countLF (eolFrom v st.prevCR s) := by
  intro s
  induction s with
  | nil => intro st; rfl
  | cons c t ih =>
    intro st
    rw [LineSt.feed, ih, eolFrom, LineSt.step]
    cases eolStep v st.prevCR c with
    | mk o p =>
      cases o with
      | none => rfl
      | some d =>
        show (if d == chLF then st.line + 1 else st.line) + _ = st.line + ((if d == chLF then 1 else 0) + _)
        split
        · exact Nat.add_assoc ..
        · rw [Nat.zero_add]

theorem joinSp_cons (w : Str) (ws : List Str) : joinSp (w :: ws) = if ws = [] then w else w ++ ' ' :: joinSp ws := by
  cases ws <;> rfl

theorem joinSp_cons_cons (x : Char) (w : Str) (ws : List Str) : joinSp ((x :: w) :: ws) = x :: joinSp (w :: ws) := by
  cases ws <;> rfl

theorem words_space (t : Str) : words (' ' :: t) = words t := by
  cases t <;> rfl

theorem words_single (x : Char) (hx : (x == ' ') = false) : words [x] = [[x]] := by
  rw [words, hx]; rfl

theorem words_cons_space (x : Char) (t : Str) (hx : (x == ' ') = false) : words (x :: ' ' :: t) = [x] :: words t := by
  rw [words, hx]; rfl

theorem words_ne_nil (d : Char) (t : Str) (hd : (d == ' ') = false) : words (d :: t) ≠ [] := by
  cases t with
  | nil => rw [words_single d hd]; exact List.cons_ne_nil _ _
  | cons e t =>
    rw [words, if_neg (ne_true_of_eq_false hd)]
    split
    · exact List.cons_ne_nil _ _
    · split <;> exact List.cons_ne_nil _ _

theorem collapse_cons_cons (x d : Char) (t : Str) (hx : (x == ' ') = false) (hd : (d == ' ') = false) :
    collapse (x :: d :: t) = x :: collapse (d :: t) := by
  rw [collapse, collapse, words, hx, hd]
  cases words (d :: t) with
  | nil => rfl
  | cons w ws => exact joinSp_cons_cons x w ws

/-- the state machine of `IGXMLScanner::normalizeAttValue` for the tokenised types (`inWs`: `curState == InWhitespace`,
    `fnw`: `firstNonWS`), on the characters that step 3 yields -/
def mach : Bool → Bool → Str → Str
  | _, _, [] => []
  | inWs, fnw, x :: t =>
    if inWs then
      if x != ' ' then (if fnw then [' '] else []) ++ x :: mach false true t else mach true fnw t
    else if x == ' ' then mach true fnw t else x :: mach false true t

theorem mach_space (inWs fnw : Bool) (t : Str) : mach inWs fnw (' ' :: t) = mach true fnw t := by
  cases inWs <;> rfl

theorem mach_char (inWs fnw : Bool) (x : Char) (t : Str) (hx : (x == ' ') = false) :
    mach inWs fnw (x :: t) = (if inWs && fnw then [' '] else []) ++ x :: mach false true t := by
  rw [mach, bne, hx]
  cases inWs <;> cases fnw <;> rfl

/-- in white space the machine has yet to emit the rest of the normal form, after a separator if a word came before;
    inside a word it emits the normal form of that word and the rest -/
theorem mach_spec : ∀ s : Str,
    (∀ fnw, mach true fnw s = if fnw then (if words s = [] then [] else ' ' :: collapse s) else collapse s) ∧
    (∀ x, (x == ' ') = false → x :: mach false true s = collapse (x :: s))
  | [] => ⟨fun fnw => by cases fnw <;> rfl, fun x hx => by rw [collapse, words_single x hx]; rfl⟩
  | c :: t => by
    have ⟨ih1, ih2⟩ := mach_spec t
    cases hc : c == ' ' with
    | true =>
      cases eq_of_beq hc
      refine ⟨fun fnw => ?_, fun x hx => ?_⟩
      · rw [collapse, words_space, mach_space]; exact ih1 fnw
      · rw [collapse, words_cons_space x t hx, joinSp_cons, mach_space, ih1, collapse]
        cases words t <;> rfl
    | false =>
      refine ⟨fun fnw => ?_, fun x hx => ?_⟩
      · rw [mach_char true fnw c t hc, if_neg (words_ne_nil c t hc), ← ih2 c hc]
        cases fnw <;> rfl
      · rw [collapse_cons_cons x c t hx hc, ← ih2 c hc, mach_char false true c t hc]; rfl

theorem mach_init (s : Str) : mach false false s = collapse s := by
  cases s with
  | nil => rfl
  | cons x t =>
    cases hx : x == ' ' with
    | true => rw [eq_of_beq hx, mach_space, collapse, words_space]; exact (mach_spec t).1 false
    | false => rw [mach_char false false x t hx]; exact (mach_spec t).2 x hx

theorem mach_idem : ∀ (s : Str) (inWs fnw : Bool), mach false fnw (mach inWs fnw s) = mach inWs fnw s
  | [], _, _ => rfl
  | x :: t, inWs, fnw => by
    cases hx : x == ' ' with
    | true => rw [eq_of_beq hx, mach_space]; exact mach_idem t true fnw
    | false =>
      rw [mach_char inWs fnw x t hx]
      cases h : inWs && fnw with
      | false => exact (mach_char false fnw x _ hx).trans (congrArg (x :: ·) (mach_idem t false true))
      | true =>
        cases (Bool.and_eq_true_iff.1 h).2
        exact (mach_char true true x _ hx).trans (congrArg (' ' :: x :: ·) (mach_idem t false true))

theorem collapse_idem (s : Str) : collapse (collapse s) = collapse s := by
  rw [← mach_init s, ← mach_init]; exact mach_idem s false false

theorem Balanced.append {u w : List Event} (hu : Balanced u) (hw : Balanced w) : Balanced (u ++ w) := by
  induction hu with
  | nil => exact hw
  | atom a u' h1 h2 _ ih => exact Balanced.atom a _ h1 h2 ih
  | wrap o c u' w' h1 h2 h3 hu' _ _ ih2 =>
    rw [List.cons_append, List.append_assoc, List.cons_append]
    exact Balanced.wrap o c u' (w' ++ w) h1 h2 h3 hu' ih2

theorem Balanced.single (a : Event) (h1 : a.isOpen = false) (h2 : a.isClose = false) : Balanced [a] :=
  Balanced.atom a [] h1 h2 Balanced.nil

theorem Balanced.wrap1 (o c : Event) (u : List Event) (h1 : o.isOpen = true) (h2 : c.isClose = true)
    (h3 : o.matches c = true) (hu : Balanced u) : Balanced (o :: (u ++ [c])) :=
  Balanced.wrap o c u [] h1 h2 h3 hu Balanced.nil

theorem not_open_and_close (e : Event) : (e.isOpen && e.isClose) = false := by
  cases e <;> rfl

theorem walkL_append (a b : List DNode) : DNode.walkL (a ++ b) = DNode.walkL a ++ DNode.walkL b := by
  induction a with
  | nil => rfl
  | cons n ns ih => rw [List.cons_append, DNode.walkL, DNode.walkL, ih, List.append_assoc]

/-- forests of letters and matching bracket pairs: every balanced word is the walk of one -/
inductive OkForest : List DNode → Prop
  | nil : OkForest []
  | atom (a : Event) (ns : List DNode) : a.isOpen = false → a.isClose = false → OkForest ns → OkForest (.atom a :: ns)
  | node (o c : Event) (kids ns : List DNode) : o.isOpen = true → c.isClose = true → o.matches c = true →
      OkForest kids → OkForest ns → OkForest (.node o kids c :: ns)

theorem walkL_node (o c : Event) (kids ns : List DNode) (rest : List Event) :
    DNode.walkL (.node o kids c :: ns) ++ rest = o :: (DNode.walkL kids ++ c :: (DNode.walkL ns ++ rest)) := by
  rw [DNode.walkL, DNode.walk, List.cons_append, List.cons_append, List.append_assoc, List.append_assoc]; rfl

theorem Balanced.forest {e : List Event} (h : Balanced e) : ∃ f, OkForest f ∧ DNode.walkL f = e := by
  induction h with
  | nil => exact ⟨[], .nil, rfl⟩
  | atom a w h1 h2 _ ih =>
    obtain ⟨f, hf, rfl⟩ := ih
    exact ⟨.atom a :: f, .atom a f h1 h2 hf, rfl⟩
  | wrap o c u w h1 h2 h3 _ _ ihu ihw =>
    obtain ⟨fu, hu, rfl⟩ := ihu
    obtain ⟨fw, hw, rfl⟩ := ihw
    refine ⟨.node o fu c :: fw, .node o c fu fw h1 h2 h3 hu hw, ?_⟩
    rw [← List.append_nil (DNode.walkL _), walkL_node, List.append_nil]

/-- where `buildForest` returns to its caller -/
def stops : List Event → Prop
  | [] => True
  | e :: _ => e.isClose = true

theorem buildForest_walkL {f : List DNode} (h : OkForest f) : ∀ (rest : List Event), stops rest → ∀ fuel,
    (DNode.walkL f ++ rest).length < fuel → buildForest fuel (DNode.walkL f ++ rest) = (f, rest) := by
  induction h with
  | nil =>
    intro rest hs fuel hf
    cases fuel with
    | zero => cases hf
    | succ f =>
      cases rest with
      | nil => rfl
      | cons e es => rw [DNode.walkL, List.nil_append, buildForest]; exact if_pos hs
  | atom a ns h1 h2 _ ih =>
    intro rest hs fuel hf
    cases fuel with
    | zero => cases hf
    | succ f =>
      show buildForest (f + 1) (a :: (DNode.walkL ns ++ rest)) = _
      rw [buildForest, if_neg (ne_true_of_eq_false h2), if_neg (ne_true_of_eq_false h1),
        ih rest hs f (Nat.lt_of_succ_lt_succ hf)]
  | node o c kids ns h1 h2 h3 _ _ ih1 ih2 =>
    intro rest hs fuel hf
    cases fuel with
    | zero => cases hf
    | succ f =>
      rw [walkL_node] at hf ⊢
      have hf := Nat.lt_of_succ_lt_succ hf
      have hoc : o.isClose = false := by have := not_open_and_close o; rwa [h1, Bool.true_and] at this
      rw [buildForest, if_neg (ne_true_of_eq_false hoc), if_pos h1, ih1 (c :: (DNode.walkL ns ++ rest)) h2 f hf]
      simp only [h3, if_true, ih2 rest hs f
        (Nat.lt_trans (Nat.lt_of_succ_le (List.suffix_append (DNode.walkL kids) (c :: _)).length_le) hf)]

theorem buildDom_domWalk {t : Tree} (h : OkForest t) : buildDom (domWalk t) = t := by
  have := buildForest_walkL h [] trivial ((domWalk t).length + 1) (by rw [List.append_nil]; exact Nat.lt_succ_self _)
  rw [List.append_nil] at this
  exact congrArg Prod.fst this

def skel (w : List Event) : List Event := w.filter fun e => e.isOpen || e.isClose

theorem skel_cons (e : Event) (w : List Event) :
    skel (e :: w) = if (e.isOpen || e.isClose) = true then e :: skel w else skel w := List.filter_cons

theorem skel_cons_atom {a : Event} (h1 : a.isOpen = false) (h2 : a.isClose = false) (w : List Event) :
    skel (a :: w) = skel w :=
  List.filter_cons_of_neg (by rw [h1, h2]; exact Bool.false_ne_true)

theorem skel_append (u w : List Event) : skel (u ++ w) = skel u ++ skel w := List.filter_append ..

theorem skel_eq_cons {w r : List Event} {b : Event} (h : skel w = b :: r) :
    ∃ l w', w = l ++ b :: w' ∧ skel l = [] ∧ skel w' = r :=
  have ⟨l, w', e, hl, _, hr⟩ := List.filter_eq_cons_iff.1 h
  ⟨l, w', e, List.filter_eq_nil_iff.2 hl, hr⟩

theorem skel_eq_append {w a b : List Event} (h : skel w = a ++ b) : ∃ x y, w = x ++ y ∧ skel x = a ∧ skel y = b :=
  List.filter_eq_append_iff.1 h

theorem balanced_of_skel_nil : ∀ {w : List Event}, skel w = [] → Balanced w
  | [], _ => .nil
  | a :: w, h => by
    rw [skel_cons] at h
    split at h
    · cases h
    next ha =>
      rw [Bool.or_eq_true, not_or, Bool.not_eq_true, Bool.not_eq_true] at ha
      exact .atom a w ha.1 ha.2 (balanced_of_skel_nil h)

theorem Balanced.of_skel {w : List Event} (h : Balanced w) : ∀ {w'}, skel w' = skel w → Balanced w' := by
  induction h with
  | nil => exact balanced_of_skel_nil
  | atom a w h1 h2 _ ih => intro w' e; exact ih (e.trans (skel_cons_atom h1 h2 w))
  | wrap o c u w h1 h2 h3 _ _ ihu ihw =>
    intro w' e
    rw [skel_cons, h1, Bool.true_or, if_pos rfl, skel_append, skel_cons, h2, Bool.or_true, if_pos rfl] at e
    -- `w'` is letters, `o`, a word with the skeleton of `u`, letters, `c`, a word with the skeleton of `w`
    obtain ⟨l0, r, rfl, h0, e⟩ := skel_eq_cons e
    obtain ⟨r1, r2, rfl, e1, e2⟩ := skel_eq_append e
    obtain ⟨l1, r3, rfl, hl1, e3⟩ := skel_eq_cons e2
    rw [← List.append_assoc]
    exact Balanced.append (balanced_of_skel_nil h0)
      (.wrap o c _ _ h1 h2 h3 (ihu (by rw [skel_append, hl1, List.append_nil]; exact e1)) (ihw e3))

/-- merging text events drops or joins letters only -/
theorem skel_mergeChars (w : List Event) : skel (mergeChars w) = skel w := by
  fun_induction mergeChars w
  case case1 => rfl
  -- a text event joined to the one the merged tail begins with (`x`); an empty one, dropped; one kept: for `characters`,
  -- then the same three for `ignorableWhitespace`. Letters all, and `skel` skips letters
  case case2 x ih | case5 x ih => rw [skel_cons_atom rfl rfl, skel_cons_atom rfl rfl, ← ih, x, skel_cons_atom rfl rfl]
  case case3 ih | case6 ih => exact ih.trans (skel_cons_atom rfl rfl _).symm
  case case4 ih | case7 ih => rw [skel_cons_atom rfl rfl, skel_cons_atom rfl rfl, ih]
  case case8 ih => rw [skel_cons, skel_cons, ih]  -- any other event stays where it is

theorem mergeChars_balanced {w : List Event} (h : Balanced w) : Balanced (mergeChars w) :=
  Balanced.of_skel h (skel_mergeChars w)

theorem qname_of (ns : Bool) (n : Str) : (Sax2Name.of ns n).qname = n := by
  cases ns <;> rfl

theorem erase_toSAX2One (ns : Bool) (e : Event) : (toSAX2One ns e).flatMap eraseOne = toSAX1One e := by
  cases e with
  | entityDecl n k => cases k <;> rfl
  | startElement n as l =>
    show [Sax1Ev.startElement (Sax2Name.of ns n).qname (List.map _ (List.map _ as)) l] = _
    rw [qname_of, List.map_map]
    simp only [Function.comp_def, qname_of]
    rfl
  | endElement n => exact congrArg (fun n => [Sax1Ev.endElement n]) (qname_of ns n)
  | _ => rfl

theorem nextChunk_cons : ∀ (t : List Event) (e : Event) (d : Nat),
    ∃ p r, nextChunk d (e :: t) = (e :: p, r) ∧ p ++ r = t
  | [], e, d => by
    rw [nextChunk]
    split <;> exact ⟨[], [], rfl, rfl⟩
  | e' :: t, e, d => by
    rw [nextChunk]
    split
    · exact ⟨[], e' :: t, rfl, rfl⟩
    · obtain ⟨p, r, h, rfl⟩ := nextChunk_cons t e' (depthAfter d e)
      rw [h]
      exact ⟨e' :: p, r, rfl, rfl⟩

theorem pull_flatten : ∀ (fuel : Nat) (es : List Event), es.length ≤ fuel → (pull fuel es).flatten = es
  | 0, [], _ => rfl
  | _ + 1, [], _ => rfl
  | f + 1, e :: t, h => by
    obtain ⟨p, r, hc, rfl⟩ := nextChunk_cons t e 0
    have hr : r.length ≤ f := Nat.le_trans (List.length_append ▸ Nat.le_add_left ..) (Nat.le_of_succ_le_succ h)
    rw [pull, hc, List.flatten_cons, pull_flatten f r hr]
    rfl

theorem renderToks_append (a b : List Tok) : renderToks (a ++ b) = renderToks a ++ renderToks b := by
  induction a with
  | nil => rfl
  | cons t ts ih => rw [List.cons_append, renderToks, renderToks, ih, List.append_assoc]

theorem renderToks_leaves (ls : List Leaf) : renderToks (ls.map Tok.leaf) = renderLeaves ls := by
  induction ls with
  | nil => rfl
  | cons l t ih => exact congrArg (renderLeaf l ++ ·) ih

mutual
theorem ignPush_toks (cx : Ctx) : (n : Node) → ∀ stack, (Node.toks n).foldl (ignPush cx) stack = stack
  | .leaf l => fun _ => rfl
  | .empty t => fun _ => rfl
  | .elem t kids en ew => by
    intro stack
    rw [Node.toks, List.foldl_cons, List.foldl_append, ignPush_toksL cx kids]
    rfl
theorem ignPush_toksL (cx : Ctx) : (ns : List Node) → ∀ stack, (Node.toksL ns).foldl (ignPush cx) stack = stack
  | [] => fun _ => rfl
  | n :: ns => by
    intro stack
    rw [Node.toksL, List.foldl_append, ignPush_toks cx n, ignPush_toksL cx ns]
end

theorem contentEvents_append (cx : Ctx) (expand : Str → Nat → List Event) (ext : Bool) :
    ∀ (a b : List Tok) (stack : List Bool) (st : LineSt),
      contentEvents cx expand ext stack st (a ++ b) =
        contentEvents cx expand ext stack st a ++
          contentEvents cx expand ext (a.foldl (ignPush cx) stack)
            (if ext then st.feed cx.v11 (renderToks a) else st) b := by
  intro a
  induction a with
  | nil => intro b stack st; cases ext <;> rfl
  | cons t ts ih =>
    intro b stack st
    rw [List.cons_append, contentEvents, contentEvents, ih, List.append_assoc, List.foldl_cons, renderToks]
    cases ext with
    | false => rfl
    | true => rw [if_pos rfl, if_pos rfl, if_pos rfl, feed_append]

theorem tokEvents_leaf_balanced (cx : Ctx) (expand : Str → Nat → List Event) (hexp : ∀ n l, Balanced (expand n l))
    (ext ign : Bool) (st : LineSt) (l : Leaf) : Balanced (tokEvents cx expand ext ign st (.leaf l)) := by
  cases l with
  | ch c =>
    rw [tokEvents]
    split
    · split <;> exact Balanced.single _ rfl rfl
    · exact Balanced.nil
  | eref n =>
    rw [tokEvents]
    split
    · exact Balanced.single _ rfl rfl
    · exact Balanced.wrap1 _ _ _ rfl rfl (beq_self_eq_true n) (hexp _ _)
  | cdata s =>
    rw [tokEvents]
    generalize (if ext = true then eol cx.v11 s else s) = s'
    split
    · exact Balanced.wrap1 .startCDATA .endCDATA [] rfl rfl rfl Balanced.nil
    · exact Balanced.wrap1 .startCDATA .endCDATA [_] rfl rfl rfl (Balanced.single _ rfl rfl)
  | _ => exact Balanced.single _ rfl rfl

mutual
theorem node_balanced (cx : Ctx) (expand : Str → Nat → List Event) (hexp : ∀ n l, Balanced (expand n l)) (ext : Bool) :
    (n : Node) → tagsMatch n = true → ∀ stack st, Balanced (contentEvents cx expand ext stack st (Node.toks n))
  | .leaf l, _ => by
    intro stack st
    rw [Node.toks, contentEvents, contentEvents, List.append_nil]
    exact tokEvents_leaf_balanced cx expand hexp ext _ st l
  | .empty t, _ => fun _ _ => Balanced.wrap1 _ _ [] rfl rfl (beq_self_eq_true t.name) Balanced.nil
  | .elem t kids en ew, h => by
    intro stack st
    rw [tagsMatch, Bool.and_eq_true] at h
    rw [Node.toks, contentEvents, contentEvents_append]
    exact Balanced.wrap1 _ _ _ rfl rfl h.1 (nodes_balanced cx expand hexp ext kids h.2 _ _)
theorem nodes_balanced (cx : Ctx) (expand : Str → Nat → List Event) (hexp : ∀ n l, Balanced (expand n l)) (ext : Bool) :
    (ns : List Node) → tagsMatchL ns = true → ∀ stack st, Balanced (contentEvents cx expand ext stack st (Node.toksL ns))
  | [], _ => fun _ _ => Balanced.nil
  | n :: ns, h => by
    intro stack st
    rw [tagsMatchL, Bool.and_eq_true] at h
    rw [Node.toksL, contentEvents_append]
    exact Balanced.append (node_balanced cx expand hexp ext n h.1 _ _) (nodes_balanced cx expand hexp ext ns h.2 _ _)
end

theorem expandEntity_balanced (cx : Ctx) : ∀ (d : Nat) (n : Str) (line : Nat), Balanced (expandEntity cx d n line) := by
  intro d
  induction d with
  | zero => intro n line; exact Balanced.nil
  | succ d ih =>
    intro n line
    unfold expandEntity
    split
    · split
      · split
        next h => exact nodes_balanced cx (expandEntity cx d) ih false _ h _ _
        · exact Balanced.nil
      · exact Balanced.nil
    · exact Balanced.nil

theorem miscEvents_balanced (cx : Ctx) : ∀ (ls : List Leaf) (st : LineSt), Balanced (miscEvents cx st ls) := by
  intro ls
  induction ls with
  | nil => intro st; exact Balanced.nil
  | cons l t ih =>
    intro st
    refine Balanced.append ?_ (ih _)
    cases l <;> first | exact Balanced.nil | exact Balanced.single _ rfl rfl

theorem declEvents_balanced (cx : Ctx) (ds : List Decl) (st : LineSt) (se sn : List Str) :
    Balanced (declEvents cx st se sn ds) := by
  -- a declaration yields one letter (comment, PI, the first declaration of an entity or notation) or nothing
  fun_induction declEvents cx st se sn ds
  case case1 => exact .nil
  case case2 ih | case3 ih | case5 ih | case7 ih => exact .atom _ _ rfl rfl ih
  case case4 ih | case6 ih | case8 ih => exact ih

theorem doctypeEvents_balanced (cx : Ctx) (st : LineSt) (dt : Doctype) : Balanced (doctypeEvents cx st dt) :=
  Balanced.wrap1 _ _ _ rfl rfl rfl (declEvents_balanced cx ..)

theorem filterEvents_open (f : Filter) (e : Event) (h1 : e.isOpen = true)
    (stack : List (Mode × Bool)) (rest : List Event) :
    filterEvents f stack (e :: rest) =
      (if (f.atOpen (modeOf stack) e).2 then [e] else []) ++ filterEvents f (f.atOpen (modeOf stack) e :: stack) rest :=
  if_pos h1

theorem filterEvents_close (f : Filter) (c : Event) (hc : c.isClose = true) (m : Mode) (emit : Bool)
    (stack : List (Mode × Bool)) (rest : List Event) :
    filterEvents f ((m, emit) :: stack) (c :: rest) = (if emit then [c] else []) ++ filterEvents f stack rest := by
  have ho : c.isOpen = false := by have := not_open_and_close c; rwa [hc, Bool.and_true] at this
  exact (if_neg (ne_true_of_eq_false ho)).trans (if_pos hc)

theorem filterEvents_atom (f : Filter) (e : Event) (h1 : e.isOpen = false) (h2 : e.isClose = false)
    (stack : List (Mode × Bool)) (rest : List Event) :
    filterEvents f stack (e :: rest) = f.atAtom (modeOf stack) e ++ filterEvents f stack rest :=
  (if_neg (ne_true_of_eq_false h1)).trans (if_neg (ne_true_of_eq_false h2))

/-- what the filter leaves of a node (`keptL`: of a forest) when the mode in force is `m` -/
def kept (f : Filter) : Mode → DNode → List DNode
  | .filter, n => lsFilterNode f n
  | .drop, _ => []
  | .copy, n => [n]

def keptL (f : Filter) : Mode → List DNode → List DNode
  | .filter, ns => lsFilterL f ns
  | .drop, _ => []
  | .copy, ns => ns

theorem kept_node (f : Filter) (m : Mode) (o c : Event) (kids : List DNode) :
    kept f m (.node o kids c) =
      if (f.atOpen m o).2 then [.node o (keptL f (f.atOpen m o).1 kids) c] else keptL f (f.atOpen m o).1 kids := by
  cases m with
  | drop => rfl
  | copy => rfl
  | filter =>
    rw [kept, lsFilterNode.eq_def, Filter.atOpen.eq_def]
    dsimp only
    -- both sides match on `o` with the same four alternatives
    split
    · cases f.onElement _ <;> rfl
    · split <;> rfl
    · rfl
    · rfl

end XV.Lemmas.Infoset
