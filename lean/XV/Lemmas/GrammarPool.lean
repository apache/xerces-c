/-
Lemmas for C15 about the grammar pool and the resolver of `XV.Model.GrammarPool`: how `tblGet` sees `tblPut` and `tblRemove`;
`Frozen p q`, what a locked pool keeps, which every pool and resolver operation other than unlock preserves (each finds the
pool locked and hands it back, and a fold carries that along a history); the lookup order of `getGrammar`.
-/
import XV.Model.GrammarPool
namespace XV.Lemmas.GrammarPool
open XV.Model.GrammarPool

theorem tblGet_remove (t : List Gram) (k k' : Nat) :
    tblGet (tblRemove t k) k' = if k' = k then none else tblGet t k' := by
  unfold tblGet tblRemove
  rw [List.find?_filter]
  split
  · rename_i h
    rw [List.find?_eq_none]
    intro g _; simp [h]
  · rename_i h
    congr 1; funext g
    by_cases hg : g.key = k' <;> simp [hg, h]

theorem tblGet_remove_self (t : List Gram) (k : Nat) : tblGet (tblRemove t k) k = none := by
  rw [tblGet_remove, if_pos rfl]

theorem tblGet_remove_other (t : List Gram) (k k' : Nat) (h : k' ≠ k) :
    tblGet (tblRemove t k) k' = tblGet t k' := by
  rw [tblGet_remove, if_neg h]

theorem tblGet_put (t : List Gram) (g : Gram) (k : Nat) :
    tblGet (tblPut t g) k = if k = g.key then some g else tblGet t k := by
  have h := tblGet_remove t g.key k
  unfold tblGet tblPut at *
  rw [List.find?_append, h]
  split
  · rename_i hk; simp [hk]
  · rename_i hk
    have : (g.key == k) = false := by simp; exact fun e => hk e.symm
    simp [List.find?, this]

theorem tblGet_put_self (t : List Gram) (g : Gram) : tblGet (tblPut t g) g.key = some g := by
  rw [tblGet_put, if_pos rfl]

theorem tblGet_put_other (t : List Gram) (g : Gram) (k : Nat) (h : k ≠ g.key) :
    tblGet (tblPut t g) k = tblGet t k := by
  rw [tblGet_put, if_neg h]

/-- what a locked pool must keep -/
structure Frozen (p q : Pool) : Prop where
  locked : q.locked = true
  registry : q.registry = p.registry
  strings : q.strings = p.strings

theorem Frozen.refl (p : Pool) (h : p.locked = true) : Frozen p p := ⟨h, rfl, rfl⟩
theorem Frozen.trans {p q r : Pool} (h1 : Frozen p q) (h2 : Frozen q r) : Frozen p r :=
  ⟨h2.locked, h2.registry.trans h1.registry, h2.strings.trans h1.strings⟩

theorem cacheGrammar_locked (p : Pool) (g : Option Gram) (hl : p.locked = true) : cacheGrammar p g = (p, false) := by
  cases g <;> simp [cacheGrammar, hl]

theorem orphanGrammar_locked (p : Pool) (k : Nat) (hl : p.locked = true) : orphanGrammar p k = (p, none) := by
  simp [orphanGrammar, hl]

theorem clear_locked (p : Pool) (hl : p.locked = true) : clear p = (p, false) := by
  simp [clear, hl]

theorem clear_empties (p : Pool) (hl : p.locked = false) : (clear p).2 = true ∧ ∀ k, retrieveGrammar (clear p).1 k = none := by
  simp [clear, hl, retrieveGrammar, tblGet]

theorem lockPool_locked (p : Pool) (hl : p.locked = true) : lockPool p = p := by
  simp only [lockPool, hl, Bool.not_true, Bool.false_eq_true, if_false]

theorem applyOp_frozen (p : Pool) (op : PoolOp) (hl : p.locked = true) (hu : op ≠ .unlock) : Frozen p (applyOp p op) := by
  cases op with
  | cache g | cacheNull => rw [applyOp, cacheGrammar_locked p _ hl]; exact .refl p hl
  | retrieve k => exact .refl p hl
  | orphan k => rw [applyOp, orphanGrammar_locked p k hl]; exact .refl p hl
  | clear => rw [applyOp, clear_locked p hl]; exact .refl p hl
  | lock => rw [applyOp, lockPool_locked p hl]; exact .refl p hl
  | unlock => exact absurd rfl hu
  | xsModel => simp only [applyOp, getXSModel, hl, Bool.true_or, if_true]; exact .refl p hl
  | addURI s =>
    -- in each branch for a locked pool, nothing or the synchronized string pool alone changes
    rw [applyOp, addOrFindURI, if_pos hl]
    repeat' split
    all_goals exact ⟨hl, rfl, rfl⟩

theorem runOps_frozen (ops : List PoolOp) (p : Pool) (hl : p.locked = true) (hu : ∀ op ∈ ops, op ≠ .unlock) :
    Frozen p (runOps ops p) :=
  List.foldlRecOn (motive := Frozen p) ops applyOp (.refl p hl) fun q hq op ho => hq.trans (applyOp_frozen q op hq.locked (hu op ho))

theorem putGrammar_pool (r : Resolver) (g : Gram) (hl : r.pool.locked = true) : (putGrammar r g).pool = r.pool := by
  unfold putGrammar
  split
  · rw [cacheGrammar_locked _ _ hl]; rfl
  · rfl

theorem cacheOne_pool (r : Resolver) (g : Gram) (hl : r.pool.locked = true) : (cacheOne r g).pool = r.pool := by
  unfold cacheOne
  rw [cacheGrammar_locked _ _ hl]; rfl

theorem cacheGrammars_pool (r : Resolver) (hl : r.pool.locked = true) : (cacheGrammars r).pool = r.pool :=
  List.foldlRecOn (motive := fun r' : Resolver => r'.pool = r.pool) r.bucket cacheOne rfl
    fun r' h g _ => (cacheOne_pool r' g (h ▸ hl)).trans h

theorem getGrammar_pool (r : Resolver) (k : Nat) : (getGrammar r k).1.pool = r.pool := by
  fun_cases getGrammar r k <;> rfl

theorem applyResOp_frozen (r : Resolver) (op : ResOp) (hl : r.pool.locked = true) (hu : op ≠ .pool .unlock) :
    Frozen r.pool (applyResOp r op).pool := by
  cases op with
  | get k => rw [applyResOp, getGrammar_pool]; exact .refl _ hl
  | put g => rw [applyResOp, putGrammar_pool r g hl]; exact .refl _ hl
  | reset | setCache v | setUse v => exact .refl _ hl
  | resetCached => simp only [applyResOp, resetCachedGrammar, clear_locked _ hl]; exact .refl _ hl
  | cacheAll => rw [applyResOp, cacheGrammars_pool r hl]; exact .refl _ hl
  | orphan k =>
    simp only [applyResOp, resolverOrphan, orphanGrammar_locked _ _ hl]
    split
    · split <;> exact .refl _ hl
    · exact .refl _ hl
  | pool op => exact applyOp_frozen r.pool op hl fun e => hu (by rw [e])

theorem runResOps_frozen (ops : List ResOp) (r : Resolver) (hl : r.pool.locked = true)
    (hu : ∀ op ∈ ops, op ≠ .pool .unlock) : Frozen r.pool (runResOps ops r).pool :=
  List.foldlRecOn (motive := fun r' : Resolver => Frozen r.pool r'.pool) ops applyResOp (.refl _ hl)
    fun r' h op ho => h.trans (applyResOp_frozen r' op h.locked (hu op ho))

/-- lookup order of GrammarResolver::getGrammar: the bucket wins; the pool is consulted only with fUseCachedGrammar -/
theorem getGrammar_bucket_first (r : Resolver) (k : Nat) (g : Gram) (h : tblGet r.bucket k = some g) :
    (getGrammar r k).2 = some g := by
  simp only [getGrammar, h]

theorem getGrammar_no_cache (r : Resolver) (k : Nat) (hb : tblGet r.bucket k = none) (hu : r.useCached = false) :
    (getGrammar r k).2 = none := by
  simp only [getGrammar, hb, hu, Bool.false_eq_true, if_false]

theorem getGrammar_from_pool (r : Resolver) (k : Nat) (hb : tblGet r.bucket k = none) (hu : r.useCached = true)
    (hf : tblGet r.fromPool k = none) : (getGrammar r k).2 = retrieveGrammar r.pool k := by
  simp only [getGrammar, hb, hu, hf, if_true]
  split <;> simp_all

end XV.Lemmas.GrammarPool
