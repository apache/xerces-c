/-
C04: every modelled operation keeps the index invariant `CInv`, for every stream behaviour, PE or not, through every
encoding switch, whatever the operation returns or throws.  `Op`, `stepOp`, `runOps` name the operations and the reader
that a sequence of them leaves.  A piece that several operations share (refreshCharBuffer, handleEOL, the fill loop of
skippedString/peekString) is stated once with what the caller does next as a parameter: `CInv` holds after the piece and
its continuation, if it holds after each way to go on.
-/
import XV.Lemmas.ReaderDeliver
namespace XV.Lemmas.ReaderReach
open XV.Gen.ReaderConsts
open XV.Model.Utf8 XV.Model.Reader XV.Spec.Reader XV.Lemmas.ReaderDec XV.Lemmas.ReaderInv XV.Lemmas.ReaderDeliver

/-- the reader left behind by an operation, whatever its outcome -/
def afterG (r : Reader) : GRes → Reader
  | .char _ r' => r' | .eof r' => r' | .exc _ r' => r' | .fuelOut => r
def afterB (r : Reader) : BRes → Reader
  | .ok _ r' => r' | .exc _ r' => r' | .fuelOut => r
def afterR (r : Reader) : RRes → Reader
  | .ok _ r' => r' | .exc _ => r | .fuelOut => r

theorem setPos_cinv (r : Reader) (l c : Nat) (h : CInv r) : CInv (setPos r l c) :=
  ⟨setPos_inv r l c h.inv, h.cb⟩

theorem advance_cinv (r : Reader) (h : CInv r) (hne : r.charWin ≠ []) : CInv r.advance :=
  ⟨(advance_facts r h.inv hne).1, h.cb⟩

theorem eatLF_cinv (r : Reader) (h : CInv r) : CInv (eatLF r) := by
  unfold eatLF
  split
  · rename_i hc
    by_cases hne : r.charWin = []
    · -- an empty window reads as 0, which is neither LF nor NEL
      simp [Reader.curChar, hne] at hc
      rcases hc with h1 | ⟨h1, _⟩ <;> exact absurd h1 (by decide)
    · exact advance_cinv r h hne
  · exact h

/-- `refreshCharBuffer()` and what follows it in a look-ahead operation, whose result type is `α` (`GRes` or `BRes`) and
whose reader afterwards is read off by `after` (`afterG r`, `afterB r`): `ex e` after an exception, `no` after a false, `go`
after a true, and then the window is not empty.  The budget does not run out, so nothing is asked of `fo`. -/
theorem refreshThen_cinv {α : Type} (after : α → Reader) {r : Reader} (h : CInv r)
    {fo : α} {ex : Exc → α} {no go : Reader → α} (hex : ∀ e, CInv (after (ex e)))
    (hno : ∀ r', CInv r' → CInv (after (no r'))) (hgo : ∀ r', CInv r' → r'.charWin ≠ [] → CInv (after (go r'))) :
    CInv (after (match refreshCharBuffer r with
      | .fuelOut => fo | .exc e => ex e | .ok false r' => no r' | .ok true r' => go r')) := by
  have hr := refresh_cinv r h
  cases hrr : refreshCharBuffer r with
  | fuelOut => rw [hrr] at hr; exact hr.elim
  | exc e => exact hex e
  | ok more r' =>
    rw [hrr] at hr
    cases more
    · exact hno r' hr.1
    · exact hgo r' hr.1 (hr.2.2.2 rfl)

/-- handleEOL and what follows it, in the same form; again the budget does not run out -/
theorem handleEOLThen_cinv {α : Type} (after : α → Reader) (r : Reader) (c : Nat) (h : CInv r)
    {fo : α} {ok : Nat → Reader → α} {ex : Exc → Reader → α}
    (hok : ∀ c' q, CInv q → CInv (after (ok c' q))) (hex : ∀ e q, CInv q → CInv (after (ex e q))) :
    CInv (after (match handleEOL r c with
      | .ok c' q => ok c' q | .exc e q => ex e q | .fuelOut => fo)) := by
  by_cases hcr : c = chCR ∧ r.external = true
  · have hq := setPos_cinv r (r.line + 1) 1 h
    rw [hcr.1, handleEOL_cr r hcr.2, lookLF]
    by_cases hlt : (setPos r (r.line + 1) 1).charIdx < (setPos r (r.line + 1) 1).charsAvail
    · rw [if_pos hlt]
      exact hok _ _ (eatLF_cinv _ hq)
    · rw [if_neg hlt]
      have hr := refresh_cinv _ hq
      cases hrr : refreshCharBuffer (setPos r (r.line + 1) 1) with
      | fuelOut => rw [hrr] at hr; exact hr.elim
      | exc e => exact hex _ _ hq
      | ok more r' =>
        rw [hrr] at hr
        cases more
        · exact hok _ _ hr.1
        · exact hok _ _ (eatLF_cinv _ hr.1)
  · obtain ⟨c', _, he⟩ := handleEOL_plain r c hcr
    rw [he]
    exact hok _ _ (setPos_cinv _ _ _ h)

/-- `r0`: the reader the operation was called on, to which `afterG` falls back on `.fuelOut` -/
theorem takeChar_cinv (r0 r : Reader) (h : CInv r) (hne : r.charWin ≠ []) :
    CInv (afterG r0 (takeChar r)) := by
  rw [takeChar_handleEOL]
  exact handleEOLThen_cinv (afterG r0) _ _ (advance_cinv r h hne) (fun _ _ hq => hq) (fun _ _ hq => hq)

theorem getNextChar_cinv (r : Reader) (h : CInv r) : CInv (afterG r (getNextChar r)) := by
  rw [getNextChar_eq]
  split
  · split
    · exact h
    · exact refreshThen_cinv (afterG r) h (fun _ => h) (fun _ h' => h') (takeChar_cinv r)
  · rename_i hlt
    exact takeChar_cinv r r h (win_ne_of_lt r h.inv (Nat.lt_of_not_le hlt))

theorem peekNextChar_cinv (r : Reader) (h : CInv r) : CInv (afterG r (peekNextChar r)) := by
  unfold peekNextChar
  split
  · exact refreshThen_cinv (afterG r) h (fun _ => h) (fun _ h' => h') (fun _ h' _ => h')
  · exact h

theorem getNextCharIfNot_cinv (r : Reader) (c : Nat) (h : CInv r) : CInv (afterG r (getNextCharIfNot r c)) := by
  have go : ∀ q, CInv q → q.charWin ≠ [] → CInv (afterG r (if q.curChar == c then .eof q else takeChar q)) := by
    intro q hq hne
    split
    · exact hq
    · exact takeChar_cinv r q hq hne
  unfold getNextCharIfNot
  simp only []
  split
  · split
    · exact h
    · exact refreshThen_cinv (afterG r) h (fun _ => h) (fun _ h' => h') go
  · rename_i hlt
    exact go r h (win_ne_of_lt r h.inv (Nat.lt_of_not_le hlt))

/-- how skippedChar and skippedSpace begin: `if (fCharIndex == fCharsAvail) { if (!refreshCharBuffer()) return false; }`, then `go` -/
theorem skipped_cinv (r : Reader) (h : CInv r) (go : Reader → BRes)
    (hgo : ∀ q, CInv q → q.charWin ≠ [] → CInv (afterB r (go q))) :
    CInv (afterB r (if (r.charIdx == r.charsAvail) = true then
        match refreshCharBuffer r with
        | .fuelOut => .fuelOut | .exc e => .exc e r | .ok false r' => .ok false r' | .ok true r' => go r'
      else go r)) := by
  split
  · exact refreshThen_cinv (afterB r) h (fun _ => h) (fun _ h' => h') hgo
  · rename_i hne
    exact hgo r h (win_ne_of_lt r h.inv
      (Nat.lt_of_le_of_ne (Nat.le.intro h.inv.char_len) fun he => hne (beq_iff_eq.mpr he)))

theorem skippedChar_cinv (r : Reader) (c : Nat) (h : CInv r) : CInv (afterB r (skippedChar r c)) := by
  unfold skippedChar
  simp only []
  refine skipped_cinv r h _ fun q hq hne => ?_
  split
  · exact setPos_cinv q.advance q.advance.line (q.col + 1) (advance_cinv q hq hne)
  · exact hq

theorem skippedSpace_cinv (r : Reader) (h : CInv r) : CInv (afterB r (skippedSpace r)) := by
  unfold skippedSpace
  simp only []
  refine skipped_cinv r h _ fun q hq hne => ?_
  have ha := advance_cinv q hq hne
  split
  · split
    · exact setPos_cinv q.advance q.advance.line (q.advance.col + 1) ha
    · exact handleEOLThen_cinv (afterB r) _ _ ha (fun _ _ hq => hq) (fun _ _ hq => hq)
  · exact hq

theorem refresh_ok_cinv {r r' : Reader} {more : Bool} (h : CInv r) (he : refreshCharBuffer r = .ok more r') : CInv r' := by
  have hr := refresh_cinv r h
  rw [he] at hr
  exact hr.1

/-- the loop of skippedString and peekString and what follows it: `yes` once `n` characters are in the window;
`r0`: the reader the operation was called on -/
theorem fillThen_cinv (strict : Bool) (r0 : Reader) (h0 : CInv r0) (yes : Reader → BRes) (k : Nat) (r : Reader) (n : Nat)
    (hyes : ∀ q, CInv q → n ≤ q.charsAvail - q.charIdx → CInv (afterB r0 (yes q))) :
    CInv r → CInv (afterB r0 (match fillLoop strict k r n with | .ok true r' => yes r' | other => other)) := by
  -- the cases are the ways through `fillLoop`, in its order: out of budget, here or in the refresh (`afterB` falls back
  -- to `r0`); the refresh throws (the reader stays `r`); it says false to a strict caller, or has added nothing (both
  -- return the refreshed reader); it has added something (round again); `n` characters are there
  fun_induction fillLoop strict k r n <;> intro h
  case case1 | case2 => exact h0
  case case3 => exact h
  case case4 he _ | case5 he _ _ => exact refresh_ok_cinv h he
  case case6 he _ _ ih => exact ih hyes (refresh_ok_cinv h he)
  case case7 hge => exact hyes _ h (Nat.le_of_not_lt hge)

theorem skippedString_cinv (r : Reader) (s : List Nat) (h : CInv r) : CInv (afterB r (skippedString r s)) := by
  refine fillThen_cinv true r h _ _ r _ (fun q hq hlen => ?_) h
  split
  · have h1 := hq.inv.char_len
    have h2 := hq.inv.size_len
    refine ⟨⟨hq.inv.raw_len, hq.inv.raw_le, ?_, hq.inv.char_le, ?_, hq.inv.fuel_ok⟩, hq.cb⟩
    · show q.charIdx + s.length + (q.charWin.drop s.length).length = q.charsAvail
      rw [List.length_drop]; omega
    · show (q.sizeWin.drop s.length).length = (q.charWin.drop s.length).length
      rw [List.length_drop, List.length_drop, h2]
  · exact hq

theorem peekString_cinv (r : Reader) (s : List Nat) (h : CInv r) : CInv (afterB r (peekString r s)) :=
  fillThen_cinv false r h _ _ r _ (fun _ hq _ => hq) h

theorem setEncoding_cinv (r : Reader) (n : EncName) (h : CInv r) : CInv (setEncoding r n).2 := by
  have keep : ∀ (e : Enc) (x : Option Enc), CInv { r with enc := e, xcoder := x } :=
    fun _ _ => ⟨⟨h.inv.raw_len, h.inv.raw_le, h.inv.char_len, h.inv.char_le, h.inv.size_len, h.inv.fuel_ok⟩, h.cb⟩
  unfold setEncoding
  split
  · exact h
  · split
    · split
      · exact h
      · simp only []
        split
        · exact keep _ _
        · exact h
    · split
      · exact keep _ _
      · exact keep _ _

inductive Op
  | getNextChar
  | peekNextChar
  | getNextCharIfNot (c : Nat)
  | skippedChar (c : Nat)
  | skippedSpace
  | skippedString (s : List Nat)
  | peekString (s : List Nat)
  | refreshCharBuffer
  | setEncoding (n : EncName)

/-- the reader after one operation (whatever it returned or threw) -/
def stepOp (r : Reader) : Op → Reader
  | .getNextChar => afterG r (getNextChar r)
  | .peekNextChar => afterG r (peekNextChar r)
  | .getNextCharIfNot c => afterG r (getNextCharIfNot r c)
  | .skippedChar c => afterB r (skippedChar r c)
  | .skippedSpace => afterB r (skippedSpace r)
  | .skippedString s => afterB r (skippedString r s)
  | .peekString s => afterB r (peekString r s)
  | .refreshCharBuffer => afterR r (refreshCharBuffer r)
  | .setEncoding n => (setEncoding r n).2

def runOps (r : Reader) (ops : List Op) : Reader := ops.foldl stepOp r

theorem stepOp_cinv (r : Reader) (op : Op) (h : CInv r) : CInv (stepOp r op) := by
  cases op with
  | getNextChar => exact getNextChar_cinv r h
  | peekNextChar => exact peekNextChar_cinv r h
  | getNextCharIfNot c => exact getNextCharIfNot_cinv r c h
  | skippedChar c => exact skippedChar_cinv r c h
  | skippedSpace => exact skippedSpace_cinv r h
  | skippedString s => exact skippedString_cinv r s h
  | peekString s => exact peekString_cinv r s h
  | refreshCharBuffer =>
    show CInv (afterR r (refreshCharBuffer r))
    cases hrr : refreshCharBuffer r with
    | fuelOut => exact h
    | exc e => exact h
    | ok more r' => exact refresh_ok_cinv h hrr
  | setEncoding n => exact setEncoding_cinv r n h

theorem runOps_cinv (ops : List Op) : ∀ (r : Reader), CInv r → CInv (runOps r ops) := by
  induction ops with
  | nil => intro r h; exact h
  | cons op ops ih => intro r h; exact ih _ (stepOp_cinv r op h)

end XV.Lemmas.ReaderReach
