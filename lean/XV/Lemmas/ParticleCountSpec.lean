/-
C08 — counting states, specification side: the block check `chk` and the compact shape `Compact`.

For a converted tree in compact shape (what `convertContentSpecTree` yields when `useRepeatingLeafNodes` holds: atoms
`a`, `a?`, `a*`, `a+`, `Loop a{m,n}` combined by {1,1} sequence / choice groups) whose leaves are pairwise different,
the particle language is the language of the skeleton `sk` (every `Loop` read as the `*` / `+` wrapped around it)
restricted by the block check: every maximal block of consecutive occurrences of a `Loop` leaf has a length within
the leaf's occurrence range.  That is `compact_lang` (ParticleCountLang).
-/
import XV.Lemmas.ParticleDfa
import XV.Lemmas.Glushkov
namespace XV.Lemmas.ParticleCount
open XV.Spec.Particle XV.Model.Particle XV.Model.ParticleDfa XV.Lemmas.Particle XV.Lemmas.ParticleExpand
open XV.Spec.ContentModel (CM)
open XV.Lemmas.Glushkov (names size)

/-- leaving a block (or the end of the children): the block of a `Loop` leaf must have reached `minOccurs` -/
def endOk (rng : Rng) : Option Nat → Nat → Bool
  | none, _ => true
  | some a, loop =>
    match rng a with
    | some (mn, _) => decide (mn ≤ loop)
    | none => true

/-- the check when child `y` arrives after `loop` copies of `prev`: one more of the same must stay within `maxOccurs`,
    another child ends the block -/
def localOK (rng : Rng) (prev : Option Nat) (loop y : Nat) : Bool :=
  if prev = some y then
    (match rng y with
     | some (_, mx) => rangeOk (loop + 1) mx
     | none => true)
  else endOk rng prev loop

/-- `chk rng prev loop rest`: `prev` is the previous child, `loop` the length of the block of `prev`s read so far -/
def chk (rng : Rng) : Option Nat → Nat → List Nat → Bool
  | prev, loop, [] => endOk rng prev loop
  | prev, loop, y :: rest => localOK rng prev loop y && chk rng (some y) (if prev = some y then loop + 1 else 1) rest

theorem rangeOk_iff (k : Nat) (mx : Option Nat) : rangeOk k mx = true ↔ ∀ m, mx = some m → k ≤ m := by
  cases mx <;> simp [rangeOk]

theorem rangeOk_one {mn : Nat} {mx : Option Nat} (h : occOk mn mx = true) : rangeOk 1 mx = true := by
  cases mx with
  | none => rfl
  | some m => simp only [occOk, Bool.and_eq_true, decide_eq_true_eq] at h; simp [rangeOk, h.2]

theorem localOK_none (r : Rng) {y : Nat} (hy : r y = none) (l z : Nat) : localOK r (some y) l z = true := by
  unfold localOK
  split
  · next h => cases h; rw [hy]
  · rw [endOk, hy]

theorem chk_unranged (r : Rng) {y : Nat} (hy : r y = none) (l : Nat) : ∀ w, chk r (some y) l w = chk r none 0 w
  | [] => by simp [chk, endOk, hy]
  | z :: rest => by
    rw [chk, chk, localOK_none r hy, if_neg (nofun : ¬ (none : Option Nat) = some z)]
    by_cases hz : some y = some z
    · cases hz
      rw [if_pos rfl, chk_unranged r hy _ rest, chk_unranged r hy 1 rest]; rfl
    · rw [if_neg hz]; rfl

theorem chk_zero (r : Rng) {a : Nat} {mx : Option Nat} (ha : r a = some (0, mx)) (hocc : occOk 0 mx = true) :
    ∀ w, chk r (some a) 0 w = chk r none 0 w
  | [] => by simp [chk, endOk, ha]
  | z :: rest => by
    rw [chk, chk, localOK, localOK]
    by_cases hz : some a = some z
    · cases hz; simp [ha, rangeOk_one hocc, endOk]
    · simp [hz, endOk, ha]

theorem chk_none (r : Rng) : ∀ w : List Nat, (∀ y, y ∈ w → r y = none) → chk r none 0 w = true
  | [], _ => rfl
  | y :: rest, h => by
    rw [chk, chk_unranged r (h y List.mem_cons_self)]
    exact chk_none r rest fun z hz => h z (List.mem_cons_of_mem y hz)

theorem chk_append (rng : Rng) (y : Nat) (v : List Nat) (u : List Nat) :
    ∀ (prev : Option Nat) (loop : Nat), prev ≠ some y → y ∉ u →
      chk rng prev loop (u ++ y :: v) = (chk rng prev loop u && chk rng none 0 (y :: v)) := by
  induction u with
  | nil => exact fun prev loop h _ => by simp [chk, localOK, endOk, h]
  | cons z r ih =>
    intro prev loop _ hu
    have hi := fun l => ih (some z) l (fun h => hu (Option.some.inj h ▸ List.mem_cons_self)) fun h => hu (List.mem_cons_of_mem z h)
    rw [List.cons_append, chk, chk, hi]
    exact (Bool.and_assoc _ _ _).symm

/-- a block `w` of `a`s after `loop` of them, the count so far within `maxOccurs` (which is all the empty block needs):
    the total reaches `minOccurs` and stays within `maxOccurs` -/
theorem chk_same (rng : Rng) (a mn : Nat) (mx : Option Nat) (hr : rng a = some (mn, mx)) :
    ∀ (w : List Nat) (loop : Nat), (∀ x, x ∈ w → x = a) → (∀ m, mx = some m → loop ≤ m) →
      (chk rng (some a) loop w = true ↔ mn ≤ loop + w.length ∧ ∀ m, mx = some m → loop + w.length ≤ m)
  | [], loop, _, h0 => by simpa [chk, endOk, hr] using fun _ => h0
  | x :: w, loop, hw, _ => by
    obtain rfl := hw x List.mem_cons_self
    rw [chk, localOK, if_pos rfl, if_pos rfl, hr, Bool.and_eq_true, rangeOk_iff, List.length_cons, ← Nat.add_assoc,
      Nat.add_right_comm]
    have ih := chk_same rng x mn mx hr w (loop + 1) fun y hy => hw y (List.mem_cons_of_mem _ hy)
    exact ⟨fun ⟨h1, h2⟩ => (ih h1).1 h2, fun h =>
      have h1 := fun m hm => Nat.le_trans (Nat.le_add_right _ _) (h.2 m hm)
      ⟨h1, (ih h1).2 h⟩⟩

/-- the shape `convertContentSpecTree(…, bAllowCompactSyntax = true)` yields when `useRepeatingLeafNodes` holds -/
def Compact : XNode Nat → Bool
  | .leaf _ => true
  | .unary _ (.leaf _) => true
  | .loopRep .ZeroOrMore mn mx (.leaf _) => mn == 0 && occOk mn mx
  | .loopRep .OneOrMore mn mx (.leaf _) => decide (1 ≤ mn) && occOk mn mx
  | .bin .Sequence x y => Compact x && Compact y
  | .bin .Choice x y => Compact x && Compact y
  | _ => false

theorem leafInfos_names (x : XNode Nat) : (leafInfos x).map (·.1) = names (sk x) := by
  fun_induction leafInfos x with
  | case1 a => rfl
  | case2 t x ih => cases t <;> exact ih
  | case3 t x y ihx ihy => cases t <;> simp [sk, names, ihx, ihy]
  | case4 o mn mx a => cases o <;> rfl
  | case5 o mn mx x _ ih => cases o <;> exact ih

end XV.Lemmas.ParticleCount
