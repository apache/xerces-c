/-
C13: `WF` is preserved by each mutation primitive of the store (moveNodes, detach, setDataOf, setNameOf, alloc, killNodes,
unlinkAttr, linkAttr), and the bounded ancestor walk is exact under `WF`.  First, what holds of `AncOrSelf` in any store.
`WF` is read as a condition on every single node (`NodeWF`) plus a ranking of the parent links.  `NodeWF` has a tree half
and an attribute half (`TreeN`, `AttrN`), both instances of one notion `Link`: a list field and a back pointer that agree,
and what the two ends of a link must have in common (same document, the kinds that may be linked).  A primitive that
rewrites records in place proves the half it touches through `Link.map` and has the other half by `.frame`.
-/
import XV.Lemmas.DomStore
import XV.Spec.Dom
namespace XV.Lemmas.Dom
open XV.Model.Dom XV.Spec.Dom

theorem anc_trans {s : Store} {a b c : NodeId} (h1 : AncOrSelf s a b) (h2 : AncOrSelf s b c) : AncOrSelf s a c := by
  induction h2 with
  | refl => exact h1
  | step hq _ ih => exact .step hq ih

theorem anc_parent {s : Store} {a x q : NodeId} (hq : parentOf s x = some q) (ha : AncOrSelf s a x) (hne : a ≠ x) :
    AncOrSelf s a q := by
  cases ha with
  | refl => exact absurd rfl hne
  | step hq' ha' => rw [hq] at hq'; cases hq'; exact ha'

theorem anc_linear {s : Store} {a b x : NodeId} (h1 : AncOrSelf s a x) (h2 : AncOrSelf s b x) :
    AncOrSelf s a b ∨ AncOrSelf s b a := by
  induction h1 with
  | refl => exact Or.inr h2
  | @step x _ hq ha ih =>
    by_cases e : b = x
    · exact Or.inl (e ▸ .step hq ha)
    · exact ih (anc_parent hq h2 e)

/-- Two fields that link nodes both ways: `dn` lists the nodes below a node, `up` points back from each of them, and `R`
is what the records at the two ends of a link have in common.  `children`/`parent` and `attrs`/`ownerElem` are the two
instances. -/
structure Link (dn : NodeRec → List NodeId) (up : NodeRec → Option NodeId) (R : NodeRec → NodeRec → Prop)
    (s : Store) (i : NodeId) (r : NodeRec) : Prop where
  below : ∀ c, c ∈ dn r → ∃ rc, s.get c = some rc ∧ up rc = some i ∧ R r rc
  above : ∀ p, up r = some p → ∃ rp, s.get p = some rp ∧ i ∈ dn rp

variable {dn : NodeRec → List NodeId} {up : NodeRec → Option NodeId} {R : NodeRec → NodeRec → Prop}

/-- What a rewrite of the records in place does to a link structure: of the links those in `K` are kept and those in
`N` are new.  The equivalences `hd`, `hu` say so once for each of the two fields; with `R` on the new links (`hN`) that is all
a primitive has to show (detach, unlinkAttr, normalize: `K` drops the links to the nodes cut loose; moveNodes, linkAttr: `N`
is the links to the new parent or owner element). -/
theorem Link.map {s s' : Store} {F : NodeId → NodeRec → NodeRec} {K N : NodeId → NodeId → Prop}
    (hs : ∀ x r, s.get x = some r → s'.get x = some (F x r))
    (hd : ∀ p r c, s.get p = some r → (c ∈ dn (F p r) ↔ c ∈ dn r ∧ K p c ∨ N p c))
    (hu : ∀ c r p, s.get c = some r → (up (F c r) = some p ↔ up r = some p ∧ K p c ∨ N p c))
    (hR : ∀ p c rp rc, R rp rc → R (F p rp) (F c rc))
    (hN : ∀ p c, N p c → ∃ rp rc, s.get p = some rp ∧ s.get c = some rc ∧ R (F p rp) (F c rc))
    {x : NodeId} {r : NodeRec} (hr : s.get x = some r) (hx : Link dn up R s x r) :
    Link dn up R s' x (F x r) where
  below c hc := by
    rcases (hd x r c hr).mp hc with hc | hc
    · obtain ⟨rc, hrc, hup, hRc⟩ := hx.below c hc.1
      exact ⟨_, hs c rc hrc, (hu c rc x hrc).mpr (.inl ⟨hup, hc.2⟩), hR _ _ _ _ hRc⟩
    · obtain ⟨rp, rc, hrp, hrc, hRc⟩ := hN x c hc
      rw [hr] at hrp; cases hrp
      exact ⟨_, hs c rc hrc, (hu c rc x hrc).mpr (.inr hc), hRc⟩
  above p hp := by
    rcases (hu x r p hr).mp hp with hp | hp
    · obtain ⟨rp, hrp, hm⟩ := hx.above p hp.1
      exact ⟨_, hs p rp hrp, (hd p rp x hrp).mpr (.inl ⟨hm, hp.2⟩)⟩
    · obtain ⟨rp, _, hrp, _⟩ := hN p x hp
      exact ⟨_, hs p rp hrp, (hd p rp x hrp).mpr (.inr hp)⟩

/-- What `WF` asks of the tree links of a single node.  Which kinds of node may be linked is a condition on the two ends of a
link: a tree link leads to a node of the same document that is neither a Document nor an Attr (`WF.rootKinds` read from
the parent's side). -/
structure TreeN (s : Store) (i : NodeId) (r : NodeRec) : Prop where
  link : Link (·.children) (·.parent)
    (fun rp rc => rc.owner = rp.owner ∧ rc.kind ≠ .document ∧ rc.kind ≠ .attr) s i r
  nodup : r.children.Nodup

/-- … and of its attribute map: a link of the map leads from an Element to an Attr of the same document (`WF.attrsElem` read
from the attribute's side) -/
structure AttrN (s : Store) (i : NodeId) (r : NodeRec) : Prop where
  link : Link (·.attrs) (·.ownerElem)
    (fun re ra => ra.kind = .attr ∧ ra.owner = re.owner ∧ re.kind = .element) s i r
  sorted : (r.attrs.map (nameOf s)).Pairwise (fun x y => nameLt x y = true)

structure NodeWF (s : Store) (i : NodeId) (r : NodeRec) : Prop where
  tree : TreeN s i r
  attr : AttrN s i r
  ownerDoc : ∃ rd, s.get r.owner = some rd ∧ rd.kind = .document ∧ rd.owner = r.owner
  docSelf : r.kind = .document → r.owner = i

theorem wf_iff_nodeWF (s : Store) :
    WF s ↔ (∀ i r, s.get i = some r → NodeWF s i r) ∧
      ∃ rank : NodeId → Nat, ∀ c rc p, s.get c = some rc → rc.parent = some p → rank c < rank p := by
  constructor
  · refine fun h => ⟨fun i r hi => ⟨⟨⟨fun c hc => ?_, fun p => h.parentChild i r p hi⟩, h.nodupChildren i r hi⟩,
      ⟨⟨fun a ha => ?_, fun e => h.attrBack i r e hi⟩, h.attrSorted i r hi⟩, h.ownerDoc i r hi, h.docSelf i r hi⟩,
      h.acyclic⟩
    · obtain ⟨rc, hrc, hp⟩ := h.childParent i r c hi hc
      have hroot : ¬ (rc.kind = .document ∨ rc.kind = .attr) := fun hk => by
        rw [h.rootKinds c rc hrc hk] at hp; cases hp
      exact ⟨rc, hrc, hp, h.ownerUniform c rc i r hrc hp hi, fun hk => hroot (.inl hk), fun hk => hroot (.inr hk)⟩
    · obtain ⟨ra, hra, h1, h2, h3⟩ := h.attrLink i r a hi ha
      exact ⟨ra, hra, h2, h1, h3, h.attrsElem i r hi (List.ne_nil_of_mem ha)⟩
  · rintro ⟨h, hrank⟩
    -- what the parent's side says of a node that has a parent
    have up : ∀ c rc p rp, s.get c = some rc → rc.parent = some p → s.get p = some rp →
        rc.owner = rp.owner ∧ rc.kind ≠ .document ∧ rc.kind ≠ .attr := by
      intro c rc p rp hc hp hp'
      obtain ⟨rp0, hrp0, hm⟩ := (h c rc hc).tree.link.above p hp
      rw [hp'] at hrp0; cases hrp0
      obtain ⟨rc0, hrc0, _, hR⟩ := (h p rp hp').tree.link.below c hm
      rw [hc] at hrc0; cases hrc0
      exact hR
    refine ⟨fun p r c hp hc => ?_, fun c rc p hc => (h c rc hc).tree.link.above p, fun p r hp => (h p r hp).tree.nodup,
      hrank, fun i r hi => (h i r hi).ownerDoc, fun i r hi => (h i r hi).docSelf,
      fun c rc p rp hc hp hp' => (up c rc p rp hc hp hp').1, fun i r hi hk => ?_, fun e re a he ha => ?_,
      fun a ra e ha => (h a ra ha).attr.link.above e, fun e re he => (h e re he).attr.sorted, fun e re he hne => ?_⟩
    · obtain ⟨rc, hrc, hp, _⟩ := (h p r hp).tree.link.below c hc
      exact ⟨rc, hrc, hp⟩
    · cases hp : r.parent with
      | none => rfl
      | some p =>
        obtain ⟨rp, hrp, _⟩ := (h i r hi).tree.link.above p hp
        exact (hk.elim (up i r p rp hi hp hrp).2.1 (up i r p rp hi hp hrp).2.2).elim
    · obtain ⟨ra, hra, h2, h1, h3, _⟩ := (h e re he).attr.link.below a ha
      exact ⟨ra, hra, h1, h2, h3⟩
    · obtain ⟨a, ha⟩ := List.exists_mem_of_ne_nil _ hne
      obtain ⟨_, _, _, _, _, hke⟩ := (h e re he).attr.link.below a ha
      exact hke

theorem wf_kid {s : Store} (h : WF s) {p c : NodeId} {r : NodeRec} (hp : s.get p = some r) (hc : c ∈ r.children) :
    ∃ rc, s.get c = some rc ∧ rc.parent = some p ∧ rc.owner = r.owner ∧ rc.kind ≠ .document ∧ rc.kind ≠ .attr := by
  exact (((wf_iff_nodeWF s).mp h).1 p r hp).tree.link.below c hc

/-- A rewrite of child lists, parents and character data leaves the attribute maps in order.  Which fields a rewrite
may touch is said by the shape of `hs`: the equations `get_moveNodes`, `get_detach` … fit it as they stand. -/
theorem AttrN.frame {s s' : Store} {C : NodeId → NodeRec → List NodeId} {P : NodeId → NodeRec → Option NodeId}
    {D : NodeId → NodeRec → List Nat}
    (hs : ∀ x r, s.get x = some r → s'.get x = some { r with children := C x r, parent := P x r, data := D x r })
    {x : NodeId} {r : NodeRec} (hr : s.get x = some r) (hx : AttrN s x r) :
    AttrN s' x { r with children := C x r, parent := P x r, data := D x r } where
  link := hx.link.map (K := fun _ _ => True) (N := fun _ _ => False) hs (fun _ _ _ _ => by simp)
    (fun _ _ _ _ => by simp) (fun _ _ _ _ h => h) nofun hr
  sorted := by
    rw [List.map_congr_left fun a ha => ?_]
    · exact hx.sorted
    · obtain ⟨ra, hra, _⟩ := hx.link.below a ha
      unfold nameOf; rw [hs a ra hra, hra]

theorem TreeN.frame {s s' : Store} {A : NodeId → NodeRec → List NodeId} {O : NodeId → NodeRec → Option NodeId}
    {Nm D : NodeId → NodeRec → List Nat}
    (hs : ∀ x r, s.get x = some r →
      s'.get x = some { r with attrs := A x r, ownerElem := O x r, name := Nm x r, data := D x r })
    {x : NodeId} {r : NodeRec} (hr : s.get x = some r) (hx : TreeN s x r) :
    TreeN s' x { r with attrs := A x r, ownerElem := O x r, name := Nm x r, data := D x r } where
  link := hx.link.map (K := fun _ _ => True) (N := fun _ _ => False) hs (fun _ _ _ _ => by simp)
    (fun _ _ _ _ => by simp) (fun _ _ _ _ h => h) nofun hr
  nodup := hx.nodup

/-- a store that only grows: both frames with nothing rewritten -/
theorem NodeWF.mono {s s' : Store} {i : NodeId} {r : NodeRec} (h : NodeWF s i r) (hr : s.get i = some r)
    (hold : ∀ j rj, s.get j = some rj → s'.get j = some rj) : NodeWF s' i r :=
  ⟨h.tree.frame hold hr, h.attr.frame hold hr, h.ownerDoc.imp fun rd ⟨h1, h2⟩ => ⟨hold _ rd h1, h2⟩, h.docSelf⟩

theorem NodeWF.isolated {s : Store} {i : NodeId} {r : NodeRec} (h1 : r.parent = none) (h2 : r.children = [])
    (h3 : r.attrs = []) (h4 : r.ownerElem = none) (hdoc : r.kind = .document → r.owner = i)
    (hown : ∃ rd, s.get r.owner = some rd ∧ rd.kind = .document ∧ rd.owner = r.owner) : NodeWF s i r where
  tree := ⟨⟨fun c hc => (by rw [h2] at hc; cases hc), fun p hp => (by rw [h1] at hp; cases hp)⟩,
    by rw [h2]; exact List.nodup_nil⟩
  attr := ⟨⟨fun a ha => (by rw [h3] at ha; cases ha), fun e he => (by rw [h4] at he; cases he)⟩,
    by rw [h3]; exact List.Pairwise.nil⟩
  ownerDoc := hown
  docSelf := hdoc

/-- `WF` after a rewrite of every record.  Kind and owner document stay, so the owner part of `WF` stays; the tree half
and the attribute half are asked for separately (a rewrite that touches only one has the other by `.frame`), and the new
parent links must be ranked. -/
theorem wf_map {s s' : Store} {F : NodeId → NodeRec → NodeRec} (hg : ∀ i, s'.get i = (s.get i).map (F i))
    (h : WF s) (hk : ∀ i r, (F i r).kind = r.kind) (ho : ∀ i r, (F i r).owner = r.owner)
    (ht : ∀ i r, s.get i = some r → TreeN s i r → TreeN s' i (F i r))
    (ha : ∀ i r, s.get i = some r → AttrN s i r → AttrN s' i (F i r))
    (hr : ∃ rank : NodeId → Nat, ∀ c rc p, s.get c = some rc → (F c rc).parent = some p → rank c < rank p) :
    WF s' := by
  obtain ⟨rank, hrank⟩ := hr
  have hn := ((wf_iff_nodeWF s).mp h).1
  refine (wf_iff_nodeWF _).mpr ⟨fun i r' hi => ?_, rank, fun c rc' p hc hp => ?_⟩
  · obtain ⟨r, hr, rfl⟩ := get_map_eq_some hg hi
    have hx := hn i r hr
    refine ⟨ht i r hr hx.tree, ha i r hr hx.attr, ?_, ?_⟩
    · obtain ⟨rd, hrd, hd⟩ := hx.ownerDoc
      rw [ho]
      exact ⟨_, get_map_of hg _ rd hrd, by rw [hk, ho]; exact hd⟩
    · rw [hk, ho]; exact hx.docSelf
  · obtain ⟨rc, hrc, rfl⟩ := get_map_eq_some hg hc
    exact hrank c rc p hrc hp

theorem wf_moveNodes (s : Store) (h : WF s) (ms : List NodeId) (p : NodeId) (ref : Option NodeId)
    (rp : NodeRec) (hp : s.get p = some rp)
    (hms : ∀ m, m ∈ ms → ∃ rm, s.get m = some rm ∧ rm.owner = rp.owner ∧ rm.kind ≠ .document ∧
      rm.kind ≠ .attr ∧ ¬ AncOrSelf s m p)
    (hnd : ms.Nodup) : WF (moveNodes s ms p ref) := by
  have hg := get_moveNodes s ms p ref
  refine wf_map hg h (fun _ _ => rfl) (fun _ _ => rfl) (fun i r hi hx => ?_)
    (fun i r hi hx => hx.frame (get_map_of hg) hi) ?_
  · refine ⟨?_, ?_⟩
    · refine hx.link.map (K := fun _ c => c ∉ ms) (N := fun q c => q = p ∧ c ∈ ms) (get_map_of hg)
        (fun q r c _ => mem_movedKids ms p ref q r.children c) (fun c r q _ => movedParent_eq_some ms p c r.parent q)
        (fun _ _ _ _ h => h) (fun q c hN => ?_) hi
      obtain ⟨rm, hrm, ho, hkd, hka, _⟩ := hms c hN.2
      exact ⟨rp, rm, hN.1 ▸ hp, hrm, ho, hkd, hka⟩
    · have hf : (r.children.filter (fun c => !ms.contains c)).Nodup := hx.nodup.filter _
      show (if i = p then insertAt ref ms _ else _).Nodup
      split
      · exact nodup_insertAt _ _ _ hf hnd fun x hx hx' => (mem_filter_not_contains.mp hx').2 hx
      · exact hf
  · -- a moved node and what hangs below it now lie below `p`: `p` and what is above it are raised over every moved node
    obtain ⟨rank, hrank⟩ := h.acyclic
    classical
    refine ⟨fun x => rank x + (if AncOrSelf s x p then 1 + (ms.map rank).max?.getD 0 else 0), ?_⟩
    intro c rc q hrc hq
    rcases (movedParent_eq_some ..).mp hq with ⟨hpar, hcm⟩ | ⟨rfl, hcm⟩
    · have hlt := hrank c rc q hrc hpar
      by_cases hca : AncOrSelf s c p
      · simp only [if_pos hca, if_pos (anc_trans (.step (parentOf_eq_some.mpr ⟨rc, hrc, hpar⟩) .refl) hca)]; omega
      · simp only [if_neg hca]; split <;> omega
    · obtain ⟨rm, hrm, _, _, _, hna⟩ := hms c hcm
      have : rank c ≤ (ms.map rank).max?.getD 0 := List.le_max?_getD_of_mem (List.mem_map_of_mem hcm)
      simp only [if_neg hna, if_pos (AncOrSelf.refl : AncOrSelf s q q)]
      omega

theorem wf_moveNode (s : Store) (h : WF s) (m p : NodeId) (ref : Option NodeId) (rm rp : NodeRec)
    (hm : s.get m = some rm) (hp : s.get p = some rp) (ho : rm.owner = rp.owner) (hd : rm.kind ≠ .document)
    (ha : rm.kind ≠ .attr) (hna : ¬ AncOrSelf s m p) : WF (moveNodes s [m] p ref) := by
  refine wf_moveNodes s h [m] p ref rp hp (fun x hx => ?_) (List.pairwise_singleton _ _)
  rw [List.mem_singleton] at hx; subst hx
  exact ⟨rm, hm, ho, hd, ha, hna⟩

theorem wf_detach (s : Store) (h : WF s) (c : NodeId) : WF (detach s c) := by
  have hg := get_detach s c
  refine wf_map hg h (fun _ _ => rfl) (fun _ _ => rfl) (fun i r hi hx => ?_)
    (fun i r hi hx => hx.frame (get_map_of hg) hi)
    (h.acyclic.imp fun _ hrank x rx p hx hp => hrank x rx p hx (Option.ite_none_left_eq_some.mp hp).2)
  exact {
    link := hx.link.map (K := fun _ x => x ≠ c) (N := fun _ _ => False) (get_map_of hg)
      (fun p r x _ => by simp [List.mem_filter]) (fun x r p _ => by simp [Option.ite_none_left_eq_some, and_comm])
      (fun _ _ _ _ h => h) nofun hi
    nodup := hx.nodup.filter _ }

theorem wf_setDataOf (s : Store) (h : WF s) (t : NodeId) (d : List Nat) : WF (setDataOf s t d) :=
  have hs := get_map_of (get_setDataOf s t d)
  wf_map (get_setDataOf s t d) h (fun _ _ => rfl) (fun _ _ => rfl) (fun _ _ hi hx => hx.frame hs hi)
    (fun _ _ hi hx => hx.frame hs hi) h.acyclic

theorem wf_setNameOf (s : Store) (h : WF s) (n : NodeId) (nm : List Nat)
    (hn : ∀ e re, s.get e = some re → n ∉ re.attrs) : WF (setNameOf s n nm) := by
  have hg := get_setNameOf s n nm
  refine wf_map hg h (fun _ _ => rfl) (fun _ _ => rfl) (fun _ _ hi hx => hx.frame (get_map_of hg) hi)
    (fun e re he hx => ?_) h.acyclic
  refine ⟨hx.link.map (K := fun _ _ => True) (N := fun _ _ => False) (get_map_of hg) (fun _ _ _ _ => by simp)
    (fun _ _ _ _ => by simp) (fun _ _ _ _ h => h) nofun he, ?_⟩
  -- no name that orders a map changes
  rw [List.map_congr_left fun x hx => ?_]
  · exact hx.sorted
  · have hxn : x ≠ n := fun hxn => hn e re he (hxn ▸ hx)
    unfold nameOf; rw [hg]
    cases s.get x with
    | none => rfl
    | some r => simp [hxn]

theorem wf_alloc (s : Store) (h : WF s) (r0 : NodeRec)
    (h1 : r0.parent = none) (h2 : r0.children = []) (h3 : r0.attrs = []) (h4 : r0.ownerElem = none)
    (h5 : r0.kind ≠ .document)
    (h6 : ∃ rd, s.get r0.owner = some rd ∧ rd.kind = .document ∧ rd.owner = r0.owner) :
    WF (s.alloc r0).1 := by
  obtain ⟨hn, rank, hrank⟩ := (wf_iff_nodeWF s).mp h
  have hold := fun j rj => get_alloc_old (s := s) (i := j) (r := rj) r0
  refine (wf_iff_nodeWF _).mpr ⟨fun i r hi => ?_, rank, fun c rc p hc hp => ?_⟩
  · rw [get_alloc] at hi
    split at hi
    · cases hi
      exact .isolated h1 h2 h3 h4 (absurd · h5) (h6.imp fun rd ⟨ha, hb⟩ => ⟨hold _ rd ha, hb⟩)
    · exact (hn i r hi).mono hi hold
  · rw [get_alloc] at hc
    split at hc
    · cases hc; rw [h1] at hp; cases hp
    · exact hrank c rc p hc hp

theorem wf_killNodes (s : Store) (h : WF s) (dead : List NodeId)
    (hdoc : ∀ d r, d ∈ dead → s.get d = some r → r.kind ≠ .document) : WF (killNodes s dead) := by
  obtain ⟨hn, rank, hrank⟩ := (wf_iff_nodeWF s).mp h
  have hsome := @get_killNodes_eq_some s dead
  refine (wf_iff_nodeWF _).mpr ⟨fun i r' hi => ?_, rank, fun c rc' p hc hp => ?_⟩
  · -- a survivor keeps its links to survivors
    obtain ⟨hid, r, hr, rfl⟩ := hsome.mp hi
    have hx := hn i r hr
    refine ⟨⟨⟨fun c hc => ?_, fun p hp => ?_⟩, hx.tree.nodup.filter _⟩,
      ⟨⟨fun a ha => ?_, fun e he => ?_⟩, ?_⟩, ?_, hx.docSelf⟩
    · obtain ⟨hc, hcd⟩ := mem_filter_not_contains.mp hc
      obtain ⟨rc, hrc, hpar, ho⟩ := hx.tree.link.below c hc
      exact ⟨_, get_killNodes_of hrc hcd, killRec_parent.mpr ⟨hpar, hid⟩, ho⟩
    · obtain ⟨hpar, hpd⟩ := killRec_parent.mp hp
      obtain ⟨rp, hrp, hm⟩ := hx.tree.link.above p hpar
      exact ⟨_, get_killNodes_of hrp hpd, mem_filter_not_contains.mpr ⟨hm, hid⟩⟩
    · obtain ⟨ha, had⟩ := mem_filter_not_contains.mp ha
      obtain ⟨ra, hra, hoe, hR⟩ := hx.attr.link.below a ha
      exact ⟨_, get_killNodes_of hra had, killRec_ownerElem.mpr ⟨hoe, hid⟩, hR⟩
    · obtain ⟨hoe, hed⟩ := killRec_ownerElem.mp he
      obtain ⟨re, hre, hm⟩ := hx.attr.link.above e hoe
      exact ⟨_, get_killNodes_of hre hed, mem_filter_not_contains.mpr ⟨hm, hid⟩⟩
    · have hnames : (r.attrs.filter (fun c => !dead.contains c)).map (nameOf (killNodes s dead)) =
          (r.attrs.filter (fun c => !dead.contains c)).map (nameOf s) := by
        refine List.map_congr_left fun a ha => ?_
        obtain ⟨ha, had⟩ := mem_filter_not_contains.mp ha
        obtain ⟨ra, hra, _⟩ := hx.attr.link.below a ha
        unfold nameOf; rw [get_killNodes_of hra had, hra]; rfl
      show List.Pairwise _ ((r.attrs.filter _).map _)
      rw [hnames]
      exact hx.attr.sorted.sublist (List.filter_sublist.map _)
    · obtain ⟨rd, hrd, hk, ho⟩ := hx.ownerDoc
      exact ⟨_, get_killNodes_of hrd (fun hd => hdoc _ rd hd hrd hk), hk, ho⟩
  · obtain ⟨_, rc, hrc, rfl⟩ := hsome.mp hc
    exact hrank c rc p hrc (killRec_parent.mp hp).1

theorem wf_unlinkAttr (s : Store) (h : WF s) (a : NodeId) : WF (unlinkAttr s a) := by
  have hg := get_unlinkAttr s a
  refine wf_map hg h (fun _ _ => rfl) (fun _ _ => rfl) (fun i r hi hx => hx.frame (get_map_of hg) hi)
    (fun i r hi hx => ?_) h.acyclic
  exact {
    link := hx.link.map (K := fun _ x => x ≠ a) (N := fun _ _ => False) (get_map_of hg)
      (fun p r x _ => by simp [List.mem_filter]) (fun x r p _ => by simp [Option.ite_none_left_eq_some, and_comm])
      (fun _ _ _ _ h => h) nofun hi
    sorted := by rw [nameOf_frame hg fun _ _ => rfl]; exact hx.sorted.sublist (List.filter_sublist.map _) }

theorem sorted_insertSorted (s : Store) (a : NodeId) (nm : List Nat) (hfa : nameOf s a = nm) (l : List NodeId)
    (hs : (l.map (nameOf s)).Pairwise (fun x y => nameLt x y = true)) (hne : ∀ x, x ∈ l → nameOf s x ≠ nm) :
    ((insertSorted s a nm l).map (nameOf s)).Pairwise (fun x y => nameLt x y = true) := by
  subst hfa
  rw [List.pairwise_map] at hs ⊢
  fun_induction insertSorted s a (nameOf s a) l with
  | case1 => simp
  | case2 y ys hlt =>
    have hy := List.pairwise_cons.mp hs
    exact List.pairwise_cons.mpr ⟨List.forall_mem_cons.mpr ⟨hlt, fun z hz => nameLt_trans _ _ _ hlt (hy.1 z hz)⟩, hs⟩
  | case3 y ys hlt ih =>
    rw [List.pairwise_cons] at hs ⊢
    refine ⟨fun w hw => ?_, ih hs.2 fun x hx => hne x (List.mem_cons_of_mem _ hx)⟩
    rcases (mem_insertSorted s a _ ys w).mp hw with rfl | hw
    · exact nameLt_total _ _ (by simpa using hlt) fun h => hne y List.mem_cons_self h.symm
    · exact hs.1 _ hw

theorem sorted_inj (f : NodeId → List Nat) (l : List NodeId)
    (hs : (l.map f).Pairwise (fun x y => nameLt x y = true)) : ∀ x y, x ∈ l → y ∈ l → f x = f y → x = y := by
  have hne : l.Pairwise (fun a b => f a ≠ f b) :=
    (List.pairwise_map.mp hs).imp fun h e => by rw [e, nameLt_irrefl] at h; cases h
  intro x y hx hy
  exact List.Pairwise.forall_of_forall_of_flip (R := fun a b => f a = f b → a = b) (fun _ _ _ => rfl)
    (hne.imp fun h e => absurd e h) (hne.imp fun h e => absurd e.symm h) hx hy

theorem wf_linkAttr (s : Store) (h : WF s) (e a : NodeId) (nm : List Nat) (re ra : NodeRec)
    (he : s.get e = some re) (hra : s.get a = some ra) (hke : re.kind = .element)
    (hk : ra.kind = .attr) (hoe : ra.ownerElem = none) (hown : ra.owner = re.owner) (hnm : ra.name = nm)
    (hfresh : ∀ x, x ∈ re.attrs → nameOf s x ≠ nm) : WF (linkAttr s e a nm) := by
  have hea : e ≠ a := by rintro rfl; rw [he] at hra; cases hra; rw [hke] at hk; cases hk
  have hg := get_linkAttr s e a nm
  refine wf_map hg h (fun _ _ => rfl) (fun _ _ => rfl) (fun i r hi hx => hx.frame (get_map_of hg) hi)
    (fun i r hi hx => ?_) h.acyclic
  refine ⟨?_, ?_⟩
  · refine hx.link.map (K := fun _ _ => True) (N := fun q x => q = e ∧ x = a) (get_map_of hg)
      (fun i r x _ => ?_) (fun i r e' hi => ?_) (fun _ _ _ _ h => h) (fun q x hN => ?_) hi
    · show x ∈ (if i = e then insertSorted s a nm r.attrs else r.attrs) ↔ _
      split <;> simp [mem_insertSorted, or_comm, *]
    · -- `a` had no owner element
      show (if i ≠ e ∧ i = a then some e else r.ownerElem) = some e' ↔ _
      by_cases hia : i = a
      · subst hia; rw [hra] at hi; cases hi
        simp [Ne.symm hea, hoe, eq_comm]
      · simp [hia]
    · obtain ⟨rfl, rfl⟩ := hN
      exact ⟨re, ra, he, hra, hk, hown, hke⟩
  · rw [nameOf_frame hg fun _ _ => rfl]
    show List.Pairwise _ ((if i = e then insertSorted s a nm r.attrs else r.attrs).map _)
    split
    · rename_i hie; subst hie; rw [he] at hi; cases hi
      exact sorted_insertSorted s a nm (by unfold nameOf; rw [hra]; exact hnm) _ hx.sorted hfresh
    · exact hx.sorted

/-- DOMAttrMapImpl::setNamedItem: an unowned attribute enters the map of `e`; one of the same name is unlinked first.  `o` is
what `findAttr` answers, so that the statement is both branches of the model's `match` on it. -/
theorem wf_setNamedItem (s : Store) (h : WF s) (e a : NodeId) (nm : List Nat) (re ra : NodeRec)
    (he : s.get e = some re) (hra : s.get a = some ra) (hke : re.kind = .element)
    (hk : ra.kind = .attr) (hoe : ra.ownerElem = none) (hown : ra.owner = re.owner) (hnm : ra.name = nm)
    (o : Option NodeId) (hfind : findAttr s re.attrs nm = o) : WF (linkAttr (o.elim s (unlinkAttr s)) e a nm) := by
  obtain _ | prev := o
  · exact wf_linkAttr s h e a nm re ra he hra hke hk hoe hown hnm (findAttr_none s re.attrs nm hfind)
  obtain ⟨hmem, hpn⟩ := findAttr_some s re.attrs nm prev hfind
  have hg := get_unlinkAttr s prev
  have hpa : prev ≠ a := by
    rintro rfl
    obtain ⟨ra2, hra2, _, h2, _⟩ := h.attrLink e re prev he hmem
    rw [hra] at hra2; cases hra2
    rw [hoe] at h2; cases h2
  refine wf_linkAttr _ (wf_unlinkAttr s h prev) e a nm _ _ (get_map_of hg _ _ he) (get_map_of hg _ _ hra) hke hk
    (by simp [Ne.symm hpa, hoe]) hown hnm fun x hx => ?_
  simp only [List.mem_filter, bne_iff_ne, ne_eq] at hx
  rw [nameOf_frame hg fun _ _ => rfl]
  intro hxn
  exact hx.2 (sorted_inj (nameOf s) re.attrs (h.attrSorted e re he) x prev hx.1 hmem (by rw [hxn, hpn]))

theorem ancFuel_complete (s : Store) (n : NodeId) : ∀ (fuel : Nat) (x : NodeId),
    AncOrSelf s n x → ancOrSelfFuel s n fuel x = true := by
  intro fuel
  induction fuel with
  | zero => intro x _; rfl
  | succ k ih =>
    intro x ha
    unfold ancOrSelfFuel
    split
    · rfl
    · rename_i hxn
      cases ha with
      | refl => exact absurd rfl hxn
      | step hq ha' => rw [hq]; exact ih _ ha'

theorem isAncOrSelf_complete (s : Store) (n x : NodeId) (h : AncOrSelf s n x) : isAncOrSelf s n x = true :=
  ancFuel_complete s n _ x h

theorem not_anc_of_isAncOrSelf_false (s : Store) (n x : NodeId) (h : isAncOrSelf s n x = false) : ¬ AncOrSelf s n x :=
  fun ha => by rw [isAncOrSelf_complete s n x ha] at h; cases h

/-- The ranks of `WF.acyclic` may be large; counting the nodes of smaller rank gives a ranking that stays below the size of
the store, which is what the walk of `isAncOrSelf`, with fuel `s.size + 1`, needs. -/
theorem exists_bounded_rank (s : Store) (h : WF s) : ∃ μ : NodeId → Nat,
    (∀ c rc p, s.get c = some rc → rc.parent = some p → μ c < μ p) ∧ ∀ x, x < s.size → μ x < s.size := by
  obtain ⟨rank, hrank⟩ := h.acyclic
  refine ⟨fun y => ((List.range s.size).filter fun z => decide (rank z < rank y)).length, fun c rc p hc hp => ?_,
    fun x hx => ?_⟩
  · have hlt := hrank c rc p hc hp
    exact length_filter_lt _ _ _ (fun z hz => by simp at hz ⊢; omega)
      ⟨c, by simpa using lt_size_of_get s c rc hc, by simpa using hlt, by simp⟩
  · have := List.length_filter_lt_length_iff_exists (p := fun z => decide (rank z < rank x)).mpr
      ⟨x, List.mem_range.mpr hx, by simp⟩
    rwa [List.length_range] at this

/-- In a well-formed store the bounded walk never runs out of fuel: the check is exact. -/
theorem fuel_suffices (s : Store) (h : WF s) (n x : NodeId) (hna : ¬ AncOrSelf s n x) :
    isAncOrSelf s n x = false := by
  obtain ⟨μ, hμ, hb⟩ := exists_bounded_rank s h
  -- every step of the walk raises `μ`, and only a live node has a parent
  have key (fuel : Nat) (y : NodeId) (h0 : 0 < fuel) (hl : y < s.size → s.size < fuel + μ y) (hnot : ¬ AncOrSelf s n y) :
      ancOrSelfFuel s n fuel y = false := by
    fun_induction ancOrSelfFuel s n fuel y with
    | case1 => cases h0
    | case2 => exact absurd .refl hnot
    | case3 => rfl
    | case4 fuel y _ q hq ih =>
      obtain ⟨ry, hy, hpar⟩ := parentOf_eq_some.mp hq
      obtain ⟨rq, hrq, _⟩ := h.parentChild y ry q hy hpar
      have := hμ y ry q hy hpar
      have := hb q (lt_size_of_get s q rq hrq)
      have := hl (lt_size_of_get s y ry hy)
      exact ih (by omega) (fun _ => by omega) fun ha => hnot (.step hq ha)
  exact key _ x (Nat.succ_pos _) (fun _ => by omega) hna

theorem eq_of_anc_childless (s : Store) (h : WF s) (t p : NodeId) (rt : NodeRec) (ht : s.get t = some rt)
    (hc : rt.children = []) (ha : AncOrSelf s t p) : t = p := by
  induction ha with
  | refl => rfl
  | step hq _ ih =>
    subst ih
    obtain ⟨rc, hrc, hpar⟩ := parentOf_eq_some.mp hq
    obtain ⟨r, hr, hm⟩ := h.parentChild _ rc t hrc hpar
    rw [ht] at hr; cases hr
    rw [hc] at hm; cases hm

/-- the conditions of `WF` that speak of parent and child links only -/
structure TreeWF (s : Store) : Prop where
  childParent : ∀ p r c, s.get p = some r → c ∈ r.children → ∃ rc, s.get c = some rc ∧ rc.parent = some p
  parentChild : ∀ c rc p, s.get c = some rc → rc.parent = some p → ∃ r, s.get p = some r ∧ c ∈ r.children
  nodupChildren : ∀ p r, s.get p = some r → r.children.Nodup
  acyclic : ∃ rank : NodeId → Nat, ∀ c rc p, s.get c = some rc → rc.parent = some p → rank c < rank p
  ownerUniform : ∀ c rc p rp, s.get c = some rc → rc.parent = some p → s.get p = some rp → rc.owner = rp.owner
  rootKinds : ∀ i r, s.get i = some r → r.kind = .document ∨ r.kind = .attr → r.parent = none

end XV.Lemmas.Dom
