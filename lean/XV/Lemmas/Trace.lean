/-
The two trace checkers against the declarative discipline, and lockset discipline ⇒ happens-before.  `Inv tr k h` says
that the checker's list `h` after `k` events is exactly `Holds tr · · k` (which moves along the trace by `holds_succ`),
so the test `checkEvent` makes on the event at `k` decides what the spec asks of it (`EvOk`).  The init-once checker is
followed along the trace in the same way, with the sites seen so far as parameter.  `drf_ordered` builds the
happens-before chain between two accesses of different threads to one resource.
-/
import XV.Spec.Trace
namespace XV.Lemmas.Trace
open XV.Spec.Trace

theorem holds_zero (tr : List Event) (t : Thread) (m : Mutex) : ¬ Holds tr t m 0 := by
  rintro ⟨a, ha, _⟩; omega

theorem holds_succ (tr : List Event) (t : Thread) (m : Mutex) (k : Nat) :
    Holds tr t m (k + 1) ↔ tr[k]? = some (.acq t m) ∨ (Holds tr t m k ∧ tr[k]? ≠ some (.rel t m)) := by
  constructor
  · rintro ⟨a, ha, hacq, hno⟩
    by_cases h : a = k
    · subst h; exact Or.inl hacq
    · refine Or.inr ⟨⟨a, by omega, hacq, fun b h1 h2 => hno b h1 (by omega)⟩, hno k (by omega) (by omega)⟩
  · rintro (h | ⟨⟨a, ha, hacq, hno⟩, hk⟩)
    · exact ⟨k, by omega, h, fun b h1 h2 => by omega⟩
    · refine ⟨a, by omega, hacq, fun b h1 h2 => ?_⟩
      by_cases hb : b = k
      · subst hb; exact hk
      · exact hno b h1 (by omega)

theorem holds_unique {tr : List Event} (hw : WellFormedLocks tr) {t t' : Thread} {m : Mutex} {k : Nat}
    (h : Holds tr t m k) (h' : Holds tr t' m k) : t = t' := by
  obtain ⟨a, ha, hacq, hno⟩ := h
  obtain ⟨a', ha', hacq', hno'⟩ := h'
  rcases Nat.lt_trichotomy a a' with hlt | heq | hgt
  · exact absurd ⟨a, hlt, hacq, fun b h1 h2 => hno b h1 (by omega)⟩ (hw.2 a' t' m hacq' t)
  · subst heq; rw [hacq] at hacq'; cases hacq'; rfl
  · exact absurd ⟨a', hgt, hacq', fun b h1 h2 => hno' b h1 (by omega)⟩ (hw.2 a t m hacq t')

/-- state invariant of `run` after the first `k` events of `tr` -/
def Inv (tr : List Event) (k : Nat) (h : Held) : Prop :=
  ∀ m t, (m, t) ∈ h ↔ Holds tr t m k

theorem inv_zero (tr : List Event) : Inv tr 0 [] := by
  intro m t; simp [holds_zero]

theorem inv_step {tr : List Event} {k : Nat} {h : Held} {e : Event} (hi : Inv tr k h) (he : tr[k]? = some e) :
    Inv tr (k + 1) (stepHeld h e) := by
  intro m t
  rw [holds_succ, he, ← hi m t]
  cases e with
  | acq t' m' =>
    simp only [stepHeld, List.mem_cons, Prod.mk.injEq, Option.some.injEq, Event.acq.injEq, ne_eq,
      reduceCtorEq, not_false_eq_true, and_true]
    exact or_congr_left (and_comm.trans (and_congr eq_comm eq_comm))
  | rel t' m' =>
    simp only [stepHeld, List.mem_filter, ne_eq, Prod.mk.injEq, decide_eq_true_eq, Option.some.injEq,
      reduceCtorEq, false_or, Event.rel.injEq]
    exact and_congr_right' (not_congr (and_comm.trans (and_congr eq_comm eq_comm)))
  | acc _ _ _ => simp [stepHeld]
  | initBegin _ _ => simp [stepHeld]
  | initEnd _ _ => simp [stepHeld]

/-- what the declarative spec demands of the event at position `k` -/
def EvOk (g : Resource → Mutex) (sg : Site → Mutex) (tr : List Event) (k : Nat) : Event → Prop
  | .acq _ m => ∀ t', ¬ Holds tr t' m k
  | .rel t m => Holds tr t m k
  | .acc t r _ => Holds tr t (g r) k
  | .initBegin t s => Holds tr t (sg s) k
  | .initEnd t s => Holds tr t (sg s) k

theorem spec_iff_evOk (g : Resource → Mutex) (sg : Site → Mutex) (tr : List Event) :
    (WellFormedLocks tr ∧ LocksetOK g sg tr) ↔ ∀ k e, tr[k]? = some e → EvOk g sg tr k e := by
  constructor
  · rintro ⟨⟨h1, h2⟩, h3⟩ k e he
    cases e with
    | acq t m => exact h2 k t m he
    | rel t m => exact h1 k t m he
    | _ => exact h3 k _ _ (by rw [he]; rfl)
  · refine fun h => ⟨⟨fun k t m he => h k _ he, fun k t m he => h k _ he⟩, fun k t m hn => ?_⟩
    cases he : tr[k]? with
    | none => rw [he] at hn; cases hn
    | some e =>
      have := h k e he
      rw [he] at hn
      cases e <;> cases hn <;> exact this

/-- the shape of every branch of `checkEvent` -/
theorem ite_none_iff {α : Type} {c : Prop} [Decidable c] {v : α} : (if c then none else some v) = none ↔ c := by
  split <;> simp [*]

/-- `k'` is only the position that `checkEvent` copies into the violation it reports. -/
theorem checkEvent_none_iff (g : Resource → Mutex) (sg : Site → Mutex) {tr : List Event} {k : Nat} {h : Held}
    (hi : Inv tr k h) (k' : Nat) (e : Event) : checkEvent g sg h k' e = none ↔ EvOk g sg tr k e := by
  cases e with
  | acq t m =>
    rw [checkEvent, ite_none_iff, List.all_eq_true]
    exact ⟨fun hall t' hh => by simpa using hall (m, t') ((hi m t').2 hh),
      fun hh ⟨m', t'⟩ hp => by simpa using fun e : m' = m => hh t' ((hi m t').1 (e ▸ hp))⟩
  | _ => exact ite_none_iff.trans (hi _ _)

theorem run_ok_iff (g : Resource → Mutex) (sg : Site → Mutex) (tr : List Event) :
    ∀ (post : List Event) (k : Nat) (h : Held), tr.drop k = post → Inv tr k h →
      (run g sg h k post = .ok () ↔ ∀ j e, k ≤ j → tr[j]? = some e → EvOk g sg tr j e)
  | [], _, _, hd, _ =>
    ⟨fun _ _ _ hj he => (nomatch (List.getElem?_eq_none (Nat.le_trans (List.drop_eq_nil_iff.1 hd) hj)).symm.trans he),
      fun _ => rfl⟩
  | e :: es, k, h, hd, hi => by
    have hk : tr[k]? = some e := by rw [← List.head?_drop, hd]; rfl
    have ih := run_ok_iff g sg tr es (k + 1) (stepHeld h e) (by rw [← List.tail_drop, hd]; rfl) (inv_step hi hk)
    have hce := checkEvent_none_iff g sg hi k e
    rw [run]
    cases hc : checkEvent g sg h k e with
    | some v => exact ⟨nofun, fun hall => nomatch hc.symm.trans (hce.2 (hall k e (Nat.le_refl k) hk))⟩
    | none =>
      refine ih.trans ⟨fun hh j e' hj he' => ?_, fun hh j e' hj => hh j e' (Nat.le_of_succ_le hj)⟩
      rcases Nat.eq_or_lt_of_le hj with rfl | hj
      · cases hk.symm.trans he'; exact hce.1 hc
      · exact hh j e' hj he'

theorem initOnce_cons (e : Event) (es : List Event) :
    InitOnce (e :: es) ↔ (∀ t s, e = .initEnd t s → ∀ t', .initEnd t' s ∉ es) ∧ InitOnce es := by
  constructor
  · refine fun h => ⟨fun t s he t' hm => ?_, fun i j t t' s hi hj => ?_⟩
    · obtain ⟨j, hj⟩ := List.getElem?_of_mem hm
      exact absurd (h 0 (j + 1) t t' s (by rw [he]; rfl) hj) (Nat.succ_ne_zero j).symm
    · exact Nat.succ.inj (h (i + 1) (j + 1) t t' s hi hj)
  · rintro ⟨h1, h2⟩ i j t t' s hi hj
    match i, j with
    | 0, 0 => rfl
    | 0, j + 1 => exact absurd (List.mem_of_getElem? (l := es) hj) (h1 t s (Option.some.inj hi) t')
    | i + 1, 0 => exact absurd (List.mem_of_getElem? (l := es) hi) (h1 t' s (Option.some.inj hj) t)
    | i + 1, j + 1 => rw [h2 i j t t' s hi hj]

theorem runInit_ok_iff : ∀ (es : List Event) (done : List Site) (k : Nat),
    runInit done k es = .ok () ↔ InitOnce es ∧ ∀ t s, .initEnd t s ∈ es → s ∉ done
  | [], _, _ => ⟨fun _ => ⟨fun i _ _ _ _ hi => (nomatch hi), fun _ _ h => (nomatch h)⟩, fun _ => rfl⟩
  | e :: es, done, k => by
    have ih := runInit_ok_iff es
    cases e with
    | initEnd t s =>
      rw [runInit, initOnce_cons]
      split
      · rename_i hs
        exact ⟨fun h => (nomatch h), fun ⟨_, h⟩ => absurd hs (h t s List.mem_cons_self)⟩
      · rename_i hs
        rw [ih (s :: done) (k + 1)]
        constructor
        · rintro ⟨h1, h2⟩
          refine ⟨⟨fun t1 s1 he t' hm => ?_, h1⟩, fun t1 s1 hm => ?_⟩
          · cases he; exact h2 t' s hm List.mem_cons_self
          · rcases List.mem_cons.1 hm with he | hm
            · cases he; exact hs
            · exact fun hd => h2 t1 s1 hm (List.mem_cons_of_mem _ hd)
        · rintro ⟨⟨h1, h2⟩, h3⟩
          refine ⟨h2, fun t1 s1 hm hd => ?_⟩
          rcases List.mem_cons.1 hd with rfl | hd
          · exact h1 t s1 rfl t1 hm
          · exact h3 t1 s1 (List.mem_cons_of_mem _ hm) hd
    | _ =>
      rw [runInit.eq_3 _ _ _ _ (by intro _ _ h; cases h), initOnce_cons, ih done (k + 1)]
      simp only [reduceCtorEq, false_imp_iff, implies_true, true_and, List.mem_cons, false_or]

theorem drf_ordered {g : Resource → Mutex} {sg : Site → Mutex} {tr : List Event}
    (hw : WellFormedLocks tr) (hl : LocksetOK g sg tr) {i j : Nat} (hij : i < j)
    {t₁ t₂ : Thread} {r : Resource} {w₁ w₂ : Bool}
    (hi : tr[i]? = some (.acc t₁ r w₁)) (hj : tr[j]? = some (.acc t₂ r w₂)) (hne : t₁ ≠ t₂) :
    HB tr i j := by
  have h1 : Holds tr t₁ (g r) i := hl i t₁ (g r) (by rw [hi]; rfl)
  have h2 : Holds tr t₂ (g r) j := hl j t₂ (g r) (by rw [hj]; rfl)
  obtain ⟨a₂, ha₂, hacq₂, hno₂⟩ := h2
  rcases Nat.lt_trichotomy a₂ i with hlt | heq | hgt
  · -- t₂ would already hold the mutex at i
    have : Holds tr t₂ (g r) i := ⟨a₂, hlt, hacq₂, fun b hb1 hb2 => hno₂ b hb1 (by omega)⟩
    exact absurd (holds_unique hw h1 this) hne
  · subst heq; rw [hi] at hacq₂; cases hacq₂
  · -- t₁ released between i and a₂
    obtain ⟨a₁, ha₁, hacq₁, hno₁⟩ := h1
    have hfree := hw.2 a₂ t₂ (g r) hacq₂ t₁
    have : ∃ b, i < b ∧ b < a₂ ∧ tr[b]? = some (.rel t₁ (g r)) := by
      apply Classical.byContradiction
      intro hnone
      apply hfree
      refine ⟨a₁, by omega, hacq₁, fun b hb1 hb2 hb => ?_⟩
      by_cases hbi : b < i
      · exact hno₁ b hb1 hbi hb
      · by_cases hbe : b = i
        · subst hbe; rw [hi] at hb; cases hb
        · exact hnone ⟨b, by omega, hb2, hb⟩
    obtain ⟨b, hb1, hb2, hb⟩ := this
    exact .trans (.trans (.po hb1 hi hb rfl) (.sw hb2 hb hacq₂)) (.po ha₂ hacq₂ hj rfl)

end XV.Lemmas.Trace
