/-
The `Initialize`/`Terminate` counter machine.  `initLib` and `termLib` each have three regimes, given as equations: the
counter is saturated (at 0 for `termLib`) and nothing happens; the call is nested and only the counter moves; the call
is the outermost one and does the real work.  `WF` describes the statics when the library is down, up on a manager of
its own, or up on the application's, and is kept regime by regime.  The counter never exceeds the nesting depth
(saturation only lowers it), hence is 0 after a balanced sequence, where `WF.down` gives the rest.  `HeapDown` is a
second invariant, about the DOM heap sizes, independent of `WF`.
-/
import XV.Model.Lifecycle
namespace XV.Lemmas.Lifecycle
open XV.Model.Lifecycle

/-- `dflt (n-1), …, dflt 0`: every default manager created so far, most recent first. -/
def allDefaults (n : Nat) : List Mgr := ((List.range n).map Mgr.dflt).reverse

theorem allDefaults_succ (n : Nat) : allDefaults (n + 1) = Mgr.dflt n :: allDefaults n := by
  simp [allDefaults, List.range_succ]

theorem initLib_sat (c : Cfg) (s : St) (a : Option Nat) (h : s.flag = c.longMax) : initLib c s a = s := by
  simp [initLib, h]

theorem initLib_nested (c : Cfg) (s : St) (a : Option Nat) (h0 : 0 < s.flag) (h : s.flag ≠ c.longMax) :
    initLib c s a = { s with flag := s.flag + 1 } := by
  simp [initLib, h]
  omega

theorem initLib_first_user (c : Cfg) (s : St) (u : Nat) (h0 : s.flag = 0) (h : c.longMax ≠ 0) (hm : s.mgr = none) :
    initLib c s (some u) = { s with flag := 1, mgr := some (.user u), adopted := false, up := true } := by
  have : ¬ (0 = c.longMax) := fun e => h e.symm
  simp [initLib, h0, hm, this]

theorem initLib_first_dflt (c : Cfg) (s : St) (h0 : s.flag = 0) (h : c.longMax ≠ 0) (hm : s.mgr = none) :
    initLib c s none = { s with flag := 1, mgr := some (.dflt s.made), made := s.made + 1, up := true } := by
  have : ¬ (0 = c.longMax) := fun e => h e.symm
  simp [initLib, h0, hm, this]

theorem termLib_zero (c : Cfg) (s : St) (h : s.flag = 0) : termLib c s = s := by
  simp [termLib, h]

theorem termLib_nested (c : Cfg) (s : St) (h : 1 < s.flag) : termLib c s = { s with flag := s.flag - 1 } := by
  have h1 : s.flag ≠ 0 := by omega
  have h2 : s.flag - 1 > 0 := by omega
  simp [termLib, h1, h2]

theorem termLib_last (c : Cfg) (s : St) (h : s.flag = 1) :
    termLib c s =
      { s with flag := 0, up := false, mgr := none, adopted := true,
               heap := match c.reset with | some d => d | none => s.heap,
               deleted := if s.adopted then (match s.mgr with | some m => m :: s.deleted | none => s.deleted)
                          else s.deleted } := by
  cases hr : c.reset <;> cases ha : s.adopted <;> cases hm : s.mgr <;> simp [termLib, h, ha, hm, hr]

theorem initLib_flag (c : Cfg) (s : St) (a : Option Nat) :
    (initLib c s a).flag = if s.flag = c.longMax then s.flag else s.flag + 1 := by
  unfold initLib
  split
  · rfl
  · simp only
    split
    · rfl
    · cases s.mgr <;> cases a <;> rfl

theorem initLibHeap_flag (c : Cfg) (s : St) (h : Heap) (a : Option Nat) :
    (initLibHeap c s h a).flag = (initLib c s a).flag := by
  unfold initLibHeap
  simp only
  split <;> rfl

theorem initLib_up (c : Cfg) (s : St) (a : Option Nat) (h0 : 0 < s.flag) :
    initLib c s a = { s with flag := if s.flag = c.longMax then s.flag else s.flag + 1 } := by
  by_cases hs : s.flag = c.longMax
  · rw [initLib_sat c s a hs, if_pos hs]
  · rw [initLib_nested c s a h0 hs, if_neg hs]

theorem initLibHeap_up (c : Cfg) (s : St) (h : Heap) (a : Option Nat) (hl : 1 < c.longMax) (h0 : 0 < s.flag) :
    initLibHeap c s h a = initLib c s a :=
  if_neg (by rw [initLib_flag]; split <;> omega)

theorem termLib_flag (c : Cfg) (s : St) : (termLib c s).flag = s.flag - 1 := by
  by_cases hz : s.flag = 0
  · rw [termLib_zero c s hz, hz]
  by_cases h1 : 1 < s.flag
  · rw [termLib_nested c s h1]
  · rw [termLib_last c s (by omega)]; show 0 = _; omega

theorem step_flag_le (c : Cfg) (s : St) (op : Op) : (step c s op).flag ≤ s.flag + 1 := by
  cases op with
  | init a => show (initLib c s a).flag ≤ _; rw [initLib_flag]; split <;> omega
  | initHeap h a => show (initLibHeap c s h a).flag ≤ _; rw [initLibHeap_flag, initLib_flag]; split <;> omega
  | term => show (termLib c s).flag ≤ _; rw [termLib_flag]; omega

structure WF (s : St) : Prop where
  down : s.flag = 0 → s.mgr = none ∧ s.adopted = true ∧ s.up = false ∧ s.deleted = allDefaults s.made
  upA : 0 < s.flag → s.adopted = true →
    s.up = true ∧ 0 < s.made ∧ s.mgr = some (.dflt (s.made - 1)) ∧ s.deleted = allDefaults (s.made - 1)
  upU : 0 < s.flag → s.adopted = false →
    s.up = true ∧ (∃ u, s.mgr = some (.user u)) ∧ s.deleted = allDefaults s.made

theorem wf_init (h : Heap) : WF { heap := h } :=
  ⟨fun _ => ⟨rfl, rfl, rfl, rfl⟩, fun h0 => (nomatch h0), fun h0 => (nomatch h0)⟩

theorem wf_initLib (c : Cfg) (s : St) (a : Option Nat) (w : WF s) : WF (initLib c s a) := by
  by_cases hs : s.flag = c.longMax
  · rw [initLib_sat c s a hs]; exact w
  by_cases h0 : 0 < s.flag
  · rw [initLib_nested c s a h0 hs]
    exact ⟨fun h => (nomatch h), fun _ ha => w.upA h0 ha, fun _ ha => w.upU h0 ha⟩
  · -- the first `Initialize`: the manager is chosen
    have hz : s.flag = 0 := by omega
    have hl : c.longMax ≠ 0 := fun e => hs (hz.trans e.symm)
    obtain ⟨hm, had, _, hdel⟩ := w.down hz
    cases a with
    | some u =>
      rw [initLib_first_user c s u hz hl hm]
      exact ⟨fun h => (nomatch h), fun _ ha => (nomatch ha), fun _ _ => ⟨rfl, ⟨u, rfl⟩, hdel⟩⟩
    | none =>
      rw [initLib_first_dflt c s hz hl hm]
      exact ⟨fun h => (nomatch h), fun _ _ => ⟨rfl, Nat.succ_pos _, rfl, hdel⟩, fun _ ha => (nomatch had.symm.trans ha)⟩

theorem wf_termLib (c : Cfg) (s : St) (w : WF s) : WF (termLib c s) := by
  by_cases hz : s.flag = 0
  · rw [termLib_zero c s hz]; exact w
  have h0 : 0 < s.flag := by omega
  by_cases h1 : 1 < s.flag
  · rw [termLib_nested c s h1]
    exact ⟨fun h => absurd h (by show s.flag - 1 ≠ 0; omega), fun _ ha => w.upA h0 ha, fun _ ha => w.upU h0 ha⟩
  · -- the last `Terminate`: a manager the library made is deleted and joins the list
    rw [termLib_last c s (by omega)]
    refine ⟨fun _ => ⟨rfl, rfl, rfl, ?_⟩, fun h => (nomatch h), fun h => (nomatch h)⟩
    cases ha : s.adopted with
    | true =>
      obtain ⟨_, hm, hmgr, hdel⟩ := w.upA h0 ha
      show (match s.mgr with | some m => m :: s.deleted | none => s.deleted) = allDefaults s.made
      rw [hmgr, hdel, ← Nat.sub_add_cancel hm, allDefaults_succ]; rfl
    | false => exact (w.upU h0 ha).2.2

theorem wf_step (c : Cfg) (s : St) (op : Op) (w : WF s) : WF (step c s op) := by
  cases op with
  | init a => exact wf_initLib c s a w
  | initHeap h a =>
    simp only [step, initLibHeap]
    have w' := wf_initLib c s a w
    split
    · exact ⟨w'.down, w'.upA, w'.upU⟩
    · exact w'
  | term => exact wf_termLib c s w

theorem wf_run (c : Cfg) (ops : List Op) (s : St) (w : WF s) : WF (run c s ops) :=
  List.foldlRecOn ops _ w fun s hs op _ => wf_step c s op hs

theorem balanced_flag_zero (c : Cfg) (ops : List Op) (d : Nat) (s : St) (hle : s.flag ≤ d)
    (hb : balancedFrom d ops = true) : (run c s ops).flag = 0 := by
  fun_induction balancedFrom d ops generalizing s with
  | case1 d => exact Nat.le_zero.1 (beq_iff_eq.1 hb ▸ hle)
  | case2 d ops ih =>  -- `.term :: ops`
    simp only [Bool.and_eq_true] at hb
    exact ih _ (by show (termLib c s).flag ≤ d - 1; rw [termLib_flag]; omega) hb.2
  | case3 d op ops _ ih =>  -- either `Initialize`
    exact ih _ (Nat.le_trans (step_flag_le c s op) (Nat.succ_le_succ hle)) hb

/-- With a resetting `Terminate`, the DOM heap sizes are the defaults whenever the library is down. -/
def HeapDown (c : Cfg) (s : St) : Prop := ∀ d, c.reset = some d → s.flag = 0 → s.heap = d

theorem heapDown_step (c : Cfg) (s : St) (op : Op) (w : HeapDown c s) : HeapDown c (step c s op) := by
  intro d hd hz
  -- the counter is 0 afterwards only if the call did nothing or was the outermost `Terminate`
  have same : step c s op = s → (step c s op).heap = d := fun e => by rw [e] at hz ⊢; exact w d hd hz
  have hinit : ∀ a, (initLib c s a).flag = 0 → initLib c s a = s := fun a h =>
    initLib_sat c s a (by rw [initLib_flag] at h; split at h <;> omega)
  cases op with
  | init a => exact same (hinit a hz)
  | initHeap h a =>
    have hz' := (initLibHeap_flag c s h a).symm.trans hz
    exact same ((if_neg (by omega)).trans (hinit a hz'))
  | term =>
    have hf : s.flag - 1 = 0 := (termLib_flag c s).symm.trans hz
    by_cases hz0 : s.flag = 0
    · exact same (termLib_zero c s hz0)
    · show (termLib c s).heap = d
      rw [termLib_last c s (by omega), hd]

theorem heapDown_run (c : Cfg) (ops : List Op) (s : St) (w : HeapDown c s) : HeapDown c (run c s ops) :=
  List.foldlRecOn ops _ w fun s hs op _ => heapDown_step c s op hs

end XV.Lemmas.Lifecycle
