/-
C08 — counting states: the table `buildDFA` constructs (C07 model) when the leaf names are pairwise different.  Then
the element map is the leaf list, one subset-construction step is the follow set of the one position that carries the
name, and after the initial state equal state sets mean equal state indices: the table is the position automaton with
merged states.  `Ctx` collects what the counting walk relies on — such a table, what `fCountingStates` /
`elemOccurenceMap` contain for it, and the facts about the follow sets of a compact skeleton.  What the walk uses of it
speaks of state sets, not of rows: what the element-map search yields (`Ctx.find`), which states are counting states
(`Ctx.cs_iff`).
-/
import XV.Lemmas.DfaFinal
import XV.Model.ParticleDfa
import XV.Lemmas.ParticleDfa
namespace XV.Lemmas.ParticleCount
open XV.Spec.ContentModel XV.Model.ContentModel XV.Lemmas.DfaRun XV.Lemmas.DfaTable XV.Model.ParticleDfa
open XV.Model.Particle (occOk)

theorem testBit_ne_zero {S : StateSet} {j : Nat} (h : S.testBit j = true) : S ≠ 0 := by
  intro h0; subst h0; simp at h

theorem stepSet_nodup (ll : List (Option Name)) (fl : List StateSet) (hn : ll.Nodup) (S : StateSet) (j : Nat)
    (e : Option Name) (hj : ll[j]? = some e) :
    stepSet ll fl S e = if S.testBit j then fl.getD j 0 else 0 := by
  apply Nat.eq_of_testBit_eq
  intro q
  rw [Bool.eq_iff_iff, testBit_stepSet]
  constructor
  · rintro ⟨p, h1, h2, h3⟩
    obtain rfl : j = p := (List.getElem?_inj (lt_of_get hj) hn).1 (hj.trans h1.symm)
    rwa [if_pos h2]
  · intro h
    by_cases hS : S.testBit j = true
    · exact ⟨j, hj, hS, by rwa [if_pos hS] at h⟩
    · rw [if_neg hS, Nat.zero_testBit] at h; cases h

theorem elemMapOf_nodup_acc : ∀ (l acc : List (Option Name)), (acc ++ l).Nodup → elemMapOf l acc = acc ++ l := by
  intro l
  induction l with
  | nil => intro acc _; exact (List.append_nil acc).symm
  | cons n ns ih =>
    intro acc h
    rw [List.append_cons] at h ⊢
    have hn : ¬ acc.contains n = true := fun hc =>
      (List.nodup_append.1 (List.nodup_append.1 h).1).2.2 n (List.contains_iff_mem.1 hc) n (List.mem_singleton_self n) rfl
    rw [elemMapOf, if_neg hn, ih _ h]

theorem elemMapOf_nodup (l : List (Option Name)) (h : l.Nodup) : elemMapOf l [] = l :=
  elemMapOf_nodup_acc l [] h

theorem findTransGo_sound (y : Nat) (es ts : List (Option Nat)) (idx from_ e t : Nat)
    (h : findTransGo (fun x a => x == a) y es ts idx from_ = some (e, t)) :
    ∃ k, e = idx + k ∧ from_ ≤ e ∧ es[k]? = some (some y) ∧ ts[k]? = some (some t) := by
  fun_induction findTransGo (fun x a => x == a) y es ts idx from_ with
  | case2 es ts idx from_ hge a hya next =>
    cases h
    exact ⟨0, rfl, Nat.not_lt.1 hge, congrArg (some ∘ some) (beq_iff_eq.1 hya).symm, rfl⟩
  | case1 _ _ _ _ idx _ _ ih | case3 _ _ idx _ _ _ _ ih | case4 _ _ _ idx _ _ _ _ ih | case5 _ _ _ idx _ _ ih =>
    obtain ⟨k, hk, hr⟩ := ih h
    exact ⟨k + 1, hk.trans (Nat.add_right_comm idx 1 k), hr⟩
  | case6 => cases h

theorem llOf_nodup (N : List Nat) (h : N.Nodup) : (llOf N).Nodup := by
  refine List.nodup_append.2 ⟨List.pairwise_map.2 (h.imp fun hab e => hab (Option.some.inj e)), by simp, ?_⟩
  intro a ha b hb hab
  obtain ⟨x, _, rfl⟩ := List.mem_map.1 ha
  cases List.mem_singleton.1 hb ▸ hab

/-- the facts about the constructed table and its counting states the counting walk relies on: the table of `d`
    over the leaf names `N` with follow sets `fl`, state sets `states`, occurrence ranges `r` per leaf name -/
structure Ctx (L : Nat) (N : List Nat) (fl states : List StateSet) (r : Rng) (d : DFA) (cs : List (Option Occ)) :
    Prop where
  nodup : N.Nodup
  emap : d.elemMap = llOf N
  tbl : Tbl (llOf N) fl L (llOf N) states d.transTable
  len : d.transTable.length = states.length
  /-- the follow relation of a compact skeleton only goes forward (`fol_le`) -/
  forward : ∀ p q, (fl.getD p 0).testBit q = true → p ≤ q
  /-- a leaf with a range follows itself and its range is well-formed; if `minOccurs ≥ 1` (a `+` leaf of the skeleton)
      no earlier position has the same follow set (`plus_sep`) -/
  loopLeaf : ∀ p a mn mx, N[p]? = some a → r a = some (mn, mx) →
    (fl.getD p 0).testBit p = true ∧ occOk mn mx = true ∧ (1 ≤ mn → ∀ q, q < p → fl.getD q 0 ≠ fl.getD p 0)
  /-- `fCountingStates`: a state is a counting state for the leaf of its first self-loop column, if that leaf has a range -/
  cs_row : ∀ i row o, d.transTable[i]? = some row →
    (cs.getD i none = some o ↔ ∃ a, N[o.elemIndex]? = some a ∧ r a = some (o.min, o.max) ∧
      row[o.elemIndex]? = some (some i) ∧ ∀ j, j < o.elemIndex → row[j]? ≠ some (some i))

section
variable {N : List Nat} (infos : List (Nat × Option (Nat × Option Nat)))

theorem cs_iff_row (d : DFA) (i : Nat) (row : List (Option Nat)) (h : d.transTable[i]? = some row) (o : Occ) :
    (countingStates d (elemOccurrence infos (llOf N))).getD i none = some o ↔
      ∃ a, N[o.elemIndex]? = some a ∧ rngOf infos a = some (o.min, o.max) ∧ row[o.elemIndex]? = some (some i) ∧
        ∀ j, j < o.elemIndex → row[j]? ≠ some (some i) := by
  have hp : ∀ j, (row.getD j none == some i) = true ↔ row[j]? = some (some i) := fun j => by
    rw [List.getD_eq_getElem?_getD]
    cases row[j]? <;> simp
  rw [countingStates, List.getD_eq_getElem?_getD, List.getElem?_mapIdx, h, Option.map_some, Option.getD_some]
  constructor
  · intro ho
    split at ho
    · cases ho
    · next j hf =>
      obtain ⟨h1, _, h3⟩ := List.find?_range_eq_some.1 hf
      rw [elemOccurrence_getD] at ho
      obtain ⟨m, hm, rfl⟩ := Option.map_eq_some_iff.1 ho
      obtain ⟨a, ha, hr⟩ := Option.bind_eq_some_iff.1 hm
      refine ⟨a, (llOf_get N j a).1 (Option.join_eq_some_iff.1 ha), hr, (hp j).1 h1, fun k hk hk' => ?_⟩
      have := h3 k hk
      rw [(hp k).2 hk'] at this
      cases this
  · rintro ⟨a, ha, hr, hq, hfirst⟩
    rw [List.find?_range_eq_some.2 ⟨(hp _).2 hq, List.mem_range.2 (lt_of_get hq), fun j hj => by
      cases hb : (row.getD j none == some i)
      · rfl
      · exact absurd ((hp j).1 hb) (hfirst j hj)⟩]
    dsimp only
    rw [elemOccurrence_getD, (llOf_get N _ a).2 ha]
    simp [hr]

end

section
variable {L : Nat} {N : List Nat} {fl states : List StateSet} {r : Rng} {d : DFA} {cs : List (Option Occ)}

theorem Ctx.row_of (C : Ctx L N fl states r d cs) {i : Nat} (hi : i < states.length) :
    ∃ row, d.transTable[i]? = some row :=
  ⟨_, List.getElem?_eq_getElem (C.len ▸ hi)⟩

/-- reading one table entry: over pairwise different names the subset step is the follow set of one position -/
theorem Ctx.entry (C : Ctx L N fl states r d cs) {i : Nat} {row : List (Option Nat)}
    (h : d.transTable[i]? = some row) {S : StateSet} (hS : states[i]? = some S) {j t : Nat}
    (hj : row[j]? = some (some t)) :
    S.testBit j = true ∧ 1 ≤ t ∧ states[t]? = some (fl.getD j 0) := by
  obtain ⟨hR, hP⟩ := C.tbl.row i row S h hS
  obtain ⟨hlen, hget⟩ := rowOK_get hR
  have hjl : j < (llOf N).length := hlen ▸ lt_of_get hj
  obtain ⟨t', ht, hE⟩ := hget j _ (List.getElem?_eq_getElem hjl)
  obtain rfl : some t = t' := Option.some.inj (hj.symm.trans ht)
  rw [EntryOK, stepSet_nodup (llOf N) fl (llOf_nodup N C.nodup) _ j _ (List.getElem?_eq_getElem hjl)] at hE
  by_cases hb : S.testBit j = true
  · rw [if_pos hb] at hE; exact ⟨hb, hP t (List.mem_of_getElem? hj), hE.1⟩
  · rw [if_neg hb] at hE; exact absurd rfl hE.2

/-- the self-loop columns of a row are the positions of its state set that have it as follow set.  Not so for the
    initial state: no entry leads back to it, whichever later state has the same state set. -/
theorem Ctx.self_col (C : Ctx L N fl states r d cs) {i : Nat} {row : List (Option Nat)}
    (h : d.transTable[i]? = some row) {S : StateSet} (hS : states[i]? = some S) (hi : 1 ≤ i) {j a : Nat}
    (hj : N[j]? = some a) : row[j]? = some (some i) ↔ S.testBit j = true ∧ fl.getD j 0 = S := by
  constructor
  · intro hr
    obtain ⟨h1, _, h2⟩ := C.entry h hS hr
    exact ⟨h1, Option.some.inj (h2.symm.trans hS)⟩
  · rintro ⟨hb, rfl⟩
    have hll := (llOf_get N j a).2 hj
    obtain ⟨t0, ht0, hE⟩ := (rowOK_get (C.tbl.row i row _ h hS).1).2 j _ hll
    cases t0 with
    | none =>
      rw [EntryOK, stepSet_nodup (llOf N) fl (llOf_nodup N C.nodup) _ j _ hll, if_pos hb] at hE
      exact absurd hE (testBit_ne_zero hb)
    | some t =>
      obtain ⟨_, ht, hst⟩ := C.entry h hS ht0
      exact state_index_inj C.tbl.bnd ht hi hst hS ▸ ht0

/-- the follow relation only goes forward, so a state set has at most one self-loop column -/
theorem Ctx.self_unique (C : Ctx L N fl states r d cs) {S : StateSet} {j j' : Nat} (h1 : S.testBit j = true)
    (h2 : fl.getD j 0 = S) (h1' : S.testBit j' = true) (h2' : fl.getD j' 0 = S) : j = j' :=
  Nat.le_antisymm (C.forward j j' (h2 ▸ h1')) (C.forward j' j (h2' ▸ h1))

theorem Ctx.cs_iff (C : Ctx L N fl states r d cs) {i : Nat} {S : StateSet} (hi : 1 ≤ i) (hS : states[i]? = some S) (o : Occ) :
    cs.getD i none = some o ↔ ∃ a, N[o.elemIndex]? = some a ∧ r a = some (o.min, o.max) ∧
      S.testBit o.elemIndex = true ∧ fl.getD o.elemIndex 0 = S := by
  obtain ⟨row, hrow⟩ := C.row_of (lt_of_get hS)
  rw [C.cs_row i row o hrow]
  refine exists_congr fun a => and_congr_right fun ha => and_congr_right fun _ => ?_
  -- the self-loop column is the first one, being the only one
  rw [C.self_col hrow hS hi ha, and_iff_left_iff_imp]
  rintro ⟨hb, hfl⟩ j hj hj'
  obtain ⟨b1, _, b2⟩ := C.entry hrow hS hj'
  exact Nat.ne_of_lt hj (C.self_unique b1 (Option.some.inj (b2.symm.trans hS)) hb hfl)

theorem Ctx.pos (C : Ctx L N fl states r d cs) : 0 < states.length :=
  List.length_pos_iff.2 C.tbl.bnd.1

theorem Ctx.cs_zero (C : Ctx L N fl states r d cs) : cs.getD 0 none = none := by
  obtain ⟨row, hrow⟩ := C.row_of C.pos
  cases hcs : cs.getD 0 none with
  | none => rfl
  | some o =>
    obtain ⟨_, _, _, h3, _⟩ := (C.cs_row 0 row o hrow).1 hcs
    exact absurd (C.entry hrow (List.getElem?_eq_getElem C.pos) h3).2.1 (Nat.lt_irrefl 0)

/-- the element-map search of `validateContent` in the state with state set `S`, from entry `from_` on: it stops at the
    position of the child, which is in `S`, and leads to the state of its follow set -/
theorem Ctx.step (C : Ctx L N fl states r d cs) {cur : Nat} {S : StateSet} (hS : states[cur]? = some S)
    {y from_ e next : Nat} (hf : findTrans d (fun x a => x == a) y cur from_ = some (e, next)) :
    N[e]? = some y ∧ from_ ≤ e ∧ S.testBit e = true ∧ 1 ≤ next ∧ states[next]? = some (fl.getD e 0) := by
  obtain ⟨row, hrow⟩ := C.row_of (lt_of_get hS)
  rw [findTrans, C.emap, List.getD_eq_getElem?_getD, hrow] at hf
  obtain ⟨k, hk, a1, a3, a4⟩ := findTransGo_sound y (llOf N) row 0 from_ e next hf
  obtain rfl : e = k := hk.trans (Nat.zero_add k)
  exact ⟨(llOf_get N e y).1 a3, a1, C.entry hrow hS a4⟩

/-- the search of `validateContent`, from the first entry on; the second search of `handleRepetitions`, for another
    entry that accepts the child, then finds nothing -/
theorem Ctx.find (C : Ctx L N fl states r d cs) {cur : Nat} {S : StateSet} (hS : states[cur]? = some S) {y e next : Nat}
    (hf : findTrans d (fun x a => x == a) y cur 0 = some (e, next)) :
    N[e]? = some y ∧ S.testBit e = true ∧ 1 ≤ next ∧ states[next]? = some (fl.getD e 0) ∧
      findTrans d (fun x a => x == a) y cur (e + 1) = none := by
  obtain ⟨s1, _, s2, s3, s4⟩ := C.step hS hf
  refine ⟨s1, s2, s3, s4, ?_⟩
  cases hh : findTrans d (fun x a => x == a) y cur (e + 1) with
  | none => rfl
  | some pr =>
    obtain ⟨b1, b2, _⟩ := C.step hS hh
    -- the only entry named `y` has been passed
    exact absurd ((List.getElem?_inj (lt_of_get s1) C.nodup).1 (s1.trans b1.symm) ▸ b2) (Nat.lt_irrefl e)

end
end XV.Lemmas.ParticleCount
