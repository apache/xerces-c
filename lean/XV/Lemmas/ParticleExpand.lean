/-
C08 — lemmas behind `expand_preserves` / `convert_preserves`: the trees `expandContentModel` builds (`Reps`)
and their language (`Reps.lang`, by the range arithmetic of XV.Lemmas.Lang), all-group members, and the bridge
to the C07 content-model language (`CM.Lang`) for trees without `All` / `Loop` nodes.  Core Lean only.
-/
import XV.Lemmas.Particle
import XV.Model.Particle
import XV.Lemmas.ContentModel
namespace XV.Lemmas.ParticleExpand
open XV.Spec.Particle XV.Model.Particle XV.Lemmas.Particle XV.Lemmas.Lang

variable {α β : Type} {M : β → α → Prop}

def LEq (M : β → α → Prop) (p q : Particle α) : Prop := ∀ w, PLang M p w ↔ PLang M q w

theorem LEq.refl (p : Particle α) : LEq M p p := fun _ => Iff.rfl

theorem LEq.seq {p p' q q' : Particle α} (h1 : LEq M p p') (h2 : LEq M q q') : LEq M (.seq p q) (.seq p' q') :=
  fun w => seq_inv.trans ((cat_congr h1 h2 w).trans seq_inv.symm)

theorem LEq.choice {p p' q q' : Particle α} (h1 : LEq M p p') (h2 : LEq M q q') :
    LEq M (.choice p q) (.choice p' q') := by
  intro w; simp only [choice_inv, h1 w, h2 w]

theorem toParticle_seq (x y : XNode α) : (XNode.bin .Sequence x y).toParticle = .seq x.toParticle y.toParticle := rfl
theorem toParticle_choice (x y : XNode α) : (XNode.bin .Choice x y).toParticle = .choice x.toParticle y.toParticle := rfl
theorem toParticle_unary (t : UnOp) (x : XNode α) :
    (XNode.unary t x).toParticle = .rep t.range.1 t.range.2 x.toParticle := rfl

/-- `y` stands for `x{a,b}` the way `expandContentModel` writes it: `x` itself, `x?`, `x*`, `x+`; a sequence of such
    copies; or, with the compact syntax (`loops`), one `Loop` node under `*` / `+` instead of a sequence.  The language
    (`Reps.lang`) does not depend on `loops`; the shape of the tree does, and XV.Lemmas.ParticleCountShape reads it off
    (`loops = true`: one `Loop` node and no copy, `loops = false`: no `Loop` node) -/
inductive Reps (x : XNode α) (loops : Bool) : Nat → Option Nat → XNode α → Prop where
  | one : Reps x loops 1 (some 1) x
  | unary (t : UnOp) : Reps x loops t.range.1 t.range.2 (.unary t x)
  | seq {a c : Nat} {b d : Option Nat} {y z : XNode α} : loops = false →
      Reps x loops a b y → Reps x loops c d z → Reps x loops (a + c) (optAdd b d) (.bin .Sequence y z)
  | loop {a : Nat} {b : Option Nat} : loops = true → occOk a b = true →
      Reps x loops a b (.loopRep (if a = 0 then .ZeroOrMore else .OneOrMore) a b x)

theorem occOk_rangeOk {a : Nat} {b : Option Nat} (h : occOk a b = true) : rangeOk a b = true := by
  cases b with
  | none => rfl
  | some m => simp only [occOk, Bool.and_eq_true] at h; exact h.1

theorem Reps.rangeOk {x y : XNode α} {l : Bool} {a : Nat} {b : Option Nat} (h : Reps x l a b y) : rangeOk a b = true := by
  induction h with
  | one => rfl
  | unary t => cases t <;> rfl
  | @seq a c b d _ _ _ _ _ ih1 ih2 =>
    cases b with
    | none => rfl
    | some b =>
      cases d with
      | none => rfl
      | some d => exact decide_eq_true (Nat.add_le_add (of_decide_eq_true ih1) (of_decide_eq_true ih2))
  | loop _ h => exact occOk_rangeOk h

theorem Reps.lang {x y : XNode α} {l : Bool} {a : Nat} {b : Option Nat} (h : Reps x l a b y) (w : List β) :
    PLang M y.toParticle w ↔ Rep a b (PLang M x.toParticle) w := by
  induction h generalizing w with
  | one => exact (rep_one w).symm
  | unary t => exact rep_inv
  | seq _ h1 h2 ih1 ih2 => exact seq_inv.trans ((cat_congr ih1 ih2 w).trans (cat_rep_rep h1.rangeOk h2.rangeOk w))
  | loop _ _ => exact rep_inv

theorem Reps.cast {x y : XNode α} {l : Bool} {a a' : Nat} {b b' : Option Nat} (h : Reps x l a b y)
    (ha : a = a') (hb : b = b') : Reps x l a' b' y := ha ▸ hb ▸ h

/-- `for …: retNode = Sequence(retNode, y)`, `k` times -/
theorem Reps.iter_back {x y base : XNode α} {c d : Nat} (hy : Reps x false c (some d) y) (k : Nat)
    {a b : Nat} (hb : Reps x false a (some b) base) :
    Reps x false (a + k * c) (some (b + k * d)) (iter (fun ret => .bin .Sequence ret y) k base) := by
  induction k generalizing a b base with
  | zero => exact hb.cast (by simp) (by simp)
  | succ k ih =>
    refine (ih (.seq rfl hb hy)).cast ?_ (congrArg some ?_) <;> rw [Nat.succ_mul] <;> omega

/-- `for …: retNode = Sequence(x, retNode)` over an unbounded tail, `k` times -/
theorem Reps.iter_front {x base : XNode α} (k : Nat) {a : Nat} (hb : Reps x false a none base) :
    Reps x false (a + k) none (iter (fun ret => .bin .Sequence x ret) k base) := by
  induction k generalizing a base with
  | zero => exact hb
  | succ k ih => exact (ih (.seq rfl .one hb)).cast (by omega) rfl

theorem expand_reps (x : XNode α) (mn : Nat) (mx : Option Nat) (c : Bool) (hocc : occOk mn mx = true) :
    Reps x (c && x.isLeaf) mn mx (expand x mn mx c) := by
  unfold expand
  by_cases h11 : mn = 1 ∧ mx = some 1
  · rw [if_pos h11]; obtain ⟨rfl, rfl⟩ := h11; exact .one
  rw [if_neg h11]
  by_cases h01 : mn = 0 ∧ mx = some 1
  · rw [if_pos h01]; obtain ⟨rfl, rfl⟩ := h01; exact .unary .ZeroOrOne
  rw [if_neg h01]
  by_cases h0u : mn = 0 ∧ mx = none
  · rw [if_pos h0u]; obtain ⟨rfl, rfl⟩ := h0u; exact .unary .ZeroOrMore
  rw [if_neg h0u]
  by_cases h1u : mn = 1 ∧ mx = none
  · rw [if_pos h1u]; obtain ⟨rfl, rfl⟩ := h1u; exact .unary .OneOrMore
  rw [if_neg h1u]
  cases hl : (c && x.isLeaf)
  · rw [if_neg (by simp)]
    cases mx with
    | none =>
      -- min ≥ 2, unbounded: x … x x+
      have h0 : mn ≠ 0 := fun e => h0u ⟨e, rfl⟩
      exact (Reps.iter_front (mn - 1) (.unary .OneOrMore)).cast (Nat.add_sub_cancel' (Nat.pos_of_ne_zero h0)) rfl
    | some m =>
      have hle : mn ≤ m ∧ 1 ≤ m := by simpa [occOk] using hocc
      have hopt : Reps x false 0 (some 1) (.unary .ZeroOrOne x) := .unary .ZeroOrOne
      simp only []
      by_cases hz : mn = 0
      · -- x? … x?
        rw [if_pos hz]
        exact (Reps.iter_back hopt (m - 1) hopt).cast (by omega) (congrArg some (by omega))
      · rw [if_neg hz]
        -- x … x, then x? … x?
        have hret1 : Reps x false mn (some mn)
            (if mn > 1 then iter (fun ret => .bin .Sequence ret x) (mn - 2) (.bin .Sequence x x) else x) := by
          split
          · exact (Reps.iter_back .one (mn - 2) (.seq rfl .one .one)).cast (by omega) (congrArg some (by omega))
          · exact Reps.one.cast (by omega) (congrArg some (by omega))
        by_cases hc : m - mn > 0
        · rw [if_pos hc]
          exact (Reps.iter_back hopt (m - mn - 1) (.seq rfl hret1 hopt)).cast (by omega) (congrArg some (by omega))
        · rw [if_neg hc]
          exact hret1.cast rfl (congrArg some (by omega))
  · rw [if_pos rfl]
    have := Reps.loop (x := x) rfl hocc
    split <;> simpa [*] using this

theorem expand_leq {x : XNode α} {p : Particle α} {min : Nat} {max : Option Nat} (compact : Bool)
    (hocc : occOk min max = true) (h : LEq M x.toParticle p) :
    LEq M (expand x min max compact).toParticle (.rep min max p) :=
  fun w => ((expand_reps x min max compact hocc).lang w).trans ((rep_congr min max h w).trans rep_inv.symm)

/-- `ComplexTypeInfo::expandContentModel`, for every range that is Particle Correct (`occOk`: min ≤ max, max ≥ 1), with
    and without compact syntax -/
theorem expand_preserves' (x : XNode α) (min : Nat) (max : Option Nat) (compact : Bool) (hocc : occOk min max = true) :
    LEq M (expand x min max compact).toParticle (.rep min max x.toParticle) :=
  expand_leq compact hocc (LEq.refl _)

theorem allMembers_convert (compact : Bool) (s : SNode α) (h : s.allShape = true) :
    (convert compact s).allMembers = s.allMembers := by
  induction s with
  | leaf a min max =>
    simp only [SNode.allShape, decide_eq_true_eq] at h
    obtain ⟨rfl, hmin⟩ := h
    obtain rfl | rfl : min = 0 ∨ min = 1 := by omega
    · rfl
    · rfl
  | group1 t f min max _ => cases h
  | group2 t x y min max ihx ihy =>
    cases t with
    | All =>
      simp only [SNode.allShape, decide_eq_true_eq] at h
      obtain ⟨rfl, rfl, hx, hy⟩ := h
      show (convert compact x).allMembers ++ (convert compact y).allMembers = _
      rw [ihx hx, ihy hy]; rfl
    | _ => cases h

/-- `convertContentSpecTree` preserves the language of every well-formed tree -/
theorem convert_preserves' (compact : Bool) (s : SNode α) (h : s.wf = true) :
    LEq M (convert compact s).toParticle s.toParticle := by
  induction s with
  | leaf a min max => exact expand_preserves' (.leaf a) min max compact h
  | group1 t f min max ih =>
    simp only [SNode.wf, Bool.and_eq_true] at h
    exact expand_leq compact h.1 (ih h.2)
  | group2 t x y min max ihx ihy =>
    cases t with
    | All =>
      simp only [SNode.wf, Bool.and_eq_true] at h
      refine expand_leq compact h.1.1 ?_
      rw [show (XNode.bin .All (convert compact x) (convert compact y)).toParticle
          = .all (x.allMembers ++ y.allMembers) by
        simp [XNode.toParticle, allMembers_convert compact x h.1.2, allMembers_convert compact y h.2]]
      exact LEq.refl _
    | Sequence =>
      simp only [SNode.wf, Bool.and_eq_true] at h
      exact expand_leq compact h.1.1 (LEq.seq (ihx h.1.2) (ihy h.2))
    | Choice =>
      simp only [SNode.wf, Bool.and_eq_true] at h
      exact expand_leq compact h.1.1 (LEq.choice (ihx h.1.2) (ihy h.2))

open XV.Spec.ContentModel in
/-- the C07 content particle of a tree without `All` / `Loop` nodes over leaf ids -/
def toCM : XNode Nat → Option CM
  | .leaf n => some (.leaf n)
  | .unary t x =>
    match toCM x with
    | none => none
    | some c => some (match t with | .ZeroOrOne => .opt c | .ZeroOrMore => .star c | .OneOrMore => .plus c)
  | .bin .Sequence x y =>
    match toCM x, toCM y with
    | some a, some b => some (.seq a b)
    | _, _ => none
  | .bin .Choice x y =>
    match toCM x, toCM y with
    | some a, some b => some (.choice a b)
    | _, _ => none
  | .bin .All _ _ => none
  | .loopRep _ _ _ _ => none

/-- symbolic matching: a child is a leaf id -/
def SymM : Nat → Nat → Prop := fun x a => x = a

open XV.Spec.ContentModel in
/-- the graph of `toCM` -/
inductive IsCM : XNode Nat → CM → Prop where
  | leaf (n : Nat) : IsCM (.leaf n) (.leaf n)
  | unary (t : UnOp) {x : XNode Nat} {c : CM} : IsCM x c →
      IsCM (.unary t x) (match t with | .ZeroOrOne => .opt c | .ZeroOrMore => .star c | .OneOrMore => .plus c)
  | seq {x y : XNode Nat} {a b : CM} : IsCM x a → IsCM y b → IsCM (.bin .Sequence x y) (.seq a b)
  | choice {x y : XNode Nat} {a b : CM} : IsCM x a → IsCM y b → IsCM (.bin .Choice x y) (.choice a b)

open XV.Spec.ContentModel in
theorem toCM_iff (x : XNode Nat) (c : CM) : toCM x = some c ↔ IsCM x c := by
  constructor
  · intro h
    -- one case per equation of `toCM`; those that return `none` go by `cases h`
    fun_induction toCM x generalizing c with cases h
    | case1 n => exact .leaf n
    | case3 t x c hx ih => exact .unary t (ih c hx)
    | case4 x y a b hy hx ihx ihy => exact .seq (ihx a hx) (ihy b hy)
    | case6 x y a b hy hx ihx ihy => exact .choice (ihx a hx) (ihy b hy)
  · intro h
    induction h with
    | leaf n => rfl
    | unary t _ ih => rw [toCM, ih]
    | seq _ _ ih1 ih2 => rw [toCM, ih1, ih2]
    | choice _ _ ih1 ih2 => rw [toCM, ih1, ih2]

open XV.Spec.ContentModel XV.Lemmas.ContentModel in
theorem IsCM.lang {x : XNode Nat} {c : CM} (h : IsCM x c) (w : List Nat) :
    CM.Lang c w ↔ PLang SymM x.toParticle w := by
  induction h generalizing w with
  | leaf n => simp [XNode.toParticle, lang_leaf, leaf_inv, SymM]
  | unary t _ ih =>
    rw [toParticle_unary, rep_inv, ← rep_congr _ _ ih]
    cases t
    · exact lang_opt.trans (rep_opt w).symm
    · exact lang_star
    · exact lang_plus
  | seq _ _ ih1 ih2 => rw [toParticle_seq, lang_seq, seq_inv, cat_congr ih1 ih2]
  | choice _ _ ih1 ih2 => simp only [toParticle_choice, lang_choice, choice_inv, ih1, ih2]

open XV.Spec.ContentModel in
theorem toCM_lang (x : XNode Nat) (c : CM) (h : toCM x = some c) (w : List Nat) :
    CM.Lang c w ↔ PLang SymM x.toParticle w :=
  ((toCM_iff x c).1 h).lang w

end XV.Lemmas.ParticleExpand
