/- `WFElemStack` against the abstract machine of `Lemmas.ElemStack`, of which it reads only the stack: one shared prefix map
   and a top index per level, a level being popped by moving the index.  `RepWF S st` says that the first `tot st` pairs of
   the map are the declarations of `st`, outermost level first, and that the rows hold the running totals `sums st`.
   `wf_mapPrefix_raw` is the literal answer of its `mapPrefixToURI`, again `code` of `bound`, except that on one level the
   LAST declaration of a prefix counts (the search runs through the map from the end). -/
import XV.Lemmas.ElemStack
namespace XV.Lemmas.WFElemStack
open XV.Model.ElemStack XV.Spec.Namespace XV.Gen.ElemStackConsts XV.Lemmas.ElemStack

def tot (st : List Level) : Nat := (st.map List.length).sum

def sums : List Level → List Nat
  | [] => []
  | l :: r => tot (l :: r) :: sums r

theorem tot_cons (l : Level) (r : List Level) : tot (l :: r) = l.length + tot r := by simp [tot]

theorem tot_eq_flatten (st : List Level) : tot st = st.reverse.flatten.length := by
  induction st with
  | nil => rfl
  | cons l r ih => simp [tot_cons, ih, Nat.add_comm]

structure RepWF (S : WFScan) (st : List Level) : Prop where
  top : S.es.fStackTop = st.length
  top_le : S.es.fStackTop ≤ S.es.fStack.length
  len_le : S.es.fStack.length ≤ S.es.fStackCapacity
  cap_ge : wfStackInitCap ≤ S.es.fStackCapacity
  mapLen : S.es.fMap.length = S.es.fMapCapacity
  mapCap : S.es.fMapCapacity = 0 ∨ wfMapInitCap ≤ S.es.fMapCapacity
  tps : ((S.es.fStack.take S.es.fStackTop).map (·.fTopPrefix1)).reverse = sums st
  tot_le : tot st ≤ S.es.fMapCapacity
  content : S.es.fMap.take (tot st) = (st.reverse.flatten).map (enc S.es.fPrefixPool S.uriPool)
  memS : ∀ l ∈ st, ∀ d ∈ l, d.pre ∈ S.es.fPrefixPool ∧ d.uri ∈ S.uriPool
  gpool : "" ∈ S.es.fPrefixPool ∧ S.es.fGlobalPoolId = getId S.es.fPrefixPool ""
  xpool : xmlString ∈ S.es.fPrefixPool ∧ S.es.fXMLPoolId = getId S.es.fPrefixPool xmlString
  npool : xmlnsString ∈ S.es.fPrefixPool ∧ S.es.fXMLNSPoolId = getId S.es.fPrefixPool xmlnsString
  eid : "" ∈ S.uriPool ∧ S.es.fEmptyNamespaceId = getId S.uriPool ""
  xid : xmlURIName ∈ S.uriPool ∧ S.es.fXMLNamespaceId = getId S.uriPool xmlURIName
  nid : xmlnsURIName ∈ S.uriPool ∧ S.es.fXMLNSNamespaceId = getId S.uriPool xmlnsURIName
  sE : S.fEmptyNamespaceId = S.es.fEmptyNamespaceId

theorem wf_rep_fresh {pp up : Pool} {gi xi ni ei xu nu : Nat} (ui : Nat)
    (g : "" ∈ pp ∧ gi = getId pp "") (x : xmlString ∈ pp ∧ xi = getId pp xmlString)
    (n : xmlnsString ∈ pp ∧ ni = getId pp xmlnsString) (e : "" ∈ up ∧ ei = getId up "")
    (hxu : xmlURIName ∈ up ∧ xu = getId up xmlURIName) (hnu : xmlnsURIName ∈ up ∧ nu = getId up xmlnsURIName) :
    RepWF { es := { fEmptyNamespaceId := ei, fGlobalPoolId := gi, fPrefixPool := pp, fUnknownNamespaceId := ui,
                    fXMLNamespaceId := xu, fXMLPoolId := xi, fXMLNSNamespaceId := nu, fXMLNSPoolId := ni },
            uriPool := up, fEmptyNamespaceId := ei } [] where
  top := rfl
  top_le := Nat.le_refl _
  len_le := Nat.zero_le _
  cap_ge := Nat.le_refl _
  mapLen := rfl
  mapCap := Or.inl rfl
  tps := rfl
  tot_le := Nat.le_refl _
  content := rfl
  memS := fun _ hl => nomatch hl
  gpool := g
  xpool := x
  npool := n
  eid := e
  xid := hxu
  nid := hnu
  sE := rfl

/-- `WFScan.init` builds its two pools by the very `addOrFind`s of `Scan.init`: the pools are the same terms, and the facts
    about the reserved ids are those of `init_rep` -/
theorem wf_init_rep : RepWF WFScan.init [] :=
  have h := init_rep false
  wf_rep_fresh _ h.gpool h.xpool h.npool h.eid h.xid h.nid

theorem wfMapGrow_strict (cap : Nat) (h : wfMapInitCap ≤ cap) : cap < cap * wfMapGrowNum / wfMapGrowDen := by
  simp only [wfMapInitCap, wfMapGrowNum, wfMapGrowDen] at *
  omega

theorem wfStackGrow_strict (cap : Nat) (h : wfStackInitCap ≤ cap) : cap < cap * wfStackGrowNum / wfStackGrowDen := by
  simp only [wfStackInitCap, wfStackGrowNum, wfStackGrowDen] at *
  omega

/-- the top row's index is the number of pairs stored for the open elements -/
theorem top_tp {S : WFScan} {l : Level} {r : List Level} (h : RepWF S (l :: r)) :
    S.es.fStackTop = r.length + 1 ∧ ∃ hlt : r.length < S.es.fStack.length,
      S.es.fStack[r.length].fTopPrefix1 = tot (l :: r) ∧
      ((S.es.fStack.take r.length).map (·.fTopPrefix1)).reverse = sums r := by
  have ht : S.es.fStackTop = r.length + 1 := h.top
  have hlt : r.length < S.es.fStack.length := by have := h.top_le; omega
  have := h.tps
  rw [ht, take_succ_map_reverse _ _ _ hlt] at this
  exact ⟨ht, hlt, List.cons.inj this⟩

theorem wf_rep_addLevel {S : WFScan} {st : List Level} (h : RepWF S st) : RepWF (S.step .addLevel) ([] :: st) := by
  obtain ⟨rows, hrows, hlt, htake, hlen, _⟩ := slot_spec S.es.fStack ({} : WFStackElem) h.top_le
  obtain ⟨hc1, hc2⟩ := stackCap_spec wfStackGrow_strict h.top_le h.len_le h.cap_ge
  -- the inherited top prefix index
  have htp : (if S.es.fStackTop ≠ 0 then (rows[S.es.fStackTop - 1]?.getD ({} : WFStackElem)).fTopPrefix1 else 0) = tot st := by
    cases st with
    | nil => have h0 : S.es.fStackTop = 0 := h.top; simp [h0, tot]
    | cons l r =>
      obtain ⟨hn, hl, htp, _⟩ := top_tp h
      have hrn : rows[r.length]? = some S.es.fStack[r.length] := by
        have := congrArg (·[r.length]?) htake
        rwa [hn, List.getElem?_take_of_lt (Nat.lt_succ_self _), List.getElem?_take_of_lt (Nat.lt_succ_self _),
          List.getElem?_eq_getElem hl] at this
      rw [if_pos (by omega), hn, Nat.add_sub_cancel, hrn, Option.getD_some, htp]
  simp only [WFScan.step, WF.addLevel, WF.expandStack, ← hrows, htp]
  exact { h with
    top := by simp [h.top]
    top_le := by simp only [List.length_set]; omega
    len_le := by simp only [List.length_set]; omega
    cap_ge := hc2
    tps := by
      show ((List.take (S.es.fStackTop + 1) (rows.set S.es.fStackTop _)).map (·.fTopPrefix1)).reverse = _
      rw [take_succ_map_reverse _ _ _ (by simpa only [List.length_set] using hlt),
        List.take_set_of_le (Nat.le_refl _), htake, h.tps]
      simp [sums, tot_cons]
    tot_le := by simpa [tot_cons] using h.tot_le
    content := by simpa [tot_cons] using h.content
    memS := fun l hl d hd => (List.mem_cons.mp hl).elim (fun e => nomatch (e ▸ hd)) (fun h1 => h.memS l h1 d hd) }

theorem wf_rep_popTop {S : WFScan} {st : List Level} (h : RepWF S st) : RepWF (S.step .popTop) st.tail := by
  cases st with
  | nil =>
    have h0 : S.es.fStackTop = 0 := h.top
    have hs : S.step .popTop = S := by simp [WFScan.step, WF.popTop, h0]
    rw [hs]; exact h
  | cons l r =>
    obtain ⟨hn, hl, _, hsums⟩ := top_tp h
    have hle : tot r ≤ tot (l :: r) := by rw [tot_cons]; omega
    simp only [WFScan.step, WF.popTop, hn, Nat.add_one_ne_zero, ↓reduceIte, List.tail_cons, Nat.add_sub_cancel]
    exact { h with
      top := rfl
      top_le := Nat.le_of_lt hl
      tps := hsums
      tot_le := Nat.le_trans hle h.tot_le
      content := by
        show S.es.fMap.take (tot r) = (r.reverse.flatten).map (enc S.es.fPrefixPool S.uriPool)
        rw [← Nat.min_eq_left hle, ← List.take_take, h.content, List.reverse_cons, List.flatten_append, List.map_append,
          List.take_append_of_le_length (by rw [List.length_map, ← tot_eq_flatten]; exact Nat.le_refl _),
          List.take_of_length_le (by rw [List.length_map, ← tot_eq_flatten]; exact Nat.le_refl _)]
      memS := fun l' hl' => h.memS l' (List.mem_cons_of_mem l hl') }

/-- the pools only ever grow at the end, and re-encoding is the identity on pooled strings -/
theorem wf_rep_ext {S : WFScan} {st : List Level} (h : RepWF S st) {pp up : Pool} (hp : S.es.fPrefixPool <+: pp)
    (hu : S.uriPool <+: up) : RepWF { S with es := { S.es with fPrefixPool := pp }, uriPool := up } st := by
  obtain ⟨l1, rfl⟩ := hp
  obtain ⟨l2, rfl⟩ := hu
  exact { h with
    content := by
      show S.es.fMap.take (tot st) = (st.reverse.flatten).map (enc (S.es.fPrefixPool ++ l1) (S.uriPool ++ l2))
      rw [map_enc_append l1 l2 _ (fun d hd => by
        obtain ⟨l, hl, hdl⟩ := List.mem_flatten.mp hd
        exact h.memS l (List.mem_reverse.mp hl) d hdl)]
      exact h.content
    memS := fun l hl d hd => ⟨List.mem_append_left _ (h.memS l hl d hd).1, List.mem_append_left _ (h.memS l hl d hd).2⟩
    gpool := pooled_append h.gpool l1
    xpool := pooled_append h.xpool l1
    npool := pooled_append h.npool l1
    eid := pooled_append h.eid l2
    xid := pooled_append h.xid l2
    nid := pooled_append h.nid l2 }

theorem wf_expand_spec (s : WFElemStack) (hlen : s.fMap.length = s.fMapCapacity)
    (hcap : s.fMapCapacity = 0 ∨ wfMapInitCap ≤ s.fMapCapacity) :
    (WF.expandMap s).fMap.length = (WF.expandMap s).fMapCapacity ∧ s.fMapCapacity < (WF.expandMap s).fMapCapacity ∧
    wfMapInitCap ≤ (WF.expandMap s).fMapCapacity ∧
    ∀ k ≤ s.fMapCapacity, (WF.expandMap s).fMap.take k = s.fMap.take k := by
  obtain ⟨hgrow, hinit⟩ := newCap_spec wfMapGrow_strict (by decide) hcap
  obtain ⟨hl, ht⟩ := grow_spec (default : PrefMapElem) hlen (Nat.le_of_lt hgrow)
  exact ⟨hl, hgrow, hinit, ht⟩

theorem wf_rep_addPrefix {S : WFScan} {a : Abs} (h : RepWF S a.stack) (p u : String) :
    RepWF (S.step (.addPrefix p u)) (a.step (.addPrefix p u)).stack := by
  cases a with | mk g st =>
  cases st with
  | nil =>
    -- EmptyStackException, after the URI was pooled
    have h0 : S.es.fStackTop = 0 := h.top
    simp only [WFScan.step, WF.addPrefix, if_pos h0]
    exact wf_rep_ext h (List.prefix_refl _) (addOrFind_prefix _ u)
  | cons l r =>
    obtain ⟨hn, hl, htp, hsums⟩ := top_tp h
    have h1 := wf_rep_ext h (addOrFind_prefix _ p) (addOrFind_prefix _ u)
    -- the map with room for the pair
    obtain ⟨map1, cap1, hmap1, hcap1, e1, e2, e3, e4⟩ : ∃ map1 cap1,
        map1 = (if tot (l :: r) = S.es.fMapCapacity then (WF.expandMap S.es).fMap else S.es.fMap) ∧
        cap1 = (if tot (l :: r) = S.es.fMapCapacity then (WF.expandMap S.es).fMapCapacity else S.es.fMapCapacity) ∧
        map1.length = cap1 ∧ tot (l :: r) < cap1 ∧ (cap1 = 0 ∨ wfMapInitCap ≤ cap1) ∧
        map1.take (tot (l :: r)) = S.es.fMap.take (tot (l :: r)) := by
      by_cases hfull : tot (l :: r) = S.es.fMapCapacity
      · obtain ⟨a, b, c, d⟩ := wf_expand_spec S.es h.mapLen h.mapCap
        exact ⟨(WF.expandMap S.es).fMap, (WF.expandMap S.es).fMapCapacity, (if_pos hfull).symm, (if_pos hfull).symm,
          a, hfull ▸ b, Or.inr c, d _ h.tot_le⟩
      · exact ⟨S.es.fMap, S.es.fMapCapacity, (if_neg hfull).symm, (if_neg hfull).symm, h.mapLen,
          Nat.lt_of_le_of_ne h.tot_le hfull, h.mapCap, rfl⟩
    simp only [WFScan.step, WF.addPrefix, hn, Nat.add_one_ne_zero, ↓reduceIte, Nat.add_sub_cancel,
      List.getElem?_eq_getElem hl, htp, storedUri_eq, ← hmap1, ← hcap1, Abs.step, addOrFind_snd S.es.fPrefixPool p,
      addOrFind_snd S.uriPool u]
    have ht : tot ((l ++ [⟨p, u⟩]) :: r) = tot (l :: r) + 1 := by simp [tot_cons]; omega
    exact { h1 with
      top := rfl
      top_le := by simpa using Nat.succ_le_of_lt hl
      len_le := by simpa using h.len_le
      mapLen := by simpa using e1
      mapCap := e3
      tps := by
        show ((List.take (r.length + 1) (S.es.fStack.set r.length _)).map (·.fTopPrefix1)).reverse = _
        rw [take_succ_map_reverse _ _ _ (by simpa using hl), List.take_set_of_le (Nat.le_refl _), hsums,
          List.getElem_set_self, sums, ht]
      tot_le := by rw [ht]; exact e2
      content := by
        show (map1.set (tot (l :: r)) _).take (tot ((l ++ [⟨p, u⟩]) :: r)) = _
        rw [ht, take_succ_set _ _ _ (by rw [e1]; exact e2), e4,
          show S.es.fMap.take (tot (l :: r)) = _ from h1.content]
        simp [enc]
      memS := fun l' hl' d hd => by
        rcases List.mem_cons.mp hl' with e | h2
        · rcases List.mem_append.mp (e ▸ hd) with h3 | h3
          · exact h1.memS l List.mem_cons_self d h3
          · exact List.mem_singleton.mp h3 ▸ ⟨addOrFind_mem _ _, addOrFind_mem _ _⟩
        · exact h1.memS l' (List.mem_cons_of_mem l h2) d hd }

def NoGlobal (ops : List Op) : Prop := ∀ o ∈ ops, ∀ p u, o ≠ .addGlobalPrefix p u

/-- `WFElemStack` has no global bindings: `addGlobalPrefix` changes neither the state nor the abstract stack, and the
    abstract `g` is carried along unread -/
theorem wf_rep_step {S : WFScan} {a : Abs} (h : RepWF S a.stack) (o : Op) : RepWF (S.step o) (a.step o).stack := by
  cases o with
  | addLevel => exact wf_rep_addLevel h
  | popTop => exact wf_rep_popTop h
  | addPrefix p u => exact wf_rep_addPrefix h p u
  | addGlobalPrefix p u => exact h

theorem wf_rep_run {S : WFScan} {a : Abs} (h : RepWF S a.stack) (ops : List Op) :
    RepWF (S.run ops) (a.run ops).stack := by
  induction ops generalizing S a with
  | nil => exact h
  | cons o os ih => exact ih (wf_rep_step h o)

/-- for every `n`, beyond the end of the map too: the loop passes over cells that do not exist, and so does `take` -/
theorem searchDown_eq (fMap : List PrefMapElem) (pid n : Nat) :
    WF.searchDown fMap pid n = findE (fMap.take n).reverse pid := by
  fun_induction WF.searchDown fMap pid n <;> simp_all [List.take_add_one, findE]

/-- the downward search over the shared map computes the nearest enclosing declaration; within one element it runs
    from the last pair back -/
theorem wf_lookup_eq {S : WFScan} {st : List Level} (h : RepWF S st) (p : String) (hp : p ∈ S.es.fPrefixPool) :
    WF.searchDown S.es.fMap (getId S.es.fPrefixPool p) (tot st) =
      (nearest (st.map List.reverse) p).map (getId S.uriPool) := by
  have hrev : st.reverse.flatten.reverse = (st.map List.reverse).flatten := by
    rw [List.reverse_flatten, List.map_reverse, List.reverse_reverse]
  rw [searchDown_eq, h.content, ← List.map_reverse, hrev,
    findE_enc _ _ _ p (fun d hd => by
      obtain ⟨l, hl, hdl⟩ := List.mem_flatten.mp hd
      obtain ⟨l0, hl0, rfl⟩ := List.mem_map.mp hl
      exact (h.memS l0 hl0 d (List.mem_reverse.mp hdl)).1) hp,
    ← nearest_eq_declOf]

theorem nearest_append_nil (ls : List Level) (p : String) : nearest (ls ++ [[]]) p = nearest ls p := by
  rw [nearest_eq_declOf, nearest_eq_declOf, List.flatten_append, List.flatten_singleton, List.append_nil]

/-- **`WFElemStack::mapPrefixToURI`, literally**: id and "unknown" flag of the binding the represented declarations hold,
    where on one level the LAST declaration of a prefix counts -/
theorem wf_mapPrefix_raw {S : WFScan} {l : Level} {rest : List Level} (h : RepWF S (l :: rest)) (p : String) :
    WF.mapPrefixToURI S.es p = some (code S.uriPool S.es.fEmptyNamespaceId S.es.fUnknownNamespaceId p
      (bound [] ((l :: rest).map List.reverse) p)) := by
  obtain ⟨htop, hl, htp, _⟩ := top_tp h
  unfold WF.mapPrefixToURI
  simp only [htop, Nat.add_one_ne_zero, ↓reduceIte, Nat.add_sub_cancel, List.getElem?_eq_getElem hl, htp]
  exact congrArg some (dispatch_eq h.gpool.1 h.xpool h.npool h.xid.2 h.nid.2 p _ _ _ _
    (fun hp => by rw [nearest_append_nil, wf_lookup_eq h p hp]; cases nearest _ p <;> rfl)
    (fun hp => nearest_none_of_not_mem _ p (fun lv hlv d hd e => by
      rcases List.mem_append.mp hlv with h1 | h1
      · obtain ⟨l0, hl0, rfl⟩ := List.mem_map.mp h1
        exact hp (e ▸ (h.memS l0 hl0 d (List.mem_reverse.mp hd)).1)
      · cases List.mem_singleton.mp h1; cases hd)))

theorem nearest_map_reverse (st : List Level) (p : String) (hnd : ∀ l ∈ st, (l.map (·.pre)).Nodup) :
    nearest (st.map List.reverse) p = nearest st p := by
  induction st with
  | nil => rfl
  | cons l r ih =>
    rw [List.map_cons, nearest, nearest, ← declOf_perm (List.reverse_perm l).symm (hnd l List.mem_cons_self),
      ih (fun x hx => hnd x (List.mem_cons_of_mem l hx))]

theorem wf_mapPrefix_of_rep {S : WFScan} {l : Level} {rest : List Level} (h : RepWF S (l :: rest))
    (hnd : ∀ x ∈ l :: rest, (x.map (·.pre)).Nodup) (p : String) :
    (WF.mapPrefixToURI S.es p).map S.decode = some (inScope (l :: rest).reverse p) := by
  have hb : bound [] ((l :: rest).map List.reverse) p = bound [] (l :: rest) p := by
    unfold bound
    rw [nearest_append_nil, nearest_append_nil, nearest_map_reverse _ p hnd]
  rw [wf_mapPrefix_raw h p, hb, inScope, inScopeG_eq_bound, Option.map_some]
  unfold WFScan.decode
  rw [h.sE]
  exact congrArg some (decode_code h.eid _ p (fun _ hu => bound_mem h.xid.1 h.nid.1 (fun lv hlv d hd => by
    rcases List.mem_append.mp hlv with h1 | h1
    · exact (h.memS lv h1 d hd).2
    · cases List.mem_singleton.mp h1; cases hd) hu))

end XV.Lemmas.WFElemStack
