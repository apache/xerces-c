/-
C08 — `PLang`, the language of a schema particle over any match relation `M`, and the derivative matcher of the Spec.
The constructors read as the operations of `XV.Lemmas.Lang` (the `_inv` lemmas); an all-group has a first-letter rule
of its own (`all_cons_inv`: a member takes the letter, what follows is the all-group without it).
`Particle.nullable` / `Particle.deriv` compute these rules, up to the smart constructors `mkSeq` / `mkChoice`.
Core Lean only.
-/
import XV.Lemmas.Lang
namespace XV.Lemmas.Particle
open XV.Spec.Particle XV.Lemmas.Lang

variable {α β : Type} {M : β → α → Prop}

theorem fail_inv {w : List β} : ¬ PLang M (.fail : Particle α) w :=
  nofun

theorem eps_inv {w : List β} : PLang M (.eps : Particle α) w ↔ w = [] :=
  ⟨fun h => by cases h; rfl, by rintro rfl; exact .eps⟩

theorem leaf_inv {a : α} {w : List β} : PLang M (.leaf a) w ↔ ∃ x, w = [x] ∧ M x a :=
  ⟨fun h => by cases h with | leaf h => exact ⟨_, rfl, h⟩, by rintro ⟨_, rfl, h⟩; exact .leaf h⟩

theorem seq_inv {p q : Particle α} {w : List β} :
    PLang M (.seq p q) w ↔ Cat (PLang M p) (PLang M q) w :=
  ⟨fun h => by cases h with | seq h1 h2 => exact ⟨_, _, rfl, h1, h2⟩, by rintro ⟨_, _, rfl, h1, h2⟩; exact .seq h1 h2⟩

theorem choice_inv {p q : Particle α} {w : List β} :
    PLang M (.choice p q) w ↔ PLang M p w ∨ PLang M q w :=
  ⟨fun h => by cases h with | choiceL _ h => exact .inl h | choiceR _ h => exact .inr h,
   fun h => h.elim (.choiceL _) (.choiceR _)⟩

theorem all_inv {ms : List (α × Bool)} {w : List β} :
    PLang M (.all ms) w ↔ ∃ σ, σ.Perm ms ∧ SeqOpt M σ w :=
  ⟨fun h => by cases h with | all h1 h2 => exact ⟨_, h1, h2⟩, fun ⟨_, h1, h2⟩ => .all h1 h2⟩

theorem rep_inv {min : Nat} {max : Option Nat} {p : Particle α} {w : List β} :
    PLang M (.rep min max p) w ↔ Rep min max (PLang M p) w :=
  ⟨fun h => by cases h with | rep ws h1 h2 h3 => exact ⟨ws, rfl, h1, h2, h3⟩,
   by rintro ⟨ws, rfl, h1, h2, h3⟩; exact .rep ws h1 h2 h3⟩

theorem mkSeq_iff (p q : Particle α) (w : List β) : PLang M (mkSeq p q) w ↔ PLang M (.seq p q) w := by
  unfold mkSeq
  split
  · simp [seq_inv, Cat, fail_inv]
  · exact (seq_inv.trans ((cat_congr (fun _ => eps_inv) (fun _ => .rfl) w).trans eps_cat)).symm
  · rfl

theorem mkChoice_iff (p q : Particle α) (w : List β) : PLang M (mkChoice p q) w ↔ PLang M (.choice p q) w := by
  unfold mkChoice
  split <;> simp [choice_inv, fail_inv]

theorem seqOpt_nil_iff {σ : List (α × Bool)} : SeqOpt M σ ([] : List β) ↔ σ.all (fun m => m.2) = true := by
  induction σ with
  | nil => exact ⟨fun _ => rfl, fun _ => .nil⟩
  | cons m σ ih =>
    obtain ⟨a, opt⟩ := m
    rw [List.all_cons, Bool.and_eq_true, ← ih]
    exact ⟨fun h => by cases h with | skip h => exact ⟨rfl, h⟩, fun ⟨h1, h2⟩ => by cases h1; exact .skip h2⟩

theorem nullable_iff (p : Particle α) : p.nullable = true ↔ PLang M p ([] : List β) := by
  induction p with
  | eps => exact ⟨fun _ => .eps, fun _ => rfl⟩
  | fail => exact ⟨nofun, nofun⟩
  | leaf a => exact ⟨nofun, nofun⟩
  | seq p q ihp ihq =>
    rw [Particle.nullable, Bool.and_eq_true, ihp, ihq, seq_inv, cat_nil]
  | choice p q ihp ihq => simp [Particle.nullable, choice_inv, ihp, ihq]
  | all ms =>
    rw [Particle.nullable, all_inv]
    exact ⟨fun h => ⟨ms, .refl _, seqOpt_nil_iff.2 h⟩, fun ⟨σ, hp, hs⟩ => hp.all_eq ▸ seqOpt_nil_iff.1 hs⟩
  | rep min max p ih => simp [Particle.nullable, rep_inv, rep_nil, ih]

/-- one direction only: `SeqOpt` takes the members in the order of `σ`, so the converse needs the permutation that
    `PLang.all` supplies (`all_cons_inv`) -/
theorem seqOpt_cons_inv {σ : List (α × Bool)} {x : β} {w : List β} (h : SeqOpt M σ (x :: w)) :
    ∃ m σ', σ.Perm (m :: σ') ∧ M x m.1 ∧ SeqOpt M σ' w := by
  generalize hxw : x :: w = xw at h
  induction h with
  | nil => cases hxw
  | @take a opt ms y w' hm hs _ => cases hxw; exact ⟨(a, opt), ms, .refl _, hm, hs⟩
  | @skip a ms w' hs ih =>
    obtain ⟨m, σ', hp, hm, hs'⟩ := ih hxw
    exact ⟨m, (a, true) :: σ', (hp.cons _).trans (.swap ..), hm, .skip hs'⟩

variable [DecidableEq α]

theorem all_cons_inv {ms : List (α × Bool)} {x : β} {w : List β} :
    PLang M (.all ms) (x :: w) ↔ ∃ m, m ∈ ms ∧ M x m.1 ∧ PLang M (.all (ms.erase m)) w := by
  simp only [all_inv]
  constructor
  · rintro ⟨σ, hp, hs⟩
    obtain ⟨m, σ', hp', hm, hs'⟩ := seqOpt_cons_inv hs
    obtain ⟨hmem, hp''⟩ := List.cons_perm_iff_perm_erase.1 (hp'.symm.trans hp)
    exact ⟨m, hmem, hm, σ', hp'', hs'⟩
  · rintro ⟨m, hm, ha, σ', hp, hs⟩
    exact ⟨m :: σ', List.cons_perm_iff_perm_erase.2 ⟨hm, hp⟩, .take ha hs⟩

theorem allDeriv_iff (acc : α → Bool) (ms cand : List (α × Bool)) (w : List β) :
    PLang M (allDeriv acc ms cand) w ↔ ∃ m, m ∈ cand ∧ acc m.1 = true ∧ PLang M (.all (ms.erase m)) w := by
  fun_induction allDeriv acc ms cand with
  | case1 => simp [fail_inv]
  | case2 c cand hc ih => simp [mkChoice_iff, choice_inv, ih, hc]
  | case3 c cand hc ih => simp [ih, hc]

theorem deriv_iff_cons (acc : α → Bool) (x : β) (hacc : ∀ a, acc a = true ↔ M x a) (p : Particle α) (w : List β) :
    PLang M (p.deriv acc) w ↔ PLang M p (x :: w) := by
  induction p generalizing w with
  | eps => exact ⟨nofun, nofun⟩
  | fail => exact ⟨nofun, nofun⟩
  | leaf a =>
    rw [Particle.deriv, leaf_inv]
    split
    · next h => exact eps_inv.trans ⟨fun e => ⟨x, e ▸ rfl, (hacc a).1 h⟩, fun ⟨_, e, _⟩ => (List.cons.inj e).2⟩
    · next h => exact ⟨fun h => (by cases h), fun ⟨y, e, hm⟩ => absurd ((hacc a).2 ((List.cons.inj e).1 ▸ hm)) h⟩
  | seq p q ihp ihq =>
    rw [seq_inv, cat_cons, ← nullable_iff, ← ihq, ← cat_congr ihp fun _ => Iff.rfl, Particle.deriv]
    split
    · next hn => simp only [hn, mkChoice_iff, choice_inv, mkSeq_iff, seq_inv, true_and, or_comm]
    · next hn => simp only [hn, mkSeq_iff, seq_inv, Bool.false_eq_true, false_and, false_or]
  | choice p q ihp ihq => rw [Particle.deriv, mkChoice_iff, choice_inv, choice_inv, ihp, ihq]
  | all ms => simp only [Particle.deriv, allDeriv_iff, all_cons_inv, hacc]
  | rep min max p ih =>
    rw [rep_inv, rep_cons, ← cat_congr ih fun _ => rep_inv, Particle.deriv]
    split
    · next h0 => simp [h0, fail_inv]
    · next h0 => simp only [mkSeq_iff, seq_inv, ne_eq, h0, not_false_eq_true, true_and]

theorem derivs_iff (Mb : β → α → Bool) (p : Particle α) (u w : List β) :
    PLang (fun x a => Mb x a = true) (p.derivs Mb u) w ↔ PLang (fun x a => Mb x a = true) p (u ++ w) := by
  induction u generalizing p with
  | nil => rfl
  | cons x u ih => exact (ih _).trans (deriv_iff_cons _ x (fun _ => Iff.rfl) p (u ++ w))

end XV.Lemmas.Particle
