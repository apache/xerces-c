/-
Lemmas for C09, date/time part: `validateDateTime` as a proposition, `compareOrder` on values in normal range as the
order of instants on a day-number time line, and what `normalize` and `addDuration` share (`settle_spec`): carries, which
are floor divisions, then the day loop, which ends in range on the date with the same day number.  Months are counted on
one line (`monthStart`), on which the order of dates is monotonicity, the loop a walk and the month carry nothing at all.
The time line is this file's own (`dn`, `instantDT`, `shiftMin`, on the model's fields): no theorem here relates it to the
Spec's `instant` / `specOrder`, and none speaks of `rollover24` or `parseK`.
-/
import XV.Model.DateTime
namespace XV.Lemmas.DateTime
open XV.Spec.DateTime XV.Model.DateTime

theorem tmod_beq (y n : Int) : (Int.tmod y n == 0) = (y % n == 0) := by
  rw [Bool.eq_iff_iff, beq_iff_eq, beq_iff_eq]
  exact ⟨fun h => Int.emod_eq_zero_of_dvd (Int.dvd_of_tmod_eq_zero h),
    fun h => Int.tmod_eq_zero_of_dvd (Int.dvd_of_emod_eq_zero h)⟩

theorem isLeapYear_eq (y : Int) : isLeapYear y = isLeap y := by
  simp only [isLeapYear, isLeap, bne, tmod_beq]

/-- days in month `m`: the common form of the model's `maxDayInMonthFor` (`dim_of`) and the Spec's `daysInMonth`
(`daysInMonth_dim`) -/
def dim (leap : Bool) (m : Nat) : Int :=
  if m == 4 || m == 6 || m == 9 || m == 11 then 30
  else if m == 2 then (if leap then 29 else 28)
  else 31

theorem dim_range (leap : Bool) (m : Nat) : 28 ≤ dim leap m ∧ dim leap m ≤ 31 := by
  unfold dim
  split
  · decide
  · split
    · cases leap <;> decide
    · decide

theorem dim_of (y : Int) (m : Nat) : maxDayInMonthFor y (m : Int) = dim (isLeap y) m := by
  have e : ∀ k : Nat, (m == k) = ((m : Int) == (k : Int)) := fun k => by
    rw [Bool.eq_iff_iff, beq_iff_eq, beq_iff_eq, Int.natCast_inj]
  unfold maxDayInMonthFor dim
  rw [isLeapYear_eq, e 4, e 6, e 9, e 11, e 2]
  rfl

theorem daysInMonth_dim (y : Int) (m : Nat) : (daysInMonth y m : Int) = dim (isLeap y) m := by
  unfold daysInMonth dim
  rw [apply_ite Nat.cast, apply_ite Nat.cast, apply_ite Nat.cast]
  rfl

theorem dbm_succ : ∀ leap : Bool, ∀ m, m < 12 → 1 ≤ m → daysBeforeMonth leap (m + 1) = daysBeforeMonth leap m + dim leap m := by
  decide +kernel
theorem dbm_ends : ∀ leap : Bool, daysBeforeMonth leap 1 = 0 ∧ daysBeforeMonth leap 12 + 31 = 365 + (if leap then 1 else 0) ∧ dim leap 12 = 31 := by
  decide +kernel

def yearBase (y : Int) : Int := 365 * (y - 1) + (y - 1) / 4 - (y - 1) / 100 + (y - 1) / 400

theorem dayNumber_eq (y : Int) (m : Nat) (d : Int) : dayNumber y m d = yearBase y + daysBeforeMonth (isLeap y) m + d := rfl

/-- each floor term of `yearBase` steps exactly at its multiples: the leap-year rule counts the multiples of 4, less those of
100, plus those of 400 -/
theorem yearBase_succ (y : Int) : yearBase (y + 1) = yearBase y + 365 + (if isLeap y then 1 else 0) := by
  unfold yearBase isLeap
  simp only [Int.add_sub_cancel, Bool.and_eq_true, Bool.or_eq_true, beq_iff_eq, bne_iff_ne, ne_eq]
  split <;> omega

/-- The months on one line: month `m` of year `y` has index `12 * y + m - 1`, so that every integer is a month, the next
month is `+ 1`, and no statement about months needs a range.  `monthStart k` is the day number of day 0 of month `k`,
`mlen k` the month's length. -/
def monthStart (k : Int) : Int := dayNumber (k / 12) ((k % 12).toNat + 1) 0

def mlen (k : Int) : Int := dim (isLeap (k / 12)) ((k % 12).toNat + 1)

theorem mlen_range (k : Int) : 28 ≤ mlen k ∧ mlen k ≤ 31 := dim_range _ _

theorem monthStart_succ (k : Int) : monthStart (k + 1) = monthStart k + mlen k := by
  unfold monthStart mlen
  rw [dayNumber_eq, dayNumber_eq]
  by_cases h : k % 12 = 11
  · -- after December comes January of the next year
    obtain ⟨_, d12, d31⟩ := dbm_ends (isLeap (k / 12))
    rw [show (k + 1) / 12 = k / 12 + 1 by omega, show ((k + 1) % 12).toNat + 1 = 1 by omega,
      show (k % 12).toNat + 1 = 12 by omega, yearBase_succ, (dbm_ends _).1, d31]
    omega
  · rw [show (k + 1) / 12 = k / 12 by omega, show ((k + 1) % 12).toNat + 1 = (k % 12).toNat + 1 + 1 by omega,
      dbm_succ _ _ (by omega) (by omega)]
    omega

theorem monthStart_mono (k k' : Int) (h : k < k') : monthStart k + mlen k ≤ monthStart k' := by
  obtain ⟨n, rfl⟩ : ∃ n : Nat, k' = k + 1 + n := ⟨(k' - k - 1).toNat, by omega⟩
  clear h
  induction n with
  | zero => rw [Int.natCast_zero, Int.add_zero, monthStart_succ]; exact Int.le_refl _
  | succ n ih =>
    have := mlen_range (k + 1 + n)
    rw [Int.natCast_succ, ← Int.add_assoc, monthStart_succ]
    omega

theorem dayNumber_idx (y : Int) (m : Nat) (m1 : 1 ≤ m) (m2 : m ≤ 12) (d : Int) :
    dayNumber y m d = monthStart (12 * y + m - 1) + d := by
  unfold monthStart
  rw [show (12 * y + m - 1) / 12 = y by omega, show ((12 * y + m - 1) % 12).toNat + 1 = m by omega, dayNumber_eq,
    dayNumber_eq]
  omega

theorem maxDay_idx (k : Int) : maxDayInMonthFor (k / 12) (k % 12 + 1) = mlen k := by
  rw [show k % 12 + 1 = (((k % 12).toNat + 1 : Nat) : Int) by omega, dim_of]; rfl

/-- the checks of `validateDateTime`, as a proposition -/
def ValidFields (d : DT) : Prop :=
  d.year ≠ 0 ∧ 1 ≤ d.month ∧ d.month ≤ 12 ∧ d.day ≤ maxDayInMonthFor d.year d.month ∧ d.day ≠ 0 ∧
  0 ≤ d.hour ∧ d.hour ≤ 24 ∧ (d.hour = 24 → d.minute = 0 ∧ d.second = 0 ∧ d.ms.all (· == 0) = true) ∧
  0 ≤ d.minute ∧ d.minute ≤ 59 ∧ 0 ≤ d.second ∧ d.second ≤ 60 ∧
  d.tzh.natAbs ≤ 14 ∧ (d.tzh.natAbs = 14 → d.tzm = 0) ∧ d.tzm.natAbs ≤ 59

theorem ite_false_eq_true (c : Prop) [Decidable c] (x : Bool) : ((if c then false else x) = true) ↔ (¬ c ∧ x = true) := by
  by_cases h : c <;> simp [h]

theorem validate_iff (d : DT) : validateDateTime d = true ↔ ValidFields d := by
  unfold validateDateTime ValidFields
  -- the chain of `if … then false` is a conjunction of negated tests; both sides have the same normal form
  simp only [ite_false_eq_true, Bool.or_eq_true, Bool.and_eq_true, decide_eq_true_eq, beq_iff_eq, bne_iff_ne,
    Bool.not_eq_true', and_true, ne_eq, not_or, not_and, Int.not_lt, Nat.not_lt, gt_iff_lt, Decidable.not_not,
    Bool.not_eq_false, and_assoc]

theorem ofRaw_fields (k : Kind) (r : Raw) :
    (ofRaw k r).year = r.year ∧ (ofRaw k r).month = r.month ∧ (ofRaw k r).day = r.day ∧ (ofRaw k r).hour = r.hour ∧
    (ofRaw k r).minute = r.minute ∧ (ofRaw k r).second = r.second ∧ (ofRaw k r).ms = r.frac := by
  unfold ofRaw; cases r.tz <;> simp

theorem ofRaw_tz (k : Kind) (r : Raw) :
    ((ofRaw k r).tzh.natAbs ≤ 14 ∧ ((ofRaw k r).tzh.natAbs = 14 → (ofRaw k r).tzm = 0) ∧ (ofRaw k r).tzm.natAbs ≤ 59) ↔
      tzValid r.tz = true := by
  unfold ofRaw tzValid
  cases r.tz with
  | none => simp
  | utc => simp
  | pos h m => simp; omega
  | neg h m => simp; omega

/-- fields in the ranges every normalized value has (hour 24 and second 60 excluded) -/
structure InRange (d : DT) : Prop where
  month : 1 ≤ d.month ∧ d.month ≤ 12
  day : 1 ≤ d.day ∧ d.day ≤ maxDayInMonthFor d.year d.month
  hour : 0 ≤ d.hour ∧ d.hour ≤ 23
  minute : 0 ≤ d.minute ∧ d.minute ≤ 59
  second : 0 ≤ d.second ∧ d.second ≤ 59
  utc : d.utc = UTC_UNKNOWN ∨ d.utc = UTC_STD

/-- the Spec's day number of the date fields as they stand -/
def dn (d : DT) : Int := dayNumber d.year d.month.toNat d.day

/-- seconds on the time line of the fields as they stand (no time zone applied) -/
def instantDT (d : DT) : Int := ((dn d * 24 + d.hour) * 60 + d.minute) * 60 + d.second

theorem dn_idx (d : DT) (h : 1 ≤ d.month ∧ d.month ≤ 12) : dn d = monthStart (12 * d.year + d.month - 1) + d.day := by
  unfold dn
  rw [dayNumber_idx _ _ (by omega) (by omega), show ((d.month.toNat : Nat) : Int) = d.month by omega]

theorem dn_lt (l r : DT) (hl : InRange l) (hr : InRange r) (h : l.year * 12 + l.month < r.year * 12 + r.month) :
    dn l < dn r := by
  have hlm := hl.month
  have hrm := hr.month
  have hld := hl.day.2
  have := hr.day.1
  have := monthStart_mono (12 * l.year + l.month - 1) (12 * r.year + r.month - 1) (by omega)
  have e := maxDay_idx (12 * l.year + l.month - 1)
  rw [show (12 * l.year + l.month - 1) / 12 = l.year by omega,
    show (12 * l.year + l.month - 1) % 12 + 1 = l.month by omega] at e
  rw [dn_idx l hlm, dn_idx r hrm]
  omega

theorem dn_same_month (l r : DT) (hy : l.year = r.year) (h : l.month = r.month) :
    dn l - dn r = l.day - r.day := by
  unfold dn dayNumber; rw [hy, h]; omega

theorem normalize_id (d : DT) (h : d.utc = UTC_UNKNOWN ∨ d.utc = UTC_STD) : normalize d = d := by
  unfold normalize
  rcases h with h | h <;> simp [h]

/-- one level of a lexicographic comparison, against the order of a key `K` that the level decides when it differs -/
theorem lexCmp_step {a b K K' r : Int} (hlt : a < b → K < K') (hgt : b < a → K' < K)
    (heq : a = b → r = if K < K' then -1 else if K' < K then 1 else 0) :
    (if a < b then -1 else if a > b then 1 else r) = if K < K' then -1 else if K' < K then 1 else 0 := by
  by_cases h1 : a < b
  · rw [if_pos h1, if_pos (hlt h1)]
  · by_cases h2 : a > b
    · have := hgt h2
      rw [if_neg h1, if_pos h2, if_neg (by omega), if_pos this]
    · rw [if_neg h1, if_neg h2]; exact heq (by omega)

theorem go_inrange (l r : DT) (hl : InRange l) (hr : InRange r) (hu : l.utc = r.utc) :
    compareOrder.go [l.year, l.month, l.day, l.hour, l.minute, l.second, 0, (l.utc : Int)]
        [r.year, r.month, r.day, r.hour, r.minute, r.second, 0, (r.utc : Int)] =
      if instantDT l < instantDT r then -1 else if instantDT r < instantDT l then 1 else 0 := by
  have h1 := hl.hour; have h2 := hr.hour; have m1 := hl.minute; have m2 := hr.minute
  have s1 := hl.second; have s2 := hr.second; have o1 := hl.month; have o2 := hr.month
  simp only [compareOrder.go, hu, Int.lt_irrefl, gt_iff_lt, if_false]
  unfold instantDT
  refine lexCmp_step (fun h => ?_) (fun h => ?_) fun ey => lexCmp_step (fun h => ?_) (fun h => ?_) fun em => ?_
  · have := dn_lt l r hl hr (by omega); omega
  · have := dn_lt r l hr hl (by omega); omega
  · have := dn_lt l r hl hr (by omega); omega
  · have := dn_lt r l hr hl (by omega); omega
  · have ed := dn_same_month l r ey em
    refine lexCmp_step (fun h => by omega) (fun h => by omega) fun _ =>
      lexCmp_step (fun h => by omega) (fun h => by omega) fun _ =>
      lexCmp_step (fun h => by omega) (fun h => by omega) fun _ =>
      lexCmp_step (fun h => by omega) (fun h => by omega) fun _ => ?_
    rw [if_neg (by omega), if_neg (by omega)]

theorem compareOrder_inrange (l r : DT) (hl : InRange l) (hr : InRange r) (hu : l.utc = r.utc) :
    compareOrder l r =
      if instantDT l < instantDT r then -1
      else if instantDT r < instantDT l then 1
      else if l.hasTime then cmpMs l.ms r.ms else 0 := by
  unfold compareOrder
  rw [normalize_id l hl.utc, normalize_id r hr.utc]
  dsimp only
  rw [go_inrange l r hl hr hu]
  by_cases a : instantDT l < instantDT r
  · simp [a]
  · by_cases b : instantDT r < instantDT l
    · simp [a, b]
    · simp [a, b]

/-- C `div` with the fix-up of a negative remainder is floor division -/
theorem carryFix_eq (t b : Int) (hb : 0 < b) : carryFix t b = (t % b, t / b) := by
  have h1 := Int.mul_ediv_add_emod t b
  have h2 := Int.emod_nonneg t (Int.ne_of_gt hb)
  have h3 := Int.emod_lt_of_pos t hb
  rw [Int.mul_comm] at h1
  unfold carryFix fQuotient modC
  simp only
  rw [Int.tdiv_eq_ediv, Int.sign_eq_one_of_pos hb]
  split
  · rw [Int.add_zero, if_neg (by omega)]; congr 1; omega
  · rw [Int.add_mul, Int.one_mul, if_pos (by omega)]; congr 1 <;> omega

theorem monthNorm_eq (t : Int) : monthNorm t = ((t - 1) % 12 + 1, (t - 1) / 12) := by
  have := carryFix_eq (t - 1) 12 (by decide)
  unfold carryFix fQuotient modC at this
  unfold monthNorm modulo modC fQuotient3 fQuotient
  simp only [show (13 : Int) - 1 = 12 from rfl] at this ⊢
  split at this <;> rw [Prod.mk.injEq] at this
  · rw [if_pos (by omega)]; congr 1 <;> omega
  · rw [if_neg (by omega)]; congr 1 <;> omega

/-- what `normalize` works on: a validated value with an explicit time zone, hour 24 already rolled over -/
structure Zoned (d : DT) : Prop where
  utc : d.utc = UTC_POS ∨ d.utc = UTC_NEG
  month : 1 ≤ d.month ∧ d.month ≤ 12
  day : 1 ≤ d.day ∧ d.day ≤ maxDayInMonthFor d.year d.month
  hour : 0 ≤ d.hour ∧ d.hour ≤ 23
  minute : 0 ≤ d.minute ∧ d.minute ≤ 59
  tzh : 0 ≤ d.tzh ∧ d.tzh ≤ 14
  tzm : 0 ≤ d.tzm ∧ d.tzm ≤ 59

/-- the minutes `normalize` adds: minus the offset east of UTC (UTC = local − offset) -/
def shiftMin (d : DT) : Int := (if d.utc == UTC_POS then -1 else 1) * (d.tzh * 60 + d.tzm)

/-- `d` moved to day `day` of the month with index `k` -/
def atMonth (d : DT) (k day : Int) : DT := { d with year := k / 12, month := k % 12 + 1, day := day }

theorem dn_atMonth (d : DT) (k day : Int) : dn (atMonth d k day) = monthStart k + day := by
  rw [dn_idx _ (by simp only [atMonth]; omega)]
  simp only [atMonth]
  rw [show 12 * (k / 12) + (k % 12 + 1) - 1 = k by omega]

/-- what the loop adds on the way back: for January the code asks for month 0 of the same year and gets 31, December's
length in any year -/
theorem maxDay_before (k : Int) : maxDayInMonthFor (k / 12) (k % 12 + 1 - 1) = mlen (k - 1) := by
  by_cases h : k % 12 = 0
  · rw [h]; unfold mlen; rw [show ((k - 1) % 12).toNat + 1 = 12 by omega, (dbm_ends _).2.2]; rfl
  · rw [← maxDay_idx, show (k - 1) / 12 = k / 12 by omega, show (k - 1) % 12 + 1 = k % 12 + 1 - 1 by omega]

theorem dayLoop_succ (fuel : Nat) (d : DT) (k day : Int) :
    dayLoop (fuel + 1) (atMonth d k day) =
      if day < 1 then dayLoop fuel (atMonth d (k - 1) (day + mlen (k - 1)))
      else if mlen k < day then dayLoop fuel (atMonth d (k + 1) (day - mlen k))
      else atMonth d k day := by
  rw [dayLoop]
  unfold atMonth
  simp only [monthNorm_eq, maxDay_idx, maxDay_before, gt_iff_lt]
  rw [show (k % 12 + 1 + -1 - 1) % 12 + 1 = (k - 1) % 12 + 1 by omega,
    show k / 12 + (k % 12 + 1 + -1 - 1) / 12 = (k - 1) / 12 by omega,
    show (k % 12 + 1 + 1 - 1) % 12 + 1 = (k + 1) % 12 + 1 by omega,
    show k / 12 + (k % 12 + 1 + 1 - 1) / 12 = (k + 1) / 12 by omega]

/-- The loop moves a day that lies outside its month, on either side, to the date with the same day number, one month
per round; a month has at least 28 days, so `fuel` rounds cover 28·fuel days either way. -/
theorem dayLoop_spec (fuel : Nat) (d : DT) (k day : Int) (hlo : -28 * (fuel : Int) < day) (hhi : day ≤ 28 * fuel + mlen k) :
    ∃ k' day', (1 ≤ day' ∧ day' ≤ mlen k') ∧ dayLoop fuel (atMonth d k day) = atMonth d k' day' ∧
      monthStart k' + day' = monthStart k + day := by
  induction fuel generalizing k day with
  | zero => exact ⟨k, day, by omega, rfl, rfl⟩
  | succ fuel ih =>
    have := mlen_range (k - 1)
    have := mlen_range (k + 1)
    have := monthStart_succ k
    have := monthStart_succ (k - 1)
    rw [Int.sub_add_cancel] at this
    rw [dayLoop_succ]
    split
    · obtain ⟨k', day', h, e, hn⟩ := ih (k - 1) (day + mlen (k - 1)) (by omega) (by omega)
      exact ⟨k', day', h, e, by omega⟩
    · split
      · obtain ⟨k', day', h, e, hn⟩ := ih (k + 1) (day - mlen k) (by omega) (by omega)
        exact ⟨k', day', h, e, by omega⟩
      · exact ⟨k, day, by omega, rfl, rfl⟩

/-- What `normalize` and `addDuration` both do before the day loop (XMLDateTime.cpp:231, "some code could be shared between
normalize() and this method"): months carried into the year, minutes into the hour, hours into the day.  What each does
first (`normalize` adds the zone offset, `addDuration` adds the fields to the reference and carries the seconds) is put
into the fields of `x` by the caller. -/
def carry (x : DT) : DT :=
  let mc := monthNorm x.month
  let mi := carryFix x.minute 60
  let hr := carryFix (x.hour + mi.2) 24
  { x with year := x.year + mc.2, month := mc.1, minute := mi.1, hour := hr.1, day := x.day + hr.2 }

/-- the carry of months into the year does not show on the line of months: it is the division of the index by 12 -/
theorem carry_eq (x : DT) :
    carry x = atMonth { x with hour := (x.hour + x.minute / 60) % 24, minute := x.minute % 60 }
      (12 * x.year + x.month - 1) (x.day + (x.hour + x.minute / 60) / 24) := by
  unfold carry atMonth
  simp only [monthNorm_eq, carryFix_eq _ 60 (by decide), carryFix_eq _ 24 (by decide)]
  congr 1 <;> omega

theorem carry_day (x : DT) : (carry x).day = x.day + (x.hour + x.minute / 60) / 24 := by
  rw [carry_eq]; rfl

/-- on a validated value with a time zone: the offset, as signed hours and minutes (`zh`, `zm` are the model's
`negate * d.tzh`, `negate * d.tzm`), goes onto hour and minute; then the carries and four rounds of the loop -/
theorem normalize_zoned (d : DT) (h : Zoned d) :
    ∃ zh zm : Int, (-14 ≤ zh ∧ zh ≤ 14) ∧ (-59 ≤ zm ∧ zm ≤ 59) ∧ shiftMin d = zh * 60 + zm ∧
      normalize d = { dayLoop 4 (carry { d with minute := d.minute + zm, hour := d.hour + zh }) with utc := UTC_STD } := by
  have := h.tzh; have := h.tzm
  unfold normalize shiftMin
  rcases h.utc with hu | hu
  · exact ⟨-1 * d.tzh, -1 * d.tzm, by omega, by omega, by rw [hu, if_pos (by decide)]; omega,
      by simp [hu, UTC_POS, UTC_UNKNOWN, UTC_STD, carry]⟩
  · exact ⟨1 * d.tzh, 1 * d.tzm, by omega, by omega, by rw [hu, if_neg (by decide)]; omega,
      by simp [hu, UTC_POS, UTC_NEG, UTC_UNKNOWN, UTC_STD, carry]⟩

/-- The carries and the day loop bring ANY field values into normal range, at the instant the fields denote as they stand
(hours and minutes of any size and sign counted linearly, the month as an index on the line of months, whatever its size);
`fuel` months must cover the days there are after the carries. -/
theorem settle_spec (fuel : Nat) (x : DT) (hf : (carry x).day.natAbs < 28 * fuel) :
    ∃ (y m dd : Int), (1 ≤ m ∧ m ≤ 12) ∧ (1 ≤ dd ∧ dd ≤ maxDayInMonthFor y m) ∧
      dayLoop fuel (carry x) =
        { x with year := y, month := m, day := dd, hour := (x.hour + x.minute / 60) % 24, minute := x.minute % 60 } ∧
      instantDT (dayLoop fuel (carry x)) =
        (((monthStart (12 * x.year + x.month - 1) + x.day) * 24 + x.hour) * 60 + x.minute) * 60 + x.second := by
  rw [carry_day] at hf
  rw [carry_eq]
  obtain ⟨k, dd, hd, e, hn⟩ := dayLoop_spec fuel { x with hour := (x.hour + x.minute / 60) % 24, minute := x.minute % 60 }
    (12 * x.year + x.month - 1) (x.day + (x.hour + x.minute / 60) / 24) (by omega)
    (by have := mlen_range (12 * x.year + x.month - 1); omega)
  refine ⟨k / 12, k % 12 + 1, dd, by omega, by rw [maxDay_idx]; exact hd, e, ?_⟩
  rw [e, instantDT, dn_atMonth, hn]
  -- the instant is linear in day, hour and minute: what went up as a carry came off below
  simp only [atMonth]
  omega

end XV.Lemmas.DateTime
