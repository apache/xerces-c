/-
Lemmas for C16: from a store buffer with `Inv` (8-aligned, its size a multiple of 8) the engine's stream is the declarative
layout of `XV.Spec.SerStream`, whatever the block size.  `gap_flat` is the one fact about blocks.  `Lay put lay` says it of
one store operation, in the terms of `Wrote` of `XV.Lemmas.SerEngine`; operations compose (`Lay.seq`), and a value is a
sequence of words and raw bytes.  The loader plays no part.
-/
import XV.Lemmas.SerEngine
import XV.Spec.SerStream
namespace XV.Lemmas.SerLayout
open XV.Model.SerEngine XV.Gen.SerConsts XV.Lemmas.SerEngine XV.Spec.SerStream

structure Inv (s : SBuf) : Prop where
  base : s.base % 8 = 0
  size : s.bufSize % 8 = 0
  wf : WF s

theorem init_inv (base B : Nat) (hb : base % 8 = 0) (hB : B % 8 = 0) (hp : 0 < B) : Inv (SBuf.init base B) :=
  ⟨hb, hB, wf_init base B (by rw [minBuf_congr (b := 0) hb]; exact Nat.le_of_dvd hp (Nat.dvd_of_mod_eq_zero hB))⟩

theorem Inv.wrote {s s' : SBuf} {w : List Nat} (hi : Inv s) (h : Wrote s s' w) : Inv s' :=
  ⟨h.base ▸ hi.base, h.bufSize ▸ hi.size, h.wf⟩

theorem pad_dvd {d : PrimDesc} (hd : DescOK d) (h : d.chkAligned = true) (a : Nat) : d.adv ∣ a + padOf d a := by
  have hpos := adv_pos hd
  rw [padOf_eq hd, h, if_pos rfl, ← alignAdjust_eq a _ hpos]
  exact Nat.dvd_of_mod_eq_zero (alignAdjust_spec a _ hpos)

theorem aligned_gap {n B c p : Nat} (hB : n ∣ B) (hcp : n ∣ c + p) (hp : p < n) (hc : c ≤ B) (hfit : B < c + p + n) :
    B - c = p := by
  -- the difference of `B` and `c + p`, whichever way round, is a multiple of `n` below `n`
  have e : B = c + p := Nat.le_antisymm
    (Nat.le_of_sub_eq_zero (Nat.eq_zero_of_dvd_of_lt (Nat.dvd_sub hB hcp) (by omega)))
    (Nat.le_of_sub_eq_zero (Nat.eq_zero_of_dvd_of_lt (Nat.dvd_sub hcp hB) (by omega)))
  rw [e, Nat.add_sub_cancel_left]

/-- In an 8-aligned buffer whose size is a multiple of 8, a primitive that is aligned to its size (or one byte long)
is preceded by exactly the padding its position `o + c` in the stream calls for (`o`: the length of the blocks flushed so
far, a multiple of `B`; `c`: the cursor): when it does not fit into the block, the rest of the block is that padding. -/
theorem gap_flat {d : PrimDesc} (hd : DescOK d) (hf : d.align ≠ 0 ∨ d.adv = 1) {base B o c : Nat}
    (hb : base % 8 = 0) (hB : B % 8 = 0) (ho : o % B = 0) (hc : c ≤ B) :
    gap d base B c = padOf d (o + c) := by
  have ho8 : o % 8 = 0 := by rw [← Nat.mod_mod_of_dvd o (Nat.dvd_of_mod_eq_zero hB), ho]
  have h0 : padOf d 0 = 0 := by rw [padOf_eq hd, Nat.zero_mod, Nat.sub_zero, Nat.mod_self, ite_self]
  -- paddings depend on the address modulo 8 only: `base` counts as 0, `o + c` as `c`
  rw [gap_congr hd (b2 := 0) hb, pad_congr hd (b := c) (by omega), gap, Nat.zero_add, h0, Nat.add_zero]
  split
  · rfl
  · rename_i hfit
    rcases hd.al with ⟨ha, _⟩ | ⟨ha, ha0⟩
    · exact aligned_gap (Nat.dvd_trans (adv_dvd hd) (Nat.dvd_of_mod_eq_zero hB)) (pad_dvd hd ha c) (pad_lt hd c) hc
        (by rw [Nat.add_assoc]; exact Nat.lt_of_not_le hfit)
    · -- an unaligned single byte: it does not fit only when the block is full
      have hp : padOf d c = 0 := by rw [padOf_eq hd, ha]; rfl
      rw [hp, hf.resolve_left fun h => h ha0, Nat.zero_add] at hfit
      rw [hp]
      exact Nat.sub_eq_zero_of_le (Nat.le_of_lt_succ (Nat.lt_of_not_le hfit))

/-- From a buffer with `Inv`, `put` only appends (`Wrote`, which carries `Inv` on) and takes the stream to `lay` of it. -/
def Lay (put : SBuf → SBuf) (lay : List Nat → List Nat) : Prop :=
  ∀ s, Inv s → ∃ w, Wrote s (put s) w ∧ (put s).stream = lay s.stream

theorem Lay.seq {p1 p2 : SBuf → SBuf} {l1 l2 : List Nat → List Nat} (h1 : Lay p1 l1) (h2 : Lay p2 l2) :
    Lay (fun s => p2 (p1 s)) (fun st => l2 (l1 st)) := fun _ hi =>
  have ⟨_, hw1, e1⟩ := h1 _ hi
  have ⟨_, hw2, e2⟩ := h2 _ (hi.wrote hw1)
  ⟨_, hw1.trans hw2, e2.trans (congrArg l2 e1)⟩

theorem stream_prim {d : PrimDesc} (v : Nat) (hd : DescOK d) (hf : d.align ≠ 0 ∨ d.adv = 1) :
    Lay (fun s => s.putPrim d v) (fun st => layoutPrim st d v) := fun s hi => by
  have h := putPrim_wrote hi.wf hd v
  rw [gap_flat hd hf hi.base hi.size hi.wf.blocks hi.wf.fits, ← List.length_append] at h
  exact ⟨_, h, h.stream.trans (List.append_assoc ..).symm⟩

theorem stream_raw (bs : List Nat) : Lay (fun s => s.putRaw bs) (· ++ bs) := fun _ hi =>
  have h := putRaw_wrote hi.wf bs; ⟨_, h, h.stream⟩

theorem stream_ul (v : Nat) : Lay (fun s => s.putUL v) (fun st => layoutUL st v) :=
  stream_prim v (desc_tables .ulong).1 (.inl (by decide))

theorem stream_val : ∀ v : Val, flat v → Lay (fun s => s.putVal v) (fun st => layoutVal st v)
  | .prim t x, hf => stream_prim x (desc_tables t).1 hf
  | .raw bs, _ => stream_raw bs
  | .str none, _ | .strL none, _ | .bstr none, _ | .bstrL none, _ => stream_ul _
  | .str (some _), _ | .bstr (some _), _ => (stream_ul _).seq (stream_raw _)
  | .strL (some _), _ | .bstrL (some _), _ => ((stream_ul _).seq (stream_ul _)).seq (stream_raw _)

theorem stream_vals : ∀ vs : List Val, (∀ v ∈ vs, flat v) → Lay (fun s => s.putVals vs) (fun st => vs.foldl layoutVal st)
  | [], _ => fun _ hi => ⟨_, .refl hi.wf, rfl⟩
  | v :: vs, hf => (stream_val v (hf v (by simp))).seq (stream_vals vs fun x hx => hf x (by simp [hx]))

end XV.Lemmas.SerLayout
