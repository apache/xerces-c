/-
The lazy-initialisation protocol keeps `Inv`, for any number of threads and any schedule.  `Inv` is written flat, field
by field, because the property theorems project its fields; `inv_iff` regroups it as a global part (a raised flag means
the data is there and exactly one initialisation completed) and, for every thread, an assertion `Local` about the shared
cells at its control point, and the proofs work with that form.  A step of `t` establishes `t`'s next assertion
(`inv_upd`); the assertions of the other threads survive it by `Local.stable`.
-/
import XV.Model.LazyInit
namespace XV.Lemmas.LazyInit
open XV.Model.LazyInit

@[simp] theorem upd_same (f : Thread → PC) (t : Thread) (p : PC) : upd f t p t = p := by simp [upd]
theorem upd_other (f : Thread → PC) {t t' : Thread} (p : PC) (h : t' ≠ t) : upd f t p t' = f t' := by
  simp [upd, h]

def inCS : PC → Prop
  | .recheck | .build | .publish | .unlock => True
  | _ => False

structure Inv (val : Nat) (s : State) : Prop where
  flagT : s.flag = true → s.data = val ∧ s.inits = 1
  flagF : s.flag = false → s.inits = 0
  cs : ∀ t, inCS (s.pc t) → s.lock = some t
  holder : ∀ t, s.lock = some t → inCS (s.pc t)
  building : ∀ t, s.pc t = .build ∨ s.pc t = .publish → s.flag = false
  built : ∀ t, s.pc t = .publish → s.data = val
  unlocking : ∀ t, s.pc t = .unlock → s.flag = true
  atUse : ∀ t, s.pc t = .use → s.flag = true
  finished : ∀ t v, s.pc t = .done v → v = val ∧ s.flag = true

/-- what thread `t`, standing at `pc`, may rely on about the shared cells: the per-thread part of `Inv` -/
structure Local (val : Nat) (lock : Option Thread) (flag : Bool) (data : Nat) (t : Thread) (pc : PC) : Prop where
  cs : inCS pc ↔ lock = some t
  building : pc = .build ∨ pc = .publish → flag = false
  built : pc = .publish → data = val
  flagged : pc = .unlock ∨ pc = .use → flag = true
  finished : ∀ v, pc = .done v → v = val ∧ flag = true

theorem inv_iff (val : Nat) (s : State) :
    Inv val s ↔ (s.flag = true → s.data = val ∧ s.inits = 1) ∧ (s.flag = false → s.inits = 0) ∧
      ∀ t, Local val s.lock s.flag s.data t (s.pc t) :=
  ⟨fun h => ⟨h.flagT, h.flagF, fun t => ⟨⟨h.cs t, h.holder t⟩, h.building t, h.built t,
      fun hp => hp.elim (h.unlocking t) (h.atUse t), h.finished t⟩⟩,
    fun ⟨hT, hF, hL⟩ => ⟨hT, hF, fun t => (hL t).cs.1, fun t => (hL t).cs.2, fun t => (hL t).building, fun t => (hL t).built,
      fun t hp => (hL t).flagged (.inl hp), fun t hp => (hL t).flagged (.inr hp), fun t => (hL t).finished⟩⟩

theorem inv_init (val : Nat) (entry : Thread → Bool) : Inv val (init entry) := by
  refine (inv_iff _ _).2 ⟨fun h => (nomatch h), fun _ => rfl, fun t => ?_⟩
  show Local val none false 0 t (if entry t then .check else .lock)
  cases entry t <;> exact ⟨⟨nofun, nofun⟩, nofun, nofun, nofun, nofun⟩

theorem inv_upd {val : Nat} {s : State} (t : Thread) (p' : PC) (s' : State) (hpc : s'.pc = upd s.pc t p')
    (hT : s'.flag = true → s'.data = val ∧ s'.inits = 1) (hF : s'.flag = false → s'.inits = 0)
    (ht : Local val s'.lock s'.flag s'.data t p')
    (ho : ∀ t', t' ≠ t → Local val s'.lock s'.flag s'.data t' (s.pc t')) : Inv val s' := by
  refine (inv_iff _ _).2 ⟨hT, hF, fun t' => ?_⟩
  rw [hpc]
  by_cases h : t' = t
  · rw [h, upd_same]; exact ht
  · rw [upd_other _ _ h]; exact ho t' h

/-- The rely condition: a thread that does not hold the mutex relies only on not holding it and on a raised flag staying
up, so it is untouched by whatever another thread writes to the shared cells. -/
theorem Local.stable {val : Nat} {l l' : Option Thread} {f f' : Bool} {d d' : Nat} {t : Thread} {pc : PC}
    (h : Local val l f d t pc) (hl : l ≠ some t) (hl' : l' ≠ some t) (hf : f = true → f' = true) :
    Local val l' f' d' t pc :=
  have hn : ¬ inCS pc := fun hc => hl (h.cs.1 hc)
  ⟨⟨fun hc => absurd hc hn, fun e => absurd e hl'⟩, fun hp => absurd (by rcases hp with rfl | rfl <;> trivial) hn,
    fun hp => absurd (hp ▸ trivial) hn, fun hp => hf (h.flagged hp), fun v hv => ⟨(h.finished v hv).1, hf (h.finished v hv).2⟩⟩

theorem inv_step (val : Nat) (t : Thread) (s : State) (hi : Inv val s) : Inv val (step val t s) := by
  obtain ⟨hT, hF, hL⟩ := (inv_iff _ _).1 hi
  have hLt := hL t
  have hoth : s.lock = some t → ∀ t', t' ≠ t → s.lock ≠ some t' := fun hl t' hne e =>
    hne (Option.some.inj (e.symm.trans hl))
  unfold step stepV
  split <;> rename_i hpc <;> rw [hpc] at hLt
  · -- check
    split
    · exact inv_upd t .use _ rfl hT hF ⟨hLt.cs, nofun, nofun, fun _ => ‹s.flag = true›, nofun⟩ fun t' _ => hL t'
    · exact inv_upd t .lock _ rfl hT hF ⟨hLt.cs, nofun, nofun, nofun, nofun⟩ fun t' _ => hL t'
  · -- lock: taken only when it is free
    split
    · rename_i hfree
      have hnone : s.lock = none := hfree.resolve_right (by decide)
      exact inv_upd t .recheck _ rfl hT hF ⟨⟨fun _ => rfl, fun _ => trivial⟩, nofun, nofun, nofun, nofun⟩ fun t' hne =>
        (hL t').stable (hnone ▸ nofun) (fun e => hne (Option.some.inj e).symm) id
    · exact hi
  · -- recheck
    split
    · rename_i hc
      have hf : s.flag = true := by cases hs : s.flag <;> simp [hs] at hc ⊢
      exact inv_upd t .unlock _ rfl hT hF ⟨hLt.cs, nofun, nofun, fun _ => hf, nofun⟩ fun t' _ => hL t'
    · rename_i hc
      have hf : s.flag = false := by cases hs : s.flag <;> simp [hs, good] at hc ⊢
      exact inv_upd t .build _ rfl hT hF ⟨hLt.cs, fun _ => hf, nofun, nofun, nofun⟩ fun t' _ => hL t'
  · -- build: the data is written, the flag is still down
    have hl : s.lock = some t := hLt.cs.1 trivial
    have hf : s.flag = false := hLt.building (.inl rfl)
    rw [if_neg (by decide)]
    exact inv_upd t .publish _ rfl (fun h => by rw [hf] at h; cases h) hF ⟨hLt.cs, fun _ => hf, fun _ => rfl, nofun, nofun⟩
      fun t' hne => (hL t').stable (hoth hl t' hne) (hoth hl t' hne) id
  · -- publish: the flag goes up, once
    have hl : s.lock = some t := hLt.cs.1 trivial
    have hf : s.flag = false := hLt.building (.inr rfl)
    rw [if_neg (by decide)]
    exact inv_upd t .unlock _ rfl (fun _ => ⟨hLt.built rfl, by show s.inits + 1 = 1; rw [hF hf]⟩) nofun
      ⟨hLt.cs, nofun, nofun, fun _ => rfl, nofun⟩ fun t' hne => (hL t').stable (hoth hl t' hne) (hoth hl t' hne) fun _ => rfl
  · -- unlock
    have hl : s.lock = some t := hLt.cs.1 trivial
    exact inv_upd t .use _ rfl hT hF ⟨⟨nofun, nofun⟩, nofun, nofun, fun _ => hLt.flagged (.inl rfl), nofun⟩ fun t' hne =>
      (hL t').stable (hoth hl t' hne) nofun id
  · -- use
    have hf : s.flag = true := hLt.flagged (.inr rfl)
    exact inv_upd t (.done s.data) _ rfl hT hF ⟨hLt.cs, nofun, nofun, nofun, fun v hv => by cases hv; exact ⟨(hT hf).1, hf⟩⟩
      fun t' _ => hL t'
  · exact hi

theorem inv_run (val : Nat) (sched : List Thread) (s : State) (hi : Inv val s) : Inv val (run val sched s) :=
  List.foldlRecOn sched _ hi fun s hs t _ => inv_step val t s hs

def Enabled (val : Nat) (t : Thread) (s : State) : Prop := (step val t s).pc t ≠ s.pc t

theorem enabled_of_not_blocked (val : Nat) (t : Thread) (s : State)
    (h1 : ∀ v, s.pc t ≠ .done v) (h2 : s.pc t = .lock → s.lock = none) : Enabled val t s := by
  unfold Enabled step stepV
  cases hpc : s.pc t with
  | check => by_cases hf : s.flag = true <;> simp [hf]
  | lock => simp [h2 hpc]
  | recheck => by_cases hf : s.flag = true <;> simp [hf, good]
  | build => simp [good]
  | publish => simp [good]
  | unlock => simp
  | use => simp
  | done v => exact absurd hpc (h1 v)

end XV.Lemmas.LazyInit
