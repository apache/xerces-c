/-
C08 — three rule checks of the schema validator against the Spec.  Wildcards: the code tests URI ids (`uriId`, the
empty namespace has id 1), the Spec namespaces.  Attributes: the two loops of `buildAttList` over the definitions
`attDefOf` makes of the attribute uses, against `attrOk`; names of uses are distinct, so an attribute meets no use, a
use that counts, or a prohibited one (`provided_ok_iff`).  Substitution groups: the walks of `isEquivalentTo` equal
the Spec's executable walks (`findHead_eq`, `typeWalk_eq`), and those decide the relations `AffilChain` / `DerivedVia`
under a rank that rules out cycles.  Core Lean only.
-/
import XV.Spec.Particle
import XV.Model.Particle
namespace XV.Lemmas.ParticleRules
open XV.Spec.Particle XV.Model.Particle

theorem allows_iff (c : NsConstraint) (n : Nat) : c.allows n = true ↔ c.Allows n := by
  cases c <;> simp [NsConstraint.allows, NsConstraint.Allows]

theorem uriId_beq (a b : Nat) : (uriId a == uriId b) = (a == b) := by
  simp [uriId]

theorem uriId_bne (a b : Nat) : (uriId a != uriId b) = (a != b) := by
  simp [bne, uriId_beq]

theorem any_uriId_beq (l : List Nat) (n : Nat) : l.any (fun m => uriId m == uriId n) = l.contains n := by
  rw [List.contains_eq_any_beq]
  exact List.any_congr rfl fun m => (uriId_beq m n).trans BEq.comm

-- in both proofs the empty-namespace id is read as the id of the absent namespace, so that every test is a
-- test between `uriId`s
theorem wildAccepts_eq (c : NsConstraint) (x : QName) : wildAccepts c x = c.allows x.ns := by
  cases c with
  | any => rfl
  | other t =>
    simp only [wildAccepts, wildLeaves, leafAccepts, NsConstraint.allows, List.any_cons, List.any_nil,
      Bool.or_false, show emptyNsId = uriId absentNs from rfl, uriId_bne]
  | list l =>
    simp only [wildAccepts, wildLeaves, NsConstraint.allows, List.any_map, Function.comp_def, leafAccepts]
    exact any_uriId_beq l x.ns

theorem attWildAccepts_eq (c : NsConstraint) (x : QName) : attWildAccepts c x = c.allows x.ns := by
  cases c with
  | any => rfl
  | other t =>
    simp only [attWildAccepts, attWildOf, anyAttributeValidation, NsConstraint.allows,
      show emptyNsId = uriId absentNs from rfl, uriId_bne]
    rw [Bool.and_comm, bne_comm (a := t)]
  | list l =>
    simp only [attWildAccepts, attWildOf, anyAttributeValidation, NsConstraint.allows, List.any_map, Function.comp_def]
    exact any_uriId_beq l x.ns

theorem find?_key {α κ : Type} [DecidableEq κ] (key : α → κ) (p : α → Bool) {l : List α} (hnd : (l.map key).Nodup)
    {u : α} (hu : u ∈ l) : l.find? (fun v => p v && key v == key u) = if p u then some u else none := by
  induction l with
  | nil => cases hu
  | cons v vs ih =>
    rw [List.map_cons, List.nodup_cons] at hnd
    rw [List.find?_cons]
    rcases List.mem_cons.1 hu with rfl | hu
    · cases hp : p u
      · simp only [Bool.false_and, Bool.false_eq_true, if_false]
        exact List.find?_eq_none.2 fun w hw h => hnd.1 (eq_of_beq ((Bool.and_eq_true _ _).mp h).2 ▸ List.mem_map_of_mem hw)
      · simp
    · have hne : key v ≠ key u := fun e => hnd.1 (e ▸ List.mem_map_of_mem hu)
      simp only [beq_eq_false_iff_ne.2 hne, Bool.and_false]
      exact ih hnd.2 hu

theorem find_of_mem_nodup (uses : List AttrUse) (hnd : (uses.map (·.name)).Nodup) (u : AttrUse) (hu : u ∈ uses) :
    uses.find? (fun v => v.name == u.name) = some u := by
  simpa using find?_key (·.name) (fun _ => true) hnd hu

theorem forall_named (uses : List AttrUse) (hnd : (uses.map (·.name)).Nodup) (q : QName) (P : AttrUse → Prop) :
    (∀ u, u ∈ uses → u.name = q → P u) ↔ ∀ u, uses.find? (fun u => u.name == q) = some u → P u :=
  ⟨fun h u hu => h u (List.mem_of_find?_eq_some hu) (by simpa using List.find?_some hu),
   fun h u hu e => h u (e ▸ find_of_mem_nodup uses hnd u hu)⟩

theorem findUse_of_find (uses : List AttrUse) (hnd : (uses.map (·.name)).Nodup) (q : QName) :
    findUse uses q =
      match uses.find? (fun u => u.name == q) with
      | some u => if u.use = .prohibited then none else some u
      | none => none := by
  unfold findUse effectiveUses
  simp only [List.find?_filter, Bool.decide_and, Bool.decide_eq_true]
  cases hf : uses.find? (fun u => u.name == q) with
  | none =>
    exact List.find?_eq_none.2 fun v hv h => List.find?_eq_none.1 hf v hv ((Bool.and_eq_true _ _).mp h).2
  | some u =>
    obtain rfl : u.name = q := by simpa using List.find?_some hf
    rw [find?_key (·.name) _ hnd (List.mem_of_find?_eq_some hf)]
    simp

theorem attDefOf_name (u : AttrUse) : (attDefOf u).name = u.name := by
  unfold attDefOf
  split <;> rfl

theorem attDefOf_prohibited (u : AttrUse) : (attDefOf u).defType = .Prohibited ↔ u.use = .prohibited := by
  cases hu : u.use <;> cases hv : u.vc <;> simp [attDefOf, hu, hv]

theorem attDefOf_required (u : AttrUse) :
    ((attDefOf u).defType = .Required ∨ (attDefOf u).defType = .Required_And_Fixed) ↔ u.use = .required := by
  cases hu : u.use <;> cases hv : u.vc <;> simp [attDefOf, hu, hv]

theorem isFixed_attDefOf (u : AttrUse) (v : Nat) :
    (isFixed (attDefOf u) && (attDefOf u).value != some v) = (u.use != .prohibited && !vcOk u.vc v) := by
  cases hu : u.use <;> cases hv : u.vc <;> simp [attDefOf, isFixed, vcOk, hu, hv, bne, BEq.comm]

theorem getAttDef_map (uses : List AttrUse) (q : QName) :
    getAttDef (uses.map attDefOf) q = (uses.find? (fun u => u.name == q)).map attDefOf := by
  unfold getAttDef
  rw [List.find?_map]
  simp only [Function.comp_def, attDefOf_name]

theorem lookupAttDef_map (uses : List AttrUse) (wc : Option AttrWildcard) (q : QName) :
    lookupAttDef (uses.map attDefOf) wc q =
      match uses.find? (fun u => u.name == q) with
      | some u => if u.use = .prohibited ∧ wildcardAdmits wc q = true then none else some (attDefOf u)
      | none => none := by
  unfold lookupAttDef
  rw [getAttDef_map]
  cases uses.find? (fun u => u.name == q) with
  | none => rfl
  | some u =>
    simp only [Option.map_some, Bool.and_eq_true, decide_eq_true_eq, attDefOf_prohibited]

/-- an attribute without applicable definition / use: the wildcard branch of `provided` agrees with the wildcard
    clause (3.2) of `attrOk` -/
theorem provided_wild {defs : List AttDef} {uses : List AttrUse} {wc : Option AttrWildcard} {a : Attr}
    (globals : List AttrDecl) (hd : lookupAttDef defs wc a.1 = none) (hu : findUse uses a.1 = none) :
    provided defs wc globals a = [] ↔ attrOk uses wc globals a = true := by
  unfold provided attrOk
  rw [hd, hu]
  cases wc with
  | none => simp
  | some w =>
    cases hal : w.c.allows a.1.ns
    · simp [hal]
    · cases hpc : w.pc <;> cases findAttrDecl globals a.1 with
      | none => simp [hal, hpc]
      | some g => cases hvc : g.vc <;> simp [vcOk, hvc, hal, hpc, eq_comm (a := a.2)]

/-- one provided attribute, both loops: the first reports nothing and the second does not find it prohibited (a
    prohibited definition that the wildcard admits counts as absent) exactly when the attribute is valid -/
theorem provided_ok_iff (uses : List AttrUse) (hnd : (uses.map (·.name)).Nodup) (wc : Option AttrWildcard)
    (globals : List AttrDecl) (a : Attr) :
    (provided (uses.map attDefOf) wc globals a = [] ∧
      ∀ u, u ∈ uses → u.name = a.1 → u.use = .prohibited → wildcardAdmits wc a.1 = true) ↔
      attrOk uses wc globals a = true := by
  rw [forall_named uses hnd]
  have hl := lookupAttDef_map uses wc a.1
  have hf := findUse_of_find uses hnd a.1
  cases hfind : uses.find? (fun u => u.name == a.1) with
  | none =>
    rw [hfind] at hl hf
    simpa using provided_wild globals hl hf
  | some u =>
    rw [hfind] at hl hf
    have hfx := isFixed_attDefOf u a.2
    by_cases hp : u.use = .prohibited
    · cases had : wildcardAdmits wc a.1
      · -- prohibited and not admitted: the first loop is silent, the second reports it; for the Spec the use does
        -- not count and no wildcard allows the name
        have : attrOk uses wc globals a = false := by
          unfold attrOk
          rw [hf]
          cases wc with
          | none => simp [hp]
          | some w => simp [hp, show w.c.allows a.1.ns = false from had]
        simp [hp, this]
      · -- prohibited but admitted by the wildcard: validated through the wildcard
        simp only [hp, had, and_self, if_true] at hl hf
        simpa [hp] using provided_wild globals hl hf
    · simp only [hp, false_and, if_false] at hl hf
      simp only [bne_iff_ne.2 hp, Bool.true_and] at hfx
      simp [provided, attrOk, hl, hf, hfx, hp]

theorem declared_nil_iff (uses : List AttrUse) (wc : Option AttrWildcard) (attrs : List Attr) :
    declared (uses.map attDefOf) wc attrs = [] ↔
      ∀ u, u ∈ uses →
        (u.use = .required → ∃ a, a ∈ attrs ∧ a.1 = u.name) ∧
        (u.use = .prohibited → (∃ a, a ∈ attrs ∧ a.1 = u.name) → wildcardAdmits wc u.name = true) := by
  unfold declared
  simp only [List.filterMap_eq_nil_iff, List.forall_mem_map, attDefOf_name, attDefOf_prohibited, attDefOf_required]
  refine forall_congr' fun u => imp_congr_right fun _ => ?_
  rw [show (∃ a, a ∈ attrs ∧ a.1 = u.name) ↔ attrs.any (fun a => a.1 == u.name) = true by simp]
  cases attrs.any (fun a => a.1 == u.name) <;> cases wildcardAdmits wc u.name <;> cases u.use <;> simp

theorem findElem_name {E : SubstEnv} {q : QName} {d : ElemDecl} (h : E.findElem q = some d) : d.name = q := by
  simpa using List.find?_some h

theorem findElem_mem {E : SubstEnv} {q : QName} {d : ElemDecl} (h : E.findElem q = some d) : d ∈ E.elems :=
  List.mem_of_find?_eq_some h

theorem affilChain_sound (E : SubstEnv) (fuel : Nat) (d : ElemDecl) (c : QName) (h : affilChain E fuel d c = true) :
    AffilChain E d c := by
  fun_induction affilChain E fuel d c
  case case3 hq hs ih =>
    rcases Bool.or_eq_true_iff.1 h with h | h
    · exact .step (hs.trans (congrArg some (eq_of_beq h)))
    · split at h
      · cases h
      · next hd hf => exact .trans hs hf (ih hd h)
  all_goals cases h

theorem affilChain_complete (E : SubstEnv) (rank : QName → Nat)
    (hrank : ∀ d, d ∈ E.elems → ∀ hq h, d.subst = some hq → E.findElem hq = some h → rank h.name < rank d.name)
    (d : ElemDecl) (c : QName) (h : AffilChain E d c) :
    d ∈ E.elems → ∀ fuel, rank d.name < fuel → affilChain E fuel d c = true := by
  induction h with
  | @step d c hs =>
    intro _ fuel hf
    obtain ⟨fuel, rfl⟩ : ∃ k, fuel = k + 1 := ⟨fuel - 1, by omega⟩
    simp [affilChain, hs]
  | @trans d hd hq c hs hfind _ ih =>
    intro hmem fuel hf
    obtain ⟨fuel, rfl⟩ : ∃ k, fuel = k + 1 := ⟨fuel - 1, by omega⟩
    have hr := hrank d hmem hq hd hs hfind
    simp [affilChain, hs, hfind, ih (findElem_mem hfind) fuel (by omega)]

theorem derivedVia_self (E : SubstEnv) (fuel t : Nat) : derivedVia E fuel t t = some ([], {}) := by
  cases fuel <;> simp [derivedVia]

theorem derivedVia_step (E : SubstEnv) (fuel : Nat) {t b m : Nat} {td md : TypeDef} (hne : t ≠ b)
    (ht : E.findType t = some td) (hb : td.base = some m) (hm : E.findType m = some md) :
    derivedVia E (fuel + 1) t b =
      (derivedVia E fuel m b).map fun r => (td.derivedBy :: r.1, md.block.union r.2) := by
  rw [derivedVia, if_neg hne, ht]
  simp only [hb, hm]
  cases derivedVia E fuel m b <;> rfl

theorem derivedVia_sound (E : SubstEnv) (fuel t b : Nat) (ms : List Deriv) (bs : BlockSet)
    (h : derivedVia E fuel t b = some (ms, bs)) : DerivedVia E t b ms bs := by
  fun_induction derivedVia E fuel t b generalizing ms bs <;> cases h
  case case1 | case3 => exact .refl _
  case case8 hft _ hb _ hfm _ _ hr ih => exact .step hft hb hfm (ih _ _ hr)

/-- `hrank`: no circular type definitions.  The walk is deterministic, so it returns the methods and blocks of the
    given derivation.  The fuel has to exceed the rank of `t` only if `t` is defined: an undefined `t` has no
    derivation but `refl`, which needs no fuel, and `substitutable_complete` knows the ranks of defined types only -/
theorem derivedVia_complete (E : SubstEnv) (rank : Nat → Nat)
    (hrank : ∀ t td m, E.findType t = some td → td.base = some m → rank m < rank t)
    (t b : Nat) (ms : List Deriv) (bs : BlockSet) (h : DerivedVia E t b ms bs) :
    ∀ fuel, (∀ td, E.findType t = some td → rank t < fuel) → derivedVia E fuel t b = some (ms, bs) := by
  have hle : ∀ {x y ms bs}, DerivedVia E x y ms bs → rank y ≤ rank x := by
    intro x y ms bs hd
    induction hd with
    | refl => exact Nat.le_refl _
    | step h1 h2 _ _ ih => exact Nat.le_trans ih (Nat.le_of_lt (hrank _ _ _ h1 h2))
  induction h with
  | refl t => intro fuel _; exact derivedVia_self E fuel t
  | @step t m b td ms bs md hft hb hfm hd ih =>
    intro fuel hf
    have hr := hrank t td m hft hb
    obtain ⟨fuel, rfl⟩ : ∃ k, fuel = k + 1 := ⟨fuel - 1, by have := hf td hft; omega⟩
    -- `t ≠ b`: the chain from `m` down to `b` cannot climb back to the rank of `t`
    have hne : t ≠ b := fun e => by have := hle (e ▸ hd); omega
    rw [derivedVia_step E fuel hne hft hb hfm, ih fuel (fun _ _ => by have := hf td hft; omega)]
    rfl

theorem findType_name {E : SubstEnv} {t : Nat} {td : TypeDef} (h : E.findType t = some td) : td.name = t := by
  simpa using List.find?_some h

theorem substitutable_sound (E : SubstEnv) (dq cq : QName) (h : substitutable E dq cq = true) :
    Substitutable E dq cq := by
  unfold substitutable at h
  split at h
  · next d c hd hc =>
    rw [Bool.and_eq_true, Bool.and_eq_true, Bool.not_eq_true'] at h
    obtain ⟨⟨hb, hch⟩, hdv⟩ := h
    split at hdv
    · cases hdv
    · next ms bs hr =>
      exact ⟨d, c, hd, hc, hb, affilChain_sound E _ d cq hch, ms, bs, derivedVia_sound E _ _ _ ms bs hr,
        fun m hm => by simpa using List.all_eq_true.1 hdv m hm⟩
  · cases h

/-- the converse needs schemas without circular substitution groups / type definitions: ranks that decrease along
    the links and stay below the number of declarations, which is the fuel of the two walks -/
theorem substitutable_complete (E : SubstEnv) (erank : QName → Nat) (trank : Nat → Nat)
    (he : ∀ d, d ∈ E.elems → erank d.name < E.elems.length ∧
      ∀ hq h, d.subst = some hq → E.findElem hq = some h → erank h.name < erank d.name)
    (ht : ∀ td, td ∈ E.types → trank td.name < E.types.length ∧ ∀ m, td.base = some m → trank m < trank td.name)
    (dq cq : QName) (h : Substitutable E dq cq) : substitutable E dq cq = true := by
  have ht' : ∀ t td, E.findType t = some td → trank t < E.types.length ∧ ∀ m, td.base = some m → trank m < trank t :=
    fun t td h => findType_name h ▸ ht td (List.mem_of_find?_eq_some h)
  obtain ⟨d, c, hd, hc, hb, hch, ms, bs, hdv, hall⟩ := h
  have hmem := findElem_mem hd
  simp only [substitutable, hd, hc, hb,
    affilChain_complete E erank (fun d hd => (he d hd).2) d cq hch hmem _ (he d hmem).1,
    derivedVia_complete E trank (fun t td m h => (ht' t td h).2 m) _ _ ms bs hdv _ fun td h => (ht' _ td h).1]
  exact List.all_eq_true.2 fun m hm => by simpa using hall m hm

theorem findHead_eq (E : SubstEnv) (c : QName) (fuel : Nat) (d : ElemDecl) :
    findHead E fuel d.subst c = if affilChain E fuel d c = true then E.findElem c else none := by
  fun_induction affilChain E fuel d c
  case case3 fuel d c hq hs ih =>
    -- the Spec compares the head's name before the lookup, the code the name of the declaration found
    rw [hs, findHead]
    by_cases e : hq = c
    · subst e
      cases hf : E.findElem hq with
      | none => simp
      | some h => simp [findElem_name hf]
    · cases hf : E.findElem hq with
      | none => simp [e]
      | some h => simp [findElem_name hf, e, ih]
  all_goals simp [findHead, *]

theorem union_empty (a : BlockSet) : a.union {} = a := by
  simp [BlockSet.union]

theorem union_assoc (a b c : BlockSet) : (a.union b).union c = a.union (b.union c) := by
  simp [BlockSet.union, Bool.or_assoc]

theorem typeWalk_eq (E : SubstEnv) (ex : Nat) (fuel : Nat) (t : Nat) (dev : List Deriv) (blk : BlockSet) :
    typeWalk E fuel t ex dev blk = (derivedVia E fuel t ex).map fun r => (r.1.reverse ++ dev, blk.union r.2) := by
  fun_induction typeWalk E fuel t ex dev blk
  case case7 e _ hft _ hb _ hfb ih =>
    rw [ih, derivedVia_step E _ e hft hb hfb, Option.map_map]
    exact congrArg (Option.map · _) (funext fun r => by simp [union_assoc])
  all_goals simp [derivedVia, union_empty, *]

theorem isEquivalentTo_eq (E : SubstEnv) (dq cq : QName) :
    isEquivalentTo E dq cq = (decide (dq = cq) || substitutable E dq cq) := by
  unfold isEquivalentTo substitutable
  by_cases e : dq = cq
  · simp [e]
  · simp only [e, if_false, decide_false, Bool.false_or]
    cases E.findElem dq with
    | none => rfl
    | some d =>
      simp only [findHead_eq]
      cases E.findElem cq with
      | none => simp
      | some c =>
        cases haf : affilChain E E.elems.length d cq
        · simp [haf]
        · cases hsub : c.block.substitution
          · cases hdv : derivedVia E E.types.length d.type c.type <;> simp [haf, hsub, typeWalk_eq, hdv]
          · simp [hsub]

end XV.Lemmas.ParticleRules
