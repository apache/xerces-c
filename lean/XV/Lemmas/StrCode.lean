/-
Strings as numerals, for facts about tables of strings that the kernel decides by evaluation.
`String.decEq` compares two strings byte by byte through `UInt8`, `BitVec`, `Fin`; `Nat.decEq` on two numerals is one
call of the kernel's bignum arithmetic.  `code` is injective, so `simp only [eq_iff_code]` turns every equation between
strings in a statement into one between numerals before `decide +kernel` evaluates it; the value of `code` on one
field of one row is computed once and then looked up.  (Turning a literal into its bytes remains, and is the greater
part of what such an evaluation costs: core's `List.toByteArray` appends byte by byte with `List.concat`.)
-/
namespace XV.Lemmas.StrCode

/-- the numeral whose base-256 digits are the bytes, lowest first, under a leading 1 -/
def codeBytes : List UInt8 → Nat
  | [] => 1
  | b :: bs => codeBytes bs * 256 + b.toNat

theorem codeBytes_pos : ∀ l, 0 < codeBytes l
  | [] => Nat.one_pos
  | _ :: bs => Nat.lt_of_lt_of_le (Nat.mul_pos (codeBytes_pos bs) (by decide)) (Nat.le_add_right _ _)

theorem codeBytes_inj : ∀ {l₁ l₂ : List UInt8}, codeBytes l₁ = codeBytes l₂ → l₁ = l₂
  | [], [], _ => rfl
  | [], _ :: bs, h => by have := codeBytes_pos bs; simp only [codeBytes] at h; omega
  | _ :: bs, [], h => by have := codeBytes_pos bs; simp only [codeBytes] at h; omega
  | b :: bs, c :: cs, h => by
    have hb := b.toNat_lt
    have hc := c.toNat_lt
    simp only [codeBytes] at h
    rw [codeBytes_inj (l₁ := bs) (l₂ := cs) (by omega), UInt8.toNat_inj.1 (by omega : b.toNat = c.toNat)]

def code (s : String) : Nat := codeBytes s.toByteArray.data.toList

theorem eq_iff_code {a b : String} : a = b ↔ code a = code b :=
  ⟨congrArg code, fun h => String.toByteArray_inj.1 (ByteArray.ext (Array.ext' (codeBytes_inj h)))⟩

theorem beq_eq_code (a b : String) : (a == b) = (code a == code b) := by
  rw [Bool.eq_iff_iff, beq_iff_eq, beq_iff_eq, eq_iff_code]

end XV.Lemmas.StrCode
