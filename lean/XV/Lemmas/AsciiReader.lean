/-
The US-ASCII loop of the reader model (`XV.Model.Reader.asciiLoop`, C04) computes what `asciiFrom.go` computes, so that
C04's reader and C05's transcoder speak of one function.
-/
import XV.Model.ByteCodec
import XV.Model.Reader
namespace XV.Lemmas.AsciiReader
open XV.Model.ByteCodec

/-- the C04 reader model's rendering of a transcoder result in the C05 codec vocabulary -/
def ofReader : XV.Model.Utf8.Res → CRes
  | .ok c s e => .ok c s e
  | .exc e => .exc e.name

theorem go_eq_asciiLoop : ∀ (l : List Nat) (room : Nat) (acc : List Nat),
    asciiFrom.go (l.take room) acc =
      match XV.Model.Reader.asciiLoop l room acc.length with
      | none => .exc "Trans_Unrepresentable"
      | some cs => .ok (acc ++ cs) (List.replicate (acc ++ cs).length 1) (acc ++ cs).length := by
  intro l
  induction l with
  | nil => intro room acc; simp [XV.Model.Reader.asciiLoop, asciiFrom.go]
  | cons b t ih =>
    intro room acc
    cases room with
    | zero => simp [XV.Model.Reader.asciiLoop, asciiFrom.go]
    | succ k =>
      rw [List.take_succ_cons]
      unfold XV.Model.Reader.asciiLoop
      by_cases hb : b < 0x80
      · simp only [asciiFrom.go, hb, if_true, Nat.succ_ne_zero, if_false, Nat.add_sub_cancel]
        have := ih k (acc ++ [b])
        rw [List.length_append, List.length_singleton] at this
        rw [this]
        cases XV.Model.Reader.asciiLoop t k (acc.length + 1) <;> simp
      · simp only [asciiFrom.go, hb, if_false, Nat.succ_ne_zero]
        by_cases h32 : acc.length > 32 <;> simp [h32]

end XV.Lemmas.AsciiReader
