/- For C12, level 2 (XV.Model.Serializer).  What the serializer checks: the generated gXMLCharMask tables are the Char
productions, so `ensureValidString` accepts exactly the legal strings of XML 1.0.  What it writes as markup: text that the
transcoder takes as it stands (`NameOK`) comes out of `rawF` and `rawCR` unchanged. -/
import XV.Lemmas.FormatterInst
import XV.Model.Serializer
namespace XV.Lemmas.Serializer
open XV.Model.Formatter XV.Model.Cdata XV.Model.Serializer XV.Gen.Escapes
open XV.Spec.Escaping
open XV.Spec.Unescape (legalUnits isChar10 isChar11 isRestricted11 refOK highSurr lowSurr parseText parseAttr)
open XV.Lemmas.Formatter

open XV.Lemmas.RangeExp RExp in
/-- the generated gXMLCharMask ranges of XMLChar.cpp are the Char production of XML 1.0, and for 1.1 the Char
production minus RestrictedChar (16-bit units) -/
theorem xmlchar_table_spec (c : Nat) :
    isXMLChar false c = (isChar10 c && decide (c < 65536)) ∧
    isXMLChar true c = (isChar11 c && !isRestricted11 c && decide (c < 65536)) :=
  ⟨eq_of_always (a := ofRanges xmlChar10) (b := and char10E (lt 65536)) (by decide +kernel) c,
   eq_of_always (a := ofRanges xmlChar11) (b := and (and char11E (not restricted11E)) (lt 65536)) (by decide +kernel) c⟩

open XV.Lemmas.RangeExp RExp in
/-- an XML 1.0 XMLChar is no surrogate, so `ensureValidString` looks for a pair exactly where `legalUnits` does -/
theorem isXMLChar10_eq (c : Nat) :
    isXMLChar false c = (!highSurr c && !lowSurr c && decide (c < 0x10000) && refOK false c) :=
  eq_of_always (a := ofRanges xmlChar10)
    (b := and (and (and (not (rng 0xD800 0xDBFF)) (not (rng 0xDC00 0xDFFF))) (lt 0x10000)) char10E) (by decide +kernel) c

theorem isXMLChar_surr (v11 : Bool) (u : Nat) (h : 0xD800 ≤ u ∧ u ≤ 0xDFFF) : isXMLChar v11 u = false := by
  cases v11
  · rw [(xmlchar_table_spec u).1, isChar10]; simp; omega
  · rw [(xmlchar_table_spec u).2, isChar11]; simp; omega

theorem ensureValid_cons (v11 : Bool) (c : Nat) (t : List Nat) (h : isXMLChar v11 c = true) :
    ensureValidString v11 (c :: t) = ensureValidString v11 t := by
  cases t <;> simp [ensureValidString, h]

theorem ensureValid_eq_legal (s : List Nat) : ensureValidString false s = legalUnits false s := by
  fun_induction legalUnits false s with
  | case1 => rfl
  | case2 c => exact isXMLChar10_eq c
  | case3 c n t hh ih =>
    have hx : isXMLChar false c = false := by rw [isXMLChar10_eq, hh]; rfl
    simp only [ensureValidString, hx, Bool.false_eq_true, if_false, show isHigh c = true from hh, if_true, ih]; rfl
  | case4 c n t hh ih =>
    have hh' : highSurr c = false := by simpa using hh
    simp only [ensureValidString, isXMLChar10_eq, ih, show isHigh c = false from hh', hh', Bool.not_false, Bool.true_and,
      Bool.false_eq_true, if_false]
    cases (!lowSurr c && decide (c < 65536) && refOK false c) <;> rfl

/-- a name (or other markup text) the transcoder takes as it stands -/
def NameOK (cd : Coder) (n : List Nat) : Prop := (∀ u ∈ n, cd.ok u) ∧ (cd.pairs = true → wfUnits n = true)

theorem rawF_ok (e : Env) (us : List Nat) (h : NameOK e.cd us) : rawF e us = .ok us := by
  unfold rawF formatBuf
  simp only [show (UnRepFlags.UnRep_Fail = UnRepFlags.UnRep_CharRef) = False from by simp, if_false, formatPlain, if_true]
  exact handle_ok e.cd _ us h.1 h.2

theorem escUnits_all (cd : Coder) (cfg : Cfg) (esc : EscapeFlags) : ∀ (s : List Nat), (∀ u ∈ s, cd.rep u = true) →
    escUnits cd cfg esc s = escPlain cfg esc s
  | [], _ => rfl
  | c :: t, h => by
    rw [escUnits_rep_cons cd cfg esc c t (h c (.head _)), escUnits_all cd cfg esc t fun u hu => h u (.tail _ hu)]; rfl

theorem formatBuf_nameOK (cd : Coder) (hg : Good cd) (cfg : Cfg) (esc : EscapeFlags) (us : List Nat) (hu : ∀ u ∈ us, u < 65536)
    (h : NameOK cd us) : formatBuf cd cfg esc .UnRep_CharRef us = .ok (escPlain cfg esc us) := by
  rw [formatBuf_charRef_eq cd hg cfg esc us hu (fun u hm _ => (h.1 u hm).2) h.2, escUnits_all cd cfg esc us fun u hm => (h.1 u hm).1]

theorem rawCR_ok (e : Env) (hg : Good e.cd) (us : List Nat) (hu : ∀ u ∈ us, u < 65536) (h : NameOK e.cd us) :
    rawCR e us = .ok us := by
  rw [rawCR, formatBuf_nameOK e.cd hg e.cfg _ us hu h]
  simp [escPlain, escd]

theorem ascii_nameOK (cd : Coder) (hg : Good cd) (us : List Nat) (h : ∀ c ∈ us, 32 ≤ c ∧ c < 127) : NameOK cd us :=
  hg.takes_ascii h

theorem nameOK_append (cd : Coder) (a b : List Nat) (ha : NameOK cd a) (hb : NameOK cd b) : NameOK cd (a ++ b) :=
  ⟨List.forall_mem_append.2 ⟨ha.1, hb.1⟩, fun hp => wf_append a b (ha.2 hp) (hb.2 hp)⟩

def asciiU (x : Nat) : Prop := 32 ≤ x ∧ x < 127

-- `cd` is not needed: the bounds do not speak of the coder
set_option linter.unusedVariables false in
theorem nameOK_lt (cd : Coder) (l : List Nat) (h : ∀ u ∈ l, u < 65536) (x : Nat) (hx : asciiU x) :
    (∀ u ∈ x :: l, u < 65536) ∧ (∀ u ∈ l ++ [x], u < 65536) :=
  have hx' : x < 65536 := Nat.lt_trans hx.2 (by decide)
  ⟨List.forall_mem_cons.2 ⟨hx', h⟩, List.forall_mem_append.2 ⟨h, List.forall_mem_singleton.2 hx'⟩⟩

end XV.Lemmas.Serializer
