/- Lemmas for C12: namespace fix-up — the innermost binding wins, and after the fix-up of an element every prefix
it uses resolves to the namespace it was built with. -/
import XV.Model.NsFixup
namespace XV.Lemmas.NsFixup
open XV.Spec.Namespaces XV.Model.NsFixup

theorem active_iff (stack : List Scope) (p u : Name) :
    isNamespaceBindingActive stack p u = (resolve stack p == some u) := by
  induction stack with
  | nil => rfl
  | cons s rest ih =>
    simp only [isNamespaceBindingActive, resolve]
    cases scopeGet s p with
    | none => exact ih
    | some t => simp

theorem get_put (s : Scope) (p u q : Name) : scopeGet (scopePut s p u) q = if q = p then some u else scopeGet s q := by
  fun_induction scopePut s p u with
  | case1 => simp [scopeGet, eq_comm]
  | case2 v t => by_cases hq : q = p <;> simp [scopeGet, hq, Ne.symm]
  | case3 r v t hr ih =>
    by_cases hq : r = q
    · simp [scopeGet, hq, hq ▸ hr]
    · simp [scopeGet, hq, ih]

theorem resolve_step (stack : List Scope) (st : St) (y : Use) (p : Name) :
    resolve ((step stack st y).scope :: stack) p = if p = y.1 then some y.2 else resolve (st.scope :: stack) p := by
  unfold step
  split
  · rename_i ha
    rw [active_iff, beq_iff_eq] at ha
    split
    · rename_i hp; rw [hp, ha]
    · rfl
  · simp only [resolve, get_put]
    by_cases hp : p = y.1
    · rw [if_pos hp, if_pos hp]
    · rw [if_neg hp, if_neg hp]

/-- the prefix → namespace uses of one element do not contradict each other -/
def Consistent (uses : List Use) : Prop := ∀ x ∈ uses, ∀ y ∈ uses, x.1 = y.1 → x.2 = y.2

theorem foldl_resolve (stack : List Scope) (p u : Name) : ∀ (todo : List Use) (st : St),
    (resolve (st.scope :: stack) p = some u ∨ (p, u) ∈ todo) → (∀ y ∈ todo, y.1 = p → y.2 = u) →
    resolve ((todo.foldl (step stack) st).scope :: stack) p = some u
  | [], _, h, _ => h.elim id nofun
  | y :: t, st, h, hc => by
    refine foldl_resolve stack p u t (step stack st y) ?_ fun z hz => hc z (.tail _ hz)
    rw [resolve_step]
    by_cases hp : p = y.1
    · rw [if_pos hp, hc y (.head _) hp.symm]; exact .inl rfl
    · rw [if_neg hp]
      rcases h with h | h
      · exact .inl h
      · rcases List.mem_cons.1 h with h | h
        · exact absurd (congrArg Prod.fst h) hp
        · exact .inr h

end XV.Lemmas.NsFixup
