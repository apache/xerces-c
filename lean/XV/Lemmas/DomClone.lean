/-
C13: `WF` is preserved by the copy made by cloneNode/importNode and by the merging of Text nodes in normalize.
The copy is one `allocMany` of `cloneRec` records: every new node is the copy `f x` of a member `x` of the copied set, with
`f = cloneId` injective on that set, and it satisfies what `x` does with every link translated by `f`.  normalize is a
rewrite in place that only cuts links, so it goes through `Link.map` like `detach`.
-/
import XV.Lemmas.DomWF
namespace XV.Lemmas.Dom
open XV.Model.Dom XV.Spec.Dom

theorem cloneRec_fields (n : NodeId) (D : List NodeId) (f : NodeId → NodeId) (dk : Bool) (doc x : NodeId) (r : NodeRec) :
    (cloneRec n D f dk doc x r).kind = r.kind ∧ (cloneRec n D f dk doc x r).name = r.name ∧
    (cloneRec n D f dk doc x r).owner = doc := ⟨rfl, rfl, rfl⟩

theorem cloneRec_attrs (n : NodeId) (D : List NodeId) (f : NodeId → NodeId) (dk : Bool) (doc x : NodeId) (r : NodeRec) :
    (cloneRec n D f dk doc x r).attrs = (r.attrs.filter (fun c => D.contains c && c != n)).map f := rfl

theorem cloneRec_parent {n : NodeId} {D : List NodeId} {f : NodeId → NodeId} {dk : Bool} {doc x : NodeId}
    {r : NodeRec} {p' : NodeId} :
    (cloneRec n D f dk doc x r).parent = some p' ↔
      ∃ q, f q = p' ∧ q ∈ D ∧ r.parent = some q ∧ x ≠ n ∧ ¬ (q = n ∧ dk = true) := by
  refine Option.ite_none_left_eq_some.trans ?_
  cases r.parent with
  | none => simp
  | some q => simp [and_assoc, and_left_comm, and_comm, or_comm, Decidable.imp_iff_not_or]

theorem cloneRec_ownerElem {n : NodeId} {D : List NodeId} {f : NodeId → NodeId} {dk : Bool} {doc x : NodeId}
    {r : NodeRec} {e' : NodeId} :
    (cloneRec n D f dk doc x r).ownerElem = some e' ↔ ∃ e, f e = e' ∧ e ∈ D ∧ r.ownerElem = some e ∧ x ≠ n := by
  refine Option.ite_none_left_eq_some.trans ?_
  cases r.ownerElem with
  | none => simp
  | some q => simp [and_assoc, and_left_comm, and_comm]

theorem mem_cloneRec_children {n : NodeId} {D : List NodeId} {f : NodeId → NodeId} {dk : Bool} {doc x : NodeId}
    {r : NodeRec} {c' : NodeId} :
    c' ∈ (cloneRec n D f dk doc x r).children ↔
      ∃ c, f c = c' ∧ c ∈ D ∧ c ∈ r.children ∧ c ≠ n ∧ ¬ (x = n ∧ dk = true) := by
  unfold cloneRec
  by_cases hx : x = n ∧ dk = true
  · simp [hx.1, hx.2]
  · simp [hx, and_assoc, and_left_comm, and_comm]

theorem mem_cloneRec_attrs {n : NodeId} {D : List NodeId} {f : NodeId → NodeId} {dk : Bool} {doc x : NodeId}
    {r : NodeRec} {a' : NodeId} :
    a' ∈ (cloneRec n D f dk doc x r).attrs ↔ ∃ a, f a = a' ∧ a ∈ D ∧ a ∈ r.attrs ∧ a ≠ n := by
  simp [cloneRec_attrs, and_assoc, and_left_comm, and_comm]

theorem wf_cloneInto (s : Store) (h : WF s) (n : NodeId) (rn : NodeRec) (deep : Bool)
    (doc : NodeId) (rd : NodeRec) (hd : s.get doc = some rd) (hdk : rd.kind = .document) :
    WF (cloneInto s n rn deep doc).1 := by
  unfold cloneInto
  simp only
  generalize hD : cloneSet s n rn deep = D
  generalize (!deep && rn.kind != .attr) = dk
  have hDlive : ∀ x, x ∈ D → ∃ r, s.get x = some r ∧ r.kind ≠ .document := by
    intro x hx
    rw [← hD, cloneSet, List.mem_filter] at hx
    cases hg : s.get x with
    | none => simp [hg] at hx
    | some r => exact ⟨r, rfl, fun hk => by simp [isKind, hg, hk] at hx⟩
  have hDnd : D.Nodup := by
    rw [← hD]; exact List.nodup_range.filter _
  generalize hf : cloneId s.size D = f
  have hfdef : ∀ x, f x = s.size + D.idxOf x := fun x => by rw [← hf]; rfl
  -- `f` has a left inverse on `D`: so it is injective there, and a copy can be ranked like its original
  have hback : ∀ x, x ∈ D → D[f x - s.size]? = some x := fun x hx => by
    rw [hfdef, Nat.add_sub_cancel_left, List.getElem?_eq_getElem (List.idxOf_lt_length_of_mem hx), List.getElem_idxOf]
  have finj : ∀ x y, x ∈ D → y ∈ D → f x = f y → x = y := fun x y hx hy hxy =>
    Option.some.inj (by rw [← hback x hx, hxy, hback y hy])
  have hget := get_allocMany_map s D (fun x => match s.get x with
    | some r => cloneRec n D f dk doc x r
    | none => { kind := .text, owner := doc }) hDnd
  generalize s.allocMany _ = s' at hget
  have hold : ∀ i r, s.get i = some r → s'.get i = some r := fun i r hi => (hget i r).mpr (.inl hi)
  have hnew : ∀ x r, x ∈ D → s.get x = some r → s'.get (f x) = some (cloneRec n D f dk doc x r) :=
    fun x r hx hr => (hget _ _).mpr (.inr ⟨x, hx, hfdef x, by rw [hr]⟩)
  -- every node of the new store is an old one or the copy of a member of `D`, which is no Document
  have hinv : ∀ i r', s'.get i = some r' → s.get i = some r' ∨
      ∃ x r, x ∈ D ∧ s.get x = some r ∧ r.kind ≠ .document ∧ i = f x ∧ r' = cloneRec n D f dk doc x r := by
    intro i r' hi
    rcases (hget i r').mp hi with hi | ⟨x, hx, rfl, rfl⟩
    · exact .inl hi
    · obtain ⟨r, hr, hnd⟩ := hDlive x hx
      exact .inr ⟨x, r, hx, hr, hnd, (hfdef x).symm, by rw [hr]⟩
  obtain ⟨hn, rank, hrank⟩ := (wf_iff_nodeWF s).mp h
  refine (wf_iff_nodeWF _).mpr ⟨fun i r' hi => ?_, ?_⟩
  · rcases hinv i r' hi with hi | ⟨x, r, hxD, hr, hnd, rfl, rfl⟩
    · exact (hn i r' hi).mono hi hold
    -- the copy of `x` satisfies what `x` does, with every link translated by `f`
    have hx := hn x r hr
    refine ⟨⟨⟨fun c' hc => ?_, fun p' hp => ?_⟩, ?_⟩, ⟨⟨fun a' ha => ?_, fun e' he => ?_⟩, ?_⟩,
      ⟨rd, hold doc rd hd, hdk, h.docSelf doc rd hd hdk⟩, fun hk => absurd hk hnd⟩
    · obtain ⟨c, rfl, hcD, hc, hcn, hnk⟩ := mem_cloneRec_children.mp hc
      obtain ⟨rc, hrc, hpar, _, hkinds⟩ := hx.tree.link.below c hc
      exact ⟨_, hnew c rc hcD hrc, cloneRec_parent.mpr ⟨x, rfl, hxD, hpar, hcn, hnk⟩, rfl, hkinds⟩
    · obtain ⟨q, rfl, hqD, hq, hxn, hnk⟩ := cloneRec_parent.mp hp
      obtain ⟨rq, hrq, hm⟩ := hx.tree.link.above q hq
      exact ⟨_, hnew q rq hqD hrq, mem_cloneRec_children.mpr ⟨x, rfl, hxD, hm, hxn, hnk⟩⟩
    · show (if (x == n && dk) = true then [] else (r.children.filter _).map f).Nodup
      split
      · exact List.nodup_nil
      · refine nodup_map_on f _ (hx.tree.nodup.filter _) fun a b ha hb hab => ?_
        simp only [List.mem_filter, Bool.and_eq_true, List.contains_iff_mem] at ha hb
        exact finj a b ha.2.1 hb.2.1 hab
    · obtain ⟨a, rfl, haD, ha, han⟩ := mem_cloneRec_attrs.mp ha
      obtain ⟨ra, hra, hoe, hka, _, hke⟩ := hx.attr.link.below a ha
      exact ⟨_, hnew a ra haD hra, cloneRec_ownerElem.mpr ⟨x, rfl, hxD, hoe, han⟩, hka, rfl, hke⟩
    · obtain ⟨e, rfl, heD, he, hxn⟩ := cloneRec_ownerElem.mp he
      obtain ⟨re, hre, hm⟩ := hx.attr.link.above e he
      exact ⟨_, hnew e re heD hre, mem_cloneRec_attrs.mpr ⟨x, rfl, hxD, hm, hxn⟩⟩
    · -- the copy of an attribute has its name
      rw [cloneRec_attrs, List.map_map, List.map_congr_left fun a ha => ?_]
      · exact hx.attr.sorted.sublist (List.filter_sublist.map _)
      · simp only [List.mem_filter, Bool.and_eq_true, List.contains_iff_mem] at ha
        obtain ⟨ra, hra, _⟩ := hx.attr.link.below a ha.1
        simp only [Function.comp, nameOf, hnew a ra ha.2.1 hra, hra]; rfl
  · -- a copy is ranked like its original
    refine ⟨fun i => if i < s.size then rank i else (D[i - s.size]?.map rank).getD 0, ?_⟩
    have hge : ∀ x, ¬ f x < s.size := fun x => hfdef x ▸ Nat.not_lt.mpr (Nat.le_add_right _ _)
    intro c rc' p hc hp
    rcases hinv c rc' hc with hc' | ⟨x, r, hxD, hr, _, rfl, rfl⟩
    · obtain ⟨rp, hrp, _⟩ := (hn c rc' hc').tree.link.above p hp
      simp only [if_pos (lt_size_of_get s c rc' hc'), if_pos (lt_size_of_get s p rp hrp)]
      exact hrank c rc' p hc' hp
    · obtain ⟨q, rfl, hqD, hq, _⟩ := cloneRec_parent.mp hp
      simp only [if_neg (hge _), hback _ hxD, hback _ hqD]
      exact hrank x r q hr hq

theorem visited_eq (s : Store) (n q : NodeId) (rq : NodeRec) (hq : s.get q = some rq) :
    visited s n q = (normReach s n q && !isLeaf rq.kind) := by
  unfold visited; rw [hq]

theorem normKids_between (s : Store) (b : Bool) (l : List NodeId) :
    (l.filter fun c => !isKind s .text c).Sublist (normKids s b l) ∧ (normKids s b l).Sublist l := by
  fun_induction normKids s b l with
  | case1 => exact ⟨.slnil, .slnil⟩
  | case2 _ _ ht ih => exact ⟨by simpa [ht] using ih.1, ih.2.cons _⟩
  | case3 _ k _ ht _ ih => exact ⟨by simpa [ht] using ih.1.cons k, ih.2.cons_cons _⟩
  | case4 _ k _ ht ih => exact ⟨by simpa [ht] using ih.1.cons_cons k, ih.2.cons_cons _⟩

theorem keptKids_sublist (s : Store) (l : List NodeId) : (keptKids s l).Sublist l :=
  List.filter_sublist.trans (normKids_between s false l).2

theorem keptKids_keeps (s : Store) (l : List NodeId) (c : NodeId) (hc : c ∈ l)
    (hnt : isKind s .text c = false) : c ∈ keptKids s l :=
  List.mem_filter.mpr
    ⟨(normKids_between s false l).1.subset (List.mem_filter.mpr ⟨hc, by simp [hnt]⟩), by simp [hnt]⟩

theorem wf_normalize (s : Store) (h : WF s) (n : NodeId) : WF (s.mapNodes fun i r => some (normF s n i r)) := by
  have hg := get_mapNodes_some s (normF s n)
  refine wf_map hg h (fun _ _ => rfl) (fun _ _ => rfl) (fun i r hi hx => ?_)
    (fun i r hi hx => hx.frame (get_map_of hg) hi)
    (h.acyclic.imp fun _ hrank x rx p hx hp => hrank x rx p hx (Option.ite_none_left_eq_some.mp hp).2)
  have hsub : ((normF s n i r).children).Sublist r.children := by
    show (if visited s n i then keptKids s r.children else r.children).Sublist r.children
    split
    · exact keptKids_sublist s _
    · exact List.Sublist.refl _
  refine ⟨?_, hx.nodup.sublist hsub⟩
  -- a link from a visited parent to a Text stays only if the parent keeps that Text
  refine hx.link.map (N := fun _ _ => False)
    (K := fun p c => isKind s .text c = true → visited s n p = true → c ∈ keptKids s (parentKids s p))
    (get_map_of hg) (fun p r c hp => ?_) (fun c r p hc => ?_)
    (fun _ _ _ _ h => h) nofun hi
  · show c ∈ (if visited s n p then keptKids s r.children else r.children) ↔ _
    simp only [parentKids, hp, or_false]
    split
    · rename_i hv
      refine ⟨fun hc => ⟨(keptKids_sublist s _).subset hc, fun _ _ => hc⟩, fun ⟨hc, hk⟩ => ?_⟩
      cases ht : isKind s .text c with
      | false => exact keptKids_keeps s _ c hc ht
      | true => exact hk ht hv
    · rename_i hv
      exact ⟨fun hc => ⟨hc, fun _ hv' => absurd hv' hv⟩, And.left⟩
  · show (if mergedAway s n c r then none else r.parent) = some p ↔ _
    rw [Option.ite_none_left_eq_some, or_false, and_comm]
    refine and_congr_right fun hpar => ?_
    simp [mergedAway, hpar, isKind, hc]

end XV.Lemmas.Dom
