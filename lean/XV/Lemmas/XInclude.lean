/-
C20 — the XInclude model (XV.Model.XInclude) against its Spec (XV.Spec.XInclude).

First the composition law of this Spec's RFC 2396 resolution on segment lists (`resolve_prependPath`), which makes the
base fix-ups exact (XV.Spec.XInclude has a `resolve` of its own, no statement relates it to that of XV.Spec.Uri).  Then
three facts about one level of the walk (`procNode`/`procList`, with the recursion into an included document, `rec`, as
a parameter), each followed by its induction over the budget of `procFuel`: the budget suffices (`Inv`); model and Spec
agree where the two loop tests cannot fire (`Sim`); every live include is refused or descended into (`Visits`).
`fetchM_cases` lists what can happen at an include, so that every induction splits that node alike.
-/
import XV.Spec.XInclude
import XV.Model.XInclude

namespace XV.Lemmas.XInclude
open XV.Spec.XInclude XV.Model.XInclude

def Plain (s : Seg) : Prop := s ≠ ".." ∧ s ≠ "."

theorem normStep_plain {s : Seg} (stk : List Seg) (hs : Plain s) : normStep stk s = s :: stk := by
  rw [normStep, if_neg hs.1, if_neg hs.2]

theorem normRev_cons (stk : List Seg) (s : Seg) (p : List Seg) :
    normRev stk (s :: p) = normRev (normStep stk s) p := rfl

theorem normRev_append (stk p q : List Seg) : normRev stk (p ++ q) = normRev (normRev stk p) q :=
  List.foldl_append ..

theorem normStep_allPlain {stk : List Seg} (s : Seg) (h : ∀ x ∈ stk, Plain x) : ∀ x ∈ normStep stk s, Plain x := by
  unfold normStep
  split
  · exact fun x hx => h x (List.mem_of_mem_tail hx)
  · split
    · exact h
    · next h1 h2 => exact List.forall_mem_cons.2 ⟨⟨h1, h2⟩, h⟩

theorem normRev_allPlain (p : List Seg) : ∀ stk : List Seg, (∀ x ∈ stk, Plain x) → ∀ x ∈ normRev stk p, Plain x := by
  induction p with
  | nil => exact fun _ h => h
  | cons s p ih => exact fun stk h => ih _ (normStep_allPlain s h)

theorem normRev_plainList (l : List Seg) : ∀ stk : List Seg, (∀ x ∈ l, Plain x) → normRev stk l = l.reverse ++ stk := by
  induction l with
  | nil => exact fun _ _ => rfl
  | cons s l ih =>
    intro stk h
    obtain ⟨hs, hl⟩ := List.forall_mem_cons.1 h
    rw [normRev_cons, normStep_plain stk hs, ih _ hl, List.reverse_cons, List.append_assoc]
    rfl

theorem normalize_allPlain (p : List Seg) : ∀ x ∈ normalize p, Plain x :=
  fun x hx => normRev_allPlain p [] nofun x (List.mem_reverse.mp hx)

theorem normalize_normalize_append (x y : List Seg) : normalize (normalize x ++ y) = normalize (x ++ y) := by
  unfold normalize
  rw [normRev_append, normRev_append, normRev_plainList (normRev [] x).reverse [] (normalize_allPlain x),
    List.reverse_reverse, List.append_nil]

theorem normalize_snoc_plain (x : List Seg) {s : Seg} (hs : Plain s) : normalize (x ++ [s]) = normalize x ++ [s] := by
  unfold normalize
  rw [normRev_append, normRev_cons, normStep_plain _ hs]
  exact List.reverse_cons

theorem dir_snoc (x : List Seg) (s : Seg) : dir (x ++ [s]) = x := List.dropLast_concat

theorem fixRef_nil : fixRef [] = [] := rfl

theorem fixRef_concat (q : List Seg) (s : Seg) :
    fixRef (q ++ [s]) = if s = ".." ∨ s = "." then q ++ [s, ""] else q ++ [s] := by
  simp [fixRef]

theorem fixRef_snoc {r : Ref} (h : r ≠ []) : ∃ q s, fixRef r = q ++ [s] ∧ Plain s := by
  obtain ⟨q, s, rfl⟩ := (List.eq_nil_or_concat r).resolve_left h
  rw [List.concat_eq_append, fixRef_concat]
  split
  · exact ⟨q ++ [s], "", by simp, by decide, by decide⟩
  · next hs => exact ⟨q, s, rfl, not_or.1 hs⟩

theorem fixRef_ne_nil {r : Ref} (h : r ≠ []) : fixRef r ≠ [] := by
  obtain ⟨q, s, e, _⟩ := fixRef_snoc h
  rw [e]; simp

theorem fixRef_append (a : List Seg) {r : Ref} (h : r ≠ []) : fixRef (a ++ r) = a ++ fixRef r := by
  obtain ⟨q, s, rfl⟩ := (List.eq_nil_or_concat r).resolve_left h
  rw [List.concat_eq_append, ← List.append_assoc, fixRef_concat, fixRef_concat]
  split <;> simp

/-- The composition law of `resolve` (RFC 2396 §5.2 as XV.Spec.XInclude transcribes it: `..` above the root is dropped):
    resolving `r` against the resolution of `p` is resolving "`p` up to its last slash, then `r`".  This is what makes a
    fix-up by `XIncludeLocation::prependPath` preserve targets. -/
theorem resolve_prependPath (pb : URI) (p r : Ref) : resolve pb (prependPath p r) = resolve (resolve pb p) r := by
  by_cases hr : r = []
  · subst hr; simp [prependPath, resolve]
  by_cases hp : p = []
  · subst hp
    simp [prependPath, hr, resolve, fixRef_nil, dir]
  obtain ⟨q, s, eq, hs⟩ := fixRef_snoc hp
  -- with `fixRef p = q ++ [s]` both sides are `normalize (dir pb ++ q ++ fixRef r)`
  have rp : resolve pb p = normalize (dir pb ++ q) ++ [s] := by
    rw [resolve, if_neg hp, eq, ← List.append_assoc, normalize_snoc_plain _ hs]
  rw [rp, prependPath, if_neg hr, eq, dir_snoc, resolve, resolve, if_neg hr, if_neg (by simp [hr]), fixRef_append _ hr,
    dir_snoc, normalize_normalize_append, List.append_assoc]

theorem resolveBase_inherit (pb : URI) : resolveBase pb .inherit = pb := rfl

theorem resolveBase_applyPre (pb : URI) (pre b : Base) :
    resolveBase pb (applyPre pre b) = resolveBase (resolveBase pb pre) b := by
  cases pre <;> cases b <;> simp [applyPre, resolveBase, resolve_prependPath]

theorem resolveBase_inclPre (pb : URI) (ib : Base) (href : Ref) :
    resolveBase pb (inclPre ib href) = resolve (resolveBase pb ib) href := by
  cases ib <;> simp [inclPre, resolveBase, resolve_prependPath]

/-- the base of the spliced-in document is the target it was fetched from -/
theorem resolveBase_inclPre_applyPre (pb : URI) (pre ib : Base) (href : Ref) :
    resolveBase pb (inclPre (applyPre pre ib) href) = targetOf (resolveBase pb pre) ib href := by
  rw [resolveBase_inclPre, resolveBase_applyPre, targetOf]

theorem node_induct {P : Node → Prop} {Q : List Node → Prop}
    (elem : ∀ n a b kids, Q kids → P (.elem n a b kids))
    (leaf : ∀ k t cs, P (.leaf k t cs))
    (incl : ∀ h p e b hf fb, Q fb → P (.incl h p e b hf fb))
    (bad : ∀ k a b kids, Q kids → P (.bad k a b kids))
    (fallback : ∀ b kids, Q kids → P (.fallback b kids))
    (nil : Q []) (cons : ∀ n ns, P n → Q ns → Q (n :: ns)) : (∀ n, P n) ∧ (∀ l, Q l) :=
  ⟨fun n => Node.rec (motive_1 := P) (motive_2 := Q) elem leaf incl bad fallback nil cons n,
   fun l => Node.rec_1 (motive_1 := P) (motive_2 := Q) elem leaf incl bad fallback nil cons l⟩

open XV.Gen.XIncludeErrs

variable (fs : FS) (root : URI) (rec : Rec) (h : List URI)

theorem fetch_doc_of_ne_text {fs : FS} {t : URI} {parse : Parse} {enc : Option String} {d : List Node}
    (hp : parse ≠ .text) (hd : fs.doc t = some d) : fetch fs t parse enc = .doc d := by
  cases parse <;> simp [fetch, hd] at hp ⊢

/-- The four things `fetchM` can do about the target `t` of an include: refuse it by one of the two loop tests (which
    parse="text" does not make), obtain a document, obtain text, fail (with at most a warning).  Beside each of the last
    three, what the Spec's `fetch` says of `t`; of a refused target it says nothing (the Spec has no such test: the
    users split on `fs.doc t` themselves). -/
theorem fetchM_cases (t : URI) (parse : Parse) (enc : Option String) :
    (∃ c, parse ≠ .text ∧ (t ∈ h ∧ c = XIncludeCircularInclusionLoop ∨
        t ∉ h ∧ t = root ∧ c = XIncludeCircularInclusionDocIncludesSelf) ∧
      fetchM fs root h t parse enc = (.none, [c])) ∨
    (∃ d, t ∉ h ∧ t ≠ root ∧ fetch fs t parse enc = .doc d ∧ fs.doc t = some d ∧
      fetchM fs root h t parse enc = (.doc d, [])) ∨
    (∃ cs, fetch fs t parse enc = .text cs ∧ fetchM fs root h t parse enc = (.text cs, [])) ∨
    (∃ e, fetch fs t parse enc = .none ∧ (e = [] ∨ e = [XIncludeCannotOpenFile]) ∧
      fetchM fs root h t parse enc = (.none, e)) := by
  cases parse
  case text =>
    simp only [fetchM, doXIncludeTEXTFileDOM, fetch]
    cases (if encSupported enc = true then fs.chars t else none) with
    | none => exact .inr (.inr (.inr ⟨_, rfl, .inr rfl, rfl⟩))
    | some cs => exact .inr (.inr (.inl ⟨cs, rfl, rfl⟩))
  all_goals
    simp only [fetchM, doXIncludeXMLFileDOM, fetch]
    by_cases h1 : t ∈ h
    · exact .inl ⟨_, nofun, .inl ⟨h1, rfl⟩, if_pos h1⟩
    · by_cases h2 : t = root
      · exact .inl ⟨_, nofun, .inr ⟨h1, h2, rfl⟩, by rw [if_neg h1, if_pos h2]⟩
      · rw [if_neg h1, if_neg h2]
        cases hd : fs.doc t with
        | some d => exact .inr (.inl ⟨d, h1, h2, rfl, rfl, rfl⟩)
        | none => exact .inr (.inr (.inr ⟨_, rfl, .inl rfl, rfl⟩))

/-- what replaces an include whose resource was not obtained (codes `e` reported on the way): the processed fallback
    children `r`, or the element itself (`n`) and a fatal error -/
def failed (hasFb : Bool) (r : Res) (n : Node) (e : List Nat) : Res :=
  if hasFb then ⟨r.nodes, e ++ [XIncludeIncludeFailedResourceError] ++ r.errs⟩
  else ⟨[n], e ++ [XIncludeIncludeFailedResourceError, XIncludeIncludeFailedNoFallback]⟩

theorem mem_failed_errs {hasFb : Bool} {r : Res} {n : Node} {e : List Nat} {c : Nat}
    (h1 : c ≠ XIncludeIncludeFailedResourceError) (h2 : c ≠ XIncludeIncludeFailedNoFallback) :
    c ∈ (failed hasFb r n e).errs ↔ c ∈ e ∨ hasFb = true ∧ c ∈ r.errs := by
  cases hasFb <;> simp [failed, h1, h2]

theorem filterMap_failed (hasFb : Bool) (r : Res) (n : Node) (e : List Nat) :
    (failed hasFb r n e).errs.filterMap classOf =
      e.filterMap classOf ++ if hasFb then r.errs.filterMap classOf else [.noFallback] := by
  cases hasFb <;> simp [failed, List.filterMap_append] <;> rfl

theorem procNode_bad (pb : URI) (pre : Base) (k : BadKind) (a : List (String × String)) (b : Base) (kids : List Node) :
    procNode fs root rec h pb pre (.bad k a b kids) = ⟨[annotate (resolveBase pb pre) (.bad k a b kids)], [badCode k]⟩ := by
  rw [procNode, annotate, annotate, resolveBase_applyPre]

theorem procNode_fallback (pb : URI) (pre : Base) (b : Base) (kids : List Node) :
    procNode fs root rec h pb pre (.fallback b kids) =
      ⟨[annotate (resolveBase pb pre) (.fallback b kids)], [XIncludeOrphanFallback]⟩ := by
  rw [procNode, annotate, annotate, resolveBase_applyPre]

theorem procNode_incl (pb : URI) (pre : Base) (href : Ref)
    (parse : Parse) (enc : Option String) (ib : Base) (hasFb : Bool) (fb : List Node) :
    procNode fs root rec h pb pre (.incl href parse enc ib hasFb fb) =
      match fetchM fs root h (targetOf (resolveBase pb pre) ib href) parse enc with
      | (.doc d, _) => rec (targetOf (resolveBase pb pre) ib href :: h) pb (inclPre (applyPre pre ib) href) d
      | (.text cs, _) => ⟨[.leaf .text "" cs], []⟩
      | (.none, e) => failed hasFb (procList fs root rec h pb (applyPre pre ib) fb)
          (annotate (resolveBase pb pre) (.incl href parse enc ib hasFb fb)) e := by
  rw [procNode]
  simp only [targetOf, resolveBase_applyPre, annotate, failed]
  rfl

theorem classOf_badCode (k : BadKind) : classOf (badCode k) = some .invalid := by
  cases k <;> decide

theorem classOf_circular {c : Nat} (h : classOf c = some .circular) :
    c = XIncludeCircularInclusionLoop ∨ c = XIncludeCircularInclusionDocIncludesSelf := by
  unfold classOf at h
  split at h
  · assumption
  · repeat' split at h
    all_goals cases h

theorem classOf_fuel {c : Nat} (h : classOf c = some .fuel) : c = outOfFuel := by
  unfold classOf at h
  repeat' split at h
  all_goals first | assumption | cases h

theorem process_of_doc {fs : FS} {root : URI} {d : List Node} (hd : fs.doc root = some d) :
    process fs root = procFuel fs root (budget fs) [] root .inherit d := by
  rw [process, hd]

theorem process_of_none {fs : FS} {root : URI} (hd : fs.doc root = none) : process fs root = ⟨[], []⟩ := by
  rw [process, hd]

theorem substitute_of_doc {fs : FS} {root : URI} {d : List Node} (hd : fs.doc root = some d) :
    substitute fs root = substFuel fs (budget fs) root d := by
  rw [substitute, hd]

/-- the history stack holds distinct existing documents, and the remaining budget exceeds what is left to push -/
def Inv (fs : FS) (h : List URI) (n : Nat) : Prop :=
  h.Nodup ∧ (∀ x ∈ h, ∃ d, fs.doc x = some d) ∧ fs.length + 1 ≤ h.length + n

theorem doc_some_mem_keys {fs : FS} {u : URI} {d : List Node} (h : fs.doc u = some d) : u ∈ fs.map (·.1) := by
  unfold FS.doc FS.get at h
  cases hl : List.lookup u fs with
  | none => rw [hl] at h; cases h
  | some f =>
    obtain ⟨l₁, l₂, rfl, _⟩ := List.lookup_eq_some_iff.1 hl
    simp

theorem inv_length {fs : FS} {h : List URI} {n : Nat} (hi : Inv fs h n) : h.length ≤ fs.length := by
  have := hi.1.length_le_of_subset fun x hx => (hi.2.1 x hx).elim fun _ => doc_some_mem_keys
  simpa using this

theorem inv_push {fs : FS} {h : List URI} {n : Nat} {t : URI} {d : List Node}
    (hi : Inv fs h (n + 1)) (ht : t ∉ h) (hd : fs.doc t = some d) : Inv fs (t :: h) n :=
  ⟨List.nodup_cons.mpr ⟨ht, hi.1⟩, List.forall_mem_cons.2 ⟨⟨d, hd⟩, hi.2.1⟩,
    by have := hi.2.2; simp only [List.length_cons]; omega⟩

theorem inv_init (k : Nat) : Inv fs [] (budget fs + k) :=
  ⟨List.nodup_nil, nofun, by simp [budget]⟩

theorem budget_inner (rec' : Rec)
    (hrec : ∀ t d pb pre, t ∉ h → fs.doc t = some d →
      outOfFuel ∉ (rec (t :: h) pb pre d).errs ∧ rec' (t :: h) pb pre d = rec (t :: h) pb pre d) :
    (∀ n pb pre, outOfFuel ∉ (procNode fs root rec h pb pre n).errs ∧
        procNode fs root rec' h pb pre n = procNode fs root rec h pb pre n) ∧
    (∀ l pb pre, outOfFuel ∉ (procList fs root rec h pb pre l).errs ∧
        procList fs root rec' h pb pre l = procList fs root rec h pb pre l) := by
  apply node_induct
  · intro n a b kids ih pb pre
    rw [procNode, procNode, (ih _ _).2]; exact ⟨(ih _ _).1, rfl⟩
  · intro k t cs pb pre; rw [procNode, procNode]; exact ⟨nofun, rfl⟩
  · intro href parse enc ib hasFb fb ih pb pre
    have hfail : ∀ e, outOfFuel ∉ e → outOfFuel ∉ (failed hasFb (procList fs root rec h pb (applyPre pre ib) fb)
        (annotate (resolveBase pb pre) (.incl href parse enc ib hasFb fb)) e).errs :=
      fun e he hm => ((mem_failed_errs (by decide) (by decide)).1 hm).elim he fun hm => (ih _ _).1 hm.2
    rw [procNode_incl, procNode_incl, (ih _ _).2]
    rcases fetchM_cases fs root h (targetOf (resolveBase pb pre) ib href) parse enc with
      ⟨c, _, hc, hf⟩ | ⟨d, hh, _, _, hd, hf⟩ | ⟨cs, _, hf⟩ | ⟨e, _, he, hf⟩ <;> rw [hf]
    · exact ⟨hfail _ (by rcases hc with ⟨_, rfl⟩ | ⟨_, _, rfl⟩ <;> decide), rfl⟩
    · exact hrec _ d _ _ hh hd
    · exact ⟨nofun, rfl⟩
    · exact ⟨hfail _ (by rcases he with rfl | rfl <;> decide), rfl⟩
  · intro k a b kids _ pb pre
    rw [procNode_bad, procNode_bad]; exact ⟨by cases k <;> simp [badCode] <;> decide, rfl⟩
  · intro b kids _ pb pre
    rw [procNode_fallback, procNode_fallback]; exact ⟨by simp; decide, rfl⟩
  · intro pb pre; rw [procList, procList]; exact ⟨nofun, rfl⟩
  · intro n ns ihn ihs pb pre
    rw [procList, procList, (ihn _ _).2, (ihs _ _).2]
    exact ⟨fun hm => (List.mem_append.1 hm).elim (ihn _ _).1 (ihs _ _).1, rfl⟩

/-- Under `Inv` the budget `n` is enough: the run does not give up (each nested level pushes a new, existing document,
    and there are only `fs.length`), and more budget changes nothing. -/
theorem budget_enough : ∀ (n : Nat) (h : List URI), Inv fs h n → ∀ k pb pre ns,
    outOfFuel ∉ (procFuel fs root n h pb pre ns).errs ∧
      procFuel fs root (n + k) h pb pre ns = procFuel fs root n h pb pre ns
  | 0, h, hi => by
    have := inv_length hi
    have := hi.2.2
    omega
  | n + 1, h, hi => fun k pb pre ns => by
    rw [Nat.add_right_comm]
    exact (budget_inner fs root (procFuel fs root n) h (procFuel fs root (n + k)) fun t d pb pre ht hd =>
      budget_enough n (t :: h) (inv_push hi ht hd) k pb pre d).2 ns pb pre

theorem _root_.XV.Spec.XInclude.Reach.tail {fs : FS} {u v w : URI} (h : Reach fs u v) (e : w ∈ edges fs v) : Reach fs u w := by
  induction h with
  | refl u => exact .step e (.refl w)
  | step e' _ ih => exact .step e' (ih e)

theorem _root_.XV.Spec.XInclude.Reach.trans {fs : FS} {u v w : URI} (h : Reach fs u v) (h2 : Reach fs v w) : Reach fs u w := by
  induction h with
  | refl u => exact h2
  | step e' _ ih => exact .step e' (ih h2)

theorem _root_.XV.Spec.XInclude.Acyclic.of_reach {fs : FS} {u v : URI} (ha : Acyclic fs u) (h : Reach fs u v) : Acyclic fs v := by
  induction h with
  | refl u => exact ha
  | step e _ ih =>
    cases ha with
    | mk _ hall => exact ih (hall _ e)

theorem _root_.XV.Spec.XInclude.Acyclic.no_cycle {fs : FS} {v : URI} (ha : Acyclic fs v) : ∀ w, w ∈ edges fs v → Reach fs w v → False := by
  induction ha with
  | mk v _ ih =>
    intro w hw hr
    cases hr with
    | refl => exact ih _ hw _ hw (.refl _)
    | step e hr' => exact ih w hw _ e (hr'.tail hw)

theorem edges_of_doc {fs : FS} {t : URI} {d : List Node} (hd : fs.doc t = some d) : edges fs t = edgesL fs t d := by
  rw [edges, hd]

theorem doc_of_edge {fs : FS} {u v : URI} (h : v ∈ edges fs u) : ∃ d, fs.doc u = some d := by
  unfold edges at h
  cases hd : fs.doc u with
  | none => rw [hd] at h; cases h
  | some d => exact ⟨d, rfl⟩

theorem _root_.XV.Spec.XInclude.Reach.doc {fs : FS} {u v : URI} (h : Reach fs u v) (hv : ∃ d, fs.doc v = some d) :
    ∃ d, fs.doc u = some d := by
  cases h with
  | refl => exact hv
  | step e _ => exact doc_of_edge e

/-- same nodes; the reported codes fall into exactly the Spec's error classes, in order.  The last conjunct speaks of the
    Spec alone (no clause of `substNode` builds `circular`) and travels with the walk only because that is cheaper than
    a walk of its own; with the second it says that neither loop code is reported. -/
def Sim (r : Res) (s : SRes) : Prop := r.nodes = s.nodes ∧ r.errs.filterMap classOf = s.errs ∧ .circular ∉ s.errs

/-- One level: nothing the loop tests refuse (`hS`: history and root, all existing documents) is included by the current
    document `cur`, so every live include of `cur` is acted on as the Spec says.  The condition inside the conclusion,
    that the live includes of `n` in its base context are edges of `cur`, says that `n` is live content of `cur`; it
    holds of the top-level nodes of `cur` by `edges_of_doc` and is handed down to children and used fallbacks. -/
theorem agree_inner (inc : URI → List Node → SRes) (cur : URI)
    (hS : ∀ x, x ∈ h ∨ x = root → (∃ d, fs.doc x = some d) ∧ x ∉ edges fs cur)
    (hrec : ∀ t d pb pre, t ∈ edges fs cur → fs.doc t = some d → resolveBase pb pre = t →
      Sim (rec (t :: h) pb pre d) (inc t d)) :
    (∀ n pb pre, (∀ v ∈ edgesN fs (resolveBase pb pre) n, v ∈ edges fs cur) →
        Sim (procNode fs root rec h pb pre n) (substNode fs inc (resolveBase pb pre) n)) ∧
    (∀ l pb pre, (∀ v ∈ edgesL fs (resolveBase pb pre) l, v ∈ edges fs cur) →
        Sim (procList fs root rec h pb pre l) (substList fs inc (resolveBase pb pre) l)) := by
  apply node_induct
  · intro n a b kids ih pb pre he
    rw [edgesN, ← resolveBase_applyPre] at he
    obtain ⟨h1, h2⟩ := ih (resolveBase pb (applyPre pre b)) .inherit he
    rw [procNode, substNode, ← resolveBase_applyPre]
    exact ⟨by rw [h1]; rfl, h2⟩
  · intro k t cs pb pre _; rw [procNode, substNode]; exact ⟨rfl, rfl, nofun⟩
  · intro href parse enc ib hasFb fb ih pb pre he
    rw [edgesN] at he
    rw [procNode_incl, substNode]
    rcases fetchM_cases fs root h (targetOf (resolveBase pb pre) ib href) parse enc with
      ⟨c, hp, hc, _⟩ | ⟨d, _, _, hf, hd, hfm⟩ | ⟨cs, hf, hfm⟩ | ⟨e, hf, he', hfm⟩
    · -- a target the loop tests refuse exists, so it would be an edge of `cur`
      obtain ⟨⟨d, hd⟩, hne⟩ := hS _ (hc.imp And.left fun hc => hc.2.1)
      rw [fetch_doc_of_ne_text hp hd] at he
      exact absurd (he _ List.mem_cons_self) hne
    · rw [hfm, hf]
      rw [hf] at he
      exact hrec _ d pb _ (he _ List.mem_cons_self) hd (resolveBase_inclPre_applyPre ..)
    · rw [hfm, hf]; exact ⟨rfl, rfl, nofun⟩
    · rw [hfm, hf]
      rw [hf] at he
      have he2 : e.filterMap classOf = [] := by rcases he' with rfl | rfl <;> decide
      rw [Sim, filterMap_failed, he2, List.nil_append]
      cases hasFb
      · exact ⟨rfl, rfl, by simp⟩
      · rw [← resolveBase_applyPre]
        exact ih pb (applyPre pre ib) (by rwa [resolveBase_applyPre])
  · intro k a b kids _ pb pre _
    rw [procNode_bad, substNode]
    exact ⟨rfl, by simp [classOf_badCode], by simp⟩
  · intro b kids _ pb pre _
    rw [procNode_fallback, substNode]
    exact ⟨rfl, rfl, by simp⟩
  · intro pb pre _; rw [procList, substList]; exact ⟨rfl, rfl, nofun⟩
  · intro n ns ihn ihs pb pre he
    rw [edgesL] at he
    obtain ⟨a1, a2, a3⟩ := ihn pb pre fun v hv => he v (List.mem_append_left _ hv)
    obtain ⟨b1, b2, b3⟩ := ihs pb pre fun v hv => he v (List.mem_append_right _ hv)
    rw [procList, substList]
    exact ⟨by simp [SRes.append, a1, b1], by simp [SRes.append, List.filterMap_append, a2, b2],
      by simp [SRes.append, a3, b3]⟩

/-- On an acyclic map, with a history that is a path to the current document, model and Spec agree at every budget
    (both give up at the same depth). -/
theorem agree_procFuel (hacyc : Acyclic fs root) :
    ∀ (n : Nat) (h : List URI) (cur : URI) (d : List Node) (pb : URI) (pre : Base),
      (∀ x ∈ h ++ [root], Reach fs x cur) → fs.doc cur = some d →
      resolveBase pb pre = cur → Sim (procFuel fs root n h pb pre d) (substFuel fs n cur d)
  | 0, _, _, _, _, _, _, _, _ => ⟨rfl, rfl, by simp [substFuel]⟩
  | n + 1, h, cur, d, pb, pre, hinv, hd, hb => by
    have hcur : Acyclic fs cur := hacyc.of_reach (hinv root (by simp))
    subst hb
    refine (agree_inner fs root (procFuel fs root n) h (substFuel fs n) _ (fun x hx => ?_) ?_).2 d pb pre
      (by rw [edges_of_doc hd]; exact fun v hv => hv)
    · have hr := hinv x (by simpa using hx)
      exact ⟨hr.doc ⟨d, hd⟩, fun ht => hcur.no_cycle x ht hr⟩
    · intro t d' pb' pre' ht hd' hb'
      exact agree_procFuel hacyc n (t :: h) t d' pb' pre'
        (List.forall_mem_cons.2 ⟨.refl _, fun x hx => (hinv x hx).tail ht⟩) hd' hb'

/-- what the model does about a live include of the document `t`, seen in the codes `e` of the enclosing run: refused by
    one of the two loop tests, or processed one level down -/
def Visits (t : URI) (e : List Nat) : Prop :=
  t ∈ h ∧ XIncludeCircularInclusionLoop ∈ e ∨ t ∉ h ∧ t = root ∧ XIncludeCircularInclusionDocIncludesSelf ∈ e ∨
  ∃ d pb pre, t ≠ root ∧ fs.doc t = some d ∧ resolveBase pb pre = t ∧ ∀ c ∈ (rec (t :: h) pb pre d).errs, c ∈ e

theorem Visits.mono {fs root rec h t} {e e' : List Nat} (hv : Visits fs root rec h t e) (he : ∀ c ∈ e, c ∈ e') :
    Visits fs root rec h t e' :=
  hv.imp (.imp_right (he _)) (.imp (.imp_right (.imp_right (he _)))
    fun ⟨d, pb, pre, hr, hd, hb, hc⟩ => ⟨d, pb, pre, hr, hd, hb, fun c hm => he c (hc c hm)⟩)

theorem visits_inner :
    (∀ n pb pre, ∀ t ∈ edgesN fs (resolveBase pb pre) n, Visits fs root rec h t (procNode fs root rec h pb pre n).errs) ∧
    (∀ l pb pre, ∀ t ∈ edgesL fs (resolveBase pb pre) l, Visits fs root rec h t (procList fs root rec h pb pre l).errs) := by
  apply node_induct
  · intro n a b kids ih pb pre t ht
    rw [edgesN, ← resolveBase_applyPre] at ht
    rw [procNode]
    exact ih (resolveBase pb (applyPre pre b)) .inherit t ht
  · intro k t cs pb pre t ht; cases ht
  · intro href parse enc ib hasFb fb ih pb pre t ht
    rw [edgesN] at ht
    rw [procNode_incl]
    -- the target was not obtained: the live includes are those of the fallback, processed in place
    have hfb : ∀ e, fetch fs (targetOf (resolveBase pb pre) ib href) parse enc = .none →
        Visits fs root rec h t (failed hasFb (procList fs root rec h pb (applyPre pre ib) fb)
          (annotate (resolveBase pb pre) (.incl href parse enc ib hasFb fb)) e).errs := by
      intro e hf
      rw [hf] at ht
      cases hasFb
      · cases ht
      · exact (ih pb (applyPre pre ib) t (by rwa [resolveBase_applyPre])).mono fun c hc => by simp [failed, hc]
    rcases fetchM_cases fs root h (targetOf (resolveBase pb pre) ib href) parse enc with
      ⟨c, hp, hc, hfm⟩ | ⟨d, hh, hr, hf, hd, hfm⟩ | ⟨cs, hf, _⟩ | ⟨e, hf, _, hfm⟩
    · rw [hfm]
      cases hd : fs.doc (targetOf (resolveBase pb pre) ib href) with
      | none =>
        refine hfb _ ?_
        cases parse <;> simp [fetch, hd] at hp ⊢
      | some d =>
        rw [fetch_doc_of_ne_text hp hd] at ht
        cases List.mem_singleton.1 ht
        have hm : c ∈ (failed hasFb (procList fs root rec h pb (applyPre pre ib) fb)
            (annotate (resolveBase pb pre) (.incl href parse enc ib hasFb fb)) [c]).errs := by
          cases hasFb <;> simp [failed]
        rcases hc with ⟨hin, rfl⟩ | ⟨hin, hroot, rfl⟩
        · exact .inl ⟨hin, hm⟩
        · exact .inr (.inl ⟨hin, hroot, hm⟩)
    · rw [hfm]
      rw [hf] at ht
      cases List.mem_singleton.1 ht
      exact .inr (.inr ⟨d, pb, _, hr, hd, resolveBase_inclPre_applyPre .., fun c hc => hc⟩)
    · rw [hf] at ht; cases ht
    · rw [hfm]; exact hfb _ hf
  · intro k a b kids _ pb pre t ht; cases ht
  · intro b kids _ pb pre t ht; cases ht
  · intro pb pre t ht; cases ht
  · intro n ns ihn ihs pb pre t ht
    rw [edgesL] at ht
    rw [procList]
    rcases List.mem_append.1 ht with ht | ht
    · exact (ihn pb pre t ht).mono fun c => List.mem_append_left _
    · exact (ihs pb pre t ht).mono fun c => List.mem_append_right _

/-- A run that neither gives up nor reports a loop has descended into every live include, whatever the history, so
    everything reachable from the current document has been walked without meeting it again: the converse of
    what `agree_procFuel` says of the loop codes. -/
theorem acyclic_of_quiet : ∀ (n : Nat) (h : List URI) (cur : URI) (d : List Node) (pb : URI) (pre : Base),
    fs.doc cur = some d → resolveBase pb pre = cur →
    (∀ c ∈ (procFuel fs root n h pb pre d).errs,
      c ≠ outOfFuel ∧ c ≠ XIncludeCircularInclusionLoop ∧ c ≠ XIncludeCircularInclusionDocIncludesSelf) →
    Acyclic fs cur
  | 0, _, _, _, _, _, _, _, hq => absurd rfl (hq _ List.mem_cons_self).1
  | n + 1, h, cur, d, pb, pre, hd, hb, hq => by
    refine .mk _ fun v hv => ?_
    rw [edges_of_doc hd, ← hb] at hv
    rcases (visits_inner fs root (procFuel fs root n) h).2 d pb pre v hv with
      ⟨_, hm⟩ | ⟨_, _, hm⟩ | ⟨d', pb', pre', _, hd', hb', hc⟩
    · exact absurd rfl (hq _ hm).2.1
    · exact absurd rfl (hq _ hm).2.2
    · exact acyclic_of_quiet n (v :: h) v d' pb' pre' hd' hb' fun c hm => hq c (hc c hm)

end XV.Lemmas.XInclude
