/-
C13 (reference DOM), the store as the proofs see it.  Allocation apart, every mutation primitive of XV.Model.Dom is one
`Store.mapNodes`, and all but `killNodes` delete nothing, so `get` after a primitive is `(s.get i).map F` for a rewrite `F` of
the records (`get_mapNodes_some`); the invariant proofs use the primitives through these equations only.  The forms in which
the effects are stated (a link "kept or new", a record update of named fields) are those that `Link.map` and the `.frame`
lemmas of XV.Lemmas.DomWF take.  With them the list surgery on child lists and attribute maps, the order `nameLt`, and the
CharacterData arithmetic.
-/
import XV.Model.Dom
namespace XV.Lemmas.Dom
open XV.Model.Dom

theorem get_mapNodes (s : Store) (f : NodeId → NodeRec → Option NodeRec) (i : NodeId) :
    (s.mapNodes f).get i = (s.get i).bind (f i) := by
  unfold Store.mapNodes Store.get
  simp only [Array.getElem?_mapIdx]
  cases s.nodes[i]? with
  | none => rfl
  | some o => cases o <;> rfl

theorem get_mapNodes_some (s : Store) (F : NodeId → NodeRec → NodeRec) (i : NodeId) :
    (s.mapNodes fun i r => some (F i r)).get i = (s.get i).map (F i) := by
  rw [get_mapNodes]; cases s.get i <;> rfl

theorem size_mapNodes (s : Store) (f) : (s.mapNodes f).size = s.size := by
  simp [Store.mapNodes, Store.size]

theorem get_ge_size (s : Store) (i : NodeId) (h : s.size ≤ i) : s.get i = none := by
  unfold Store.get
  unfold Store.size at h
  rw [Array.getElem?_eq_none h]; rfl

theorem lt_size_of_get (s : Store) (i : NodeId) (r : NodeRec) (h : s.get i = some r) : i < s.size :=
  Nat.lt_of_not_le fun hn => by rw [get_ge_size s i hn] at h; cases h

theorem get_alloc (s : Store) (r : NodeRec) (i : NodeId) :
    (s.alloc r).1.get i = if i = s.size then some r else s.get i := by
  unfold Store.alloc Store.get Store.size
  simp only [Array.getElem?_push]
  split <;> rfl

theorem get_alloc_old {s : Store} {i : NodeId} {r : NodeRec} (r0 : NodeRec) (h : s.get i = some r) :
    (s.alloc r0).1.get i = some r := by
  rw [get_alloc, if_neg (Nat.ne_of_lt (lt_size_of_get s i r h))]; exact h

theorem get_alloc_new (s : Store) (r0 : NodeRec) : (s.alloc r0).1.get s.size = some r0 := by
  rw [get_alloc, if_pos rfl]

theorem size_alloc (s : Store) (r : NodeRec) : (s.alloc r).1.size = s.size + 1 := by
  simp [Store.alloc, Store.size]

theorem alloc_snd (s : Store) (r : NodeRec) : (s.alloc r).2 = s.size := rfl

theorem get_allocMany (s : Store) (rs : List NodeRec) (i : NodeId) :
    (s.allocMany rs).get i = if i < s.size then s.get i else rs[i - s.size]? := by
  unfold Store.allocMany Store.get Store.size
  simp only [Array.getElem?_append]
  split
  · rfl
  · simp only [List.getElem?_toArray, List.getElem?_map]
    cases rs[i - s.nodes.size]? <;> rfl

theorem size_allocMany (s : Store) (rs : List NodeRec) : (s.allocMany rs).size = s.size + rs.length := by
  simp [Store.allocMany, Store.size]

/-- the allocation `cloneInto` makes: `size + idxOf x` is `cloneId`, the id of the copy of `x` -/
theorem get_allocMany_map (s : Store) (D : List NodeId) (g : NodeId → NodeRec) (hD : D.Nodup) (i : NodeId)
    (r' : NodeRec) :
    (s.allocMany (D.map g)).get i = some r' ↔
      s.get i = some r' ∨ ∃ x, x ∈ D ∧ i = s.size + D.idxOf x ∧ r' = g x := by
  rw [get_allocMany]
  constructor
  · intro hi
    split at hi
    · exact .inl hi
    · rename_i hge
      rw [List.getElem?_map] at hi
      obtain ⟨x, hk, rfl⟩ := Option.map_eq_some_iff.mp hi
      obtain ⟨hlt, rfl⟩ := List.getElem?_eq_some_iff.mp hk
      refine .inr ⟨_, List.getElem_mem hlt, ?_, rfl⟩
      rw [hD.idxOf_getElem _ hlt, Nat.add_sub_of_le (Nat.le_of_not_lt hge)]
  · rintro (hi | ⟨x, hx, rfl, rfl⟩)
    · rw [if_pos (lt_size_of_get s i r' hi)]; exact hi
    · have hlt := List.idxOf_lt_length_of_mem hx
      rw [if_neg (Nat.not_lt.mpr (Nat.le_add_right _ _)), Nat.add_sub_cancel_left, List.getElem?_map,
        List.getElem?_eq_getElem hlt, List.getElem_idxOf hlt]
      rfl

theorem get_init (n i : Nat) :
    (init n).get i = if i < n then some { kind := .document, owner := i } else none := by
  unfold init Store.get
  simp only [List.getElem?_toArray, List.getElem?_map]
  by_cases h : i < n
  · rw [List.getElem?_range h, if_pos h]; rfl
  · rw [if_neg h, List.getElem?_eq_none (by simpa using h)]; rfl

theorem get_map_eq_some {s s' : Store} {F : NodeId → NodeRec → NodeRec}
    (hg : ∀ i, s'.get i = (s.get i).map (F i)) {i : NodeId} {r' : NodeRec} (h : s'.get i = some r') :
    ∃ r, s.get i = some r ∧ F i r = r' :=
  Option.map_eq_some_iff.mp (hg i ▸ h)

theorem get_map_of {s s' : Store} {F : NodeId → NodeRec → NodeRec}
    (hg : ∀ i, s'.get i = (s.get i).map (F i)) (i : NodeId) (r : NodeRec) (h : s.get i = some r) :
    s'.get i = some (F i r) := by rw [hg, h]; rfl

theorem nameOf_frame {s s' : Store} {F : NodeId → NodeRec → NodeRec} (hg : ∀ i, s'.get i = (s.get i).map (F i))
    (hn : ∀ i r, (F i r).name = r.name) : nameOf s' = nameOf s := by
  funext x
  unfold nameOf
  rw [hg]
  cases s.get x with
  | none => rfl
  | some r => exact hn x r

theorem parentOf_eq_some {s : Store} {c q : NodeId} :
    parentOf s c = some q ↔ ∃ rc, s.get c = some rc ∧ rc.parent = some q :=
  Option.bind_eq_some_iff

theorem mem_filter_not_contains {l dead : List NodeId} {c : NodeId} :
    c ∈ l.filter (fun c => !dead.contains c) ↔ c ∈ l ∧ c ∉ dead := by
  simp [List.mem_filter]

theorem length_filter_lt {α : Type} (l : List α) (P Q : α → Bool) (himp : ∀ y, Q y = true → P y = true)
    (hex : ∃ y, y ∈ l ∧ P y = true ∧ Q y = false) : (l.filter Q).length < (l.filter P).length := by
  have : l.filter Q = (l.filter P).filter Q := by
    rw [List.filter_filter]
    exact List.filter_congr fun y _ => by cases hq : Q y <;> simp [himp y, hq]
  obtain ⟨y, hy, hp, hq⟩ := hex
  rw [this]
  exact List.length_filter_lt_length_iff_exists.mpr ⟨y, List.mem_filter.mpr ⟨hy, hp⟩, by simp [hq]⟩

theorem nodup_map_on (f : NodeId → NodeId) (l : List NodeId) (hl : l.Nodup)
    (hf : ∀ a b, a ∈ l → b ∈ l → f a = f b → a = b) : (l.map f).Nodup := by
  unfold List.Nodup at *
  rw [List.pairwise_map]
  exact hl.imp_of_mem (fun ha hb hne heq => hne (hf _ _ ha hb heq))

theorem spliceBefore_perm (r : NodeId) (ms : List NodeId) : ∀ l, (spliceBefore r ms l).Perm (ms ++ l)
  | [] => by rw [spliceBefore, List.append_nil]
  | x :: xs => by
    unfold spliceBefore
    split
    · exact .refl _
    · exact ((spliceBefore_perm r ms xs).cons x).trans List.perm_middle.symm

theorem insertAt_perm (ref : Option NodeId) (ms l : List NodeId) : (insertAt ref ms l).Perm (ms ++ l) := by
  cases ref with
  | none => exact List.perm_append_comm
  | some r => exact spliceBefore_perm r ms l

theorem mem_insertAt (ref : Option NodeId) (ms l : List NodeId) (x : NodeId) :
    x ∈ insertAt ref ms l ↔ x ∈ ms ∨ x ∈ l :=
  (insertAt_perm ref ms l).mem_iff.trans List.mem_append

theorem nodup_insertAt (ref : Option NodeId) (ms l : List NodeId) (hl : l.Nodup) (hm : ms.Nodup)
    (hd : ∀ x, x ∈ ms → x ∉ l) : (insertAt ref ms l).Nodup :=
  (insertAt_perm ref ms l).nodup_iff.mpr (List.nodup_append.mpr ⟨hm, hl, fun a ha _ hb hab => hd a ha (hab ▸ hb)⟩)

theorem get_moveNodes (s : Store) (ms : List NodeId) (p : NodeId) (ref : Option NodeId) (i : NodeId) :
    (moveNodes s ms p ref).get i = (s.get i).map (fun r =>
      { r with
        children :=
          if i = p then insertAt ref ms (r.children.filter (fun c => !ms.contains c))
          else r.children.filter (fun c => !ms.contains c)
        parent := if ms.contains i then some p else r.parent }) :=
  get_mapNodes_some s _ i

/-- the child list `moveNodes` gives node `i` and, in the next lemma, its parent, each as "a link that is kept, or a new
one": the form of the hypotheses `hd`, `hu` of `Link.map` -/
theorem mem_movedKids (ms : List NodeId) (p : NodeId) (ref : Option NodeId) (i : NodeId) (l : List NodeId)
    (c : NodeId) :
    c ∈ (if i = p then insertAt ref ms (l.filter fun c => !ms.contains c) else l.filter fun c => !ms.contains c) ↔
      c ∈ l ∧ c ∉ ms ∨ i = p ∧ c ∈ ms := by
  split
  · rw [mem_insertAt, mem_filter_not_contains]; simp [*, or_comm]
  · rw [mem_filter_not_contains]; simp [*]

theorem movedParent_eq_some (ms : List NodeId) (p i : NodeId) (o : Option NodeId) (q : NodeId) :
    (if ms.contains i then some p else o) = some q ↔ o = some q ∧ i ∉ ms ∨ q = p ∧ i ∈ ms := by
  by_cases hi : i ∈ ms <;> simp [hi, eq_comm]

theorem get_detach (s : Store) (c i : NodeId) :
    (detach s c).get i = (s.get i).map (fun r =>
      { r with children := r.children.filter (fun x => x != c)
               parent := if i = c then none else r.parent }) :=
  get_mapNodes_some s _ i

/-- `setDataOf` and `setNameOf` as updates of one field, where the model has the `if` around the record: the shape the
`.frame` lemmas take -/
theorem get_setDataOf (s : Store) (t : NodeId) (d : List Nat) (i : NodeId) :
    (setDataOf s t d).get i = (s.get i).map fun r => { r with data := if i = t then d else r.data } :=
  (get_mapNodes_some s _ i).trans (congrArg (Option.map · _) (funext fun _ => by split <;> rfl))

theorem size_setDataOf (s : Store) (t : NodeId) (d : List Nat) : (setDataOf s t d).size = s.size := by
  unfold setDataOf; exact size_mapNodes s _

theorem get_setNameOf (s : Store) (n : NodeId) (nm : List Nat) (i : NodeId) :
    (setNameOf s n nm).get i = (s.get i).map fun r => { r with name := if i = n then nm else r.name } :=
  (get_mapNodes_some s _ i).trans (congrArg (Option.map · _) (funext fun _ => by split <;> rfl))

/-- the record of a node that survives `killNodes s dead` -/
def killRec (dead : List NodeId) (r : NodeRec) : NodeRec :=
  { r with
    children := r.children.filter (fun c => !dead.contains c)
    attrs := r.attrs.filter (fun c => !dead.contains c)
    parent := match r.parent with
      | some p => if dead.contains p then none else some p
      | none => none
    ownerElem := match r.ownerElem with
      | some e => if dead.contains e then none else some e
      | none => none }

theorem get_killNodes (s : Store) (dead : List NodeId) (i : NodeId) :
    (killNodes s dead).get i = (s.get i).bind fun r => if dead.contains i then none else some (killRec dead r) :=
  get_mapNodes s _ i

theorem get_killNodes_eq_some {s : Store} {dead : List NodeId} {i : NodeId} {r' : NodeRec} :
    (killNodes s dead).get i = some r' ↔ i ∉ dead ∧ ∃ r, s.get i = some r ∧ r' = killRec dead r := by
  rw [get_killNodes]
  cases s.get i with
  | none => simp
  | some r => by_cases hi : i ∈ dead <;> simp [hi, eq_comm]

theorem get_killNodes_of {s : Store} {dead : List NodeId} {i : NodeId} {r : NodeRec} (h : s.get i = some r)
    (hi : i ∉ dead) : (killNodes s dead).get i = some (killRec dead r) :=
  get_killNodes_eq_some.mpr ⟨hi, r, h, rfl⟩

theorem killRec_parent {dead : List NodeId} {r : NodeRec} {p : NodeId} :
    (killRec dead r).parent = some p ↔ r.parent = some p ∧ p ∉ dead := by
  unfold killRec
  cases r.parent with
  | none => simp
  | some q => by_cases hq : q ∈ dead <;> simp [hq] <;> rintro rfl <;> exact hq

theorem killRec_ownerElem {dead : List NodeId} {r : NodeRec} {e : NodeId} :
    (killRec dead r).ownerElem = some e ↔ r.ownerElem = some e ∧ e ∉ dead := by
  unfold killRec
  cases r.ownerElem with
  | none => simp
  | some q => by_cases hq : q ∈ dead <;> simp [hq] <;> rintro rfl <;> exact hq

theorem get_unlinkAttr (s : Store) (a i : NodeId) :
    (unlinkAttr s a).get i = (s.get i).map (fun r =>
      { r with attrs := r.attrs.filter (fun x => x != a)
               ownerElem := if i = a then none else r.ownerElem }) :=
  get_mapNodes_some s _ i

/-- the record `linkAttr s e a nm` gives node `i`; one record update where the model has a three-way `if`, which is the
shape `TreeN.frame` asks for -/
def linkF (s : Store) (e a : NodeId) (nm : List Nat) (i : NodeId) (r : NodeRec) : NodeRec :=
  { r with
    attrs := if i = e then insertSorted s a nm r.attrs else r.attrs
    ownerElem := if i ≠ e ∧ i = a then some e else r.ownerElem }

theorem get_linkAttr (s : Store) (e a : NodeId) (nm : List Nat) (i : NodeId) :
    (linkAttr s e a nm).get i = (s.get i).map (linkF s e a nm i) := by
  unfold linkAttr; rw [get_mapNodes]
  cases s.get i with
  | none => rfl
  | some r =>
    by_cases h1 : i = e
    · simp [linkF, h1]
    · by_cases h2 : i = a
      · subst h2; simp [linkF, h1]
      · simp [linkF, h1, h2]

theorem insertSorted_perm (s : Store) (a : NodeId) (nm : List Nat) : ∀ l, (insertSorted s a nm l).Perm (a :: l)
  | [] => .refl _
  | x :: xs => by
    unfold insertSorted
    split
    · exact .refl _
    · exact ((insertSorted_perm s a nm xs).cons x).trans (.swap a x xs)

theorem mem_insertSorted (s : Store) (a : NodeId) (nm : List Nat) (l : List NodeId) (x : NodeId) :
    x ∈ insertSorted s a nm l ↔ x = a ∨ x ∈ l :=
  (insertSorted_perm s a nm l).mem_iff.trans List.mem_cons

theorem nameLt_iff : ∀ a b : List Nat, nameLt a b = true ↔ a < b
  | [], [] => by simp [nameLt]
  | [], _ :: _ => by simp [nameLt]
  | _ :: _, [] => by simp [nameLt]
  | x :: xs, y :: ys => by
    rw [nameLt, List.cons_lt_cons_iff, ← nameLt_iff xs ys]
    by_cases h1 : x < y
    · simp [h1]
    · by_cases h2 : y < x
      · simp [h1, h2]; omega
      · simp [h1, h2]; omega

theorem nameLt_trans (a b c : List Nat) (h1 : nameLt a b = true) (h2 : nameLt b c = true) : nameLt a c = true :=
  (nameLt_iff a c).mpr (List.lt_trans ((nameLt_iff a b).mp h1) ((nameLt_iff b c).mp h2))

theorem nameLt_irrefl (a : List Nat) : nameLt a a = false :=
  Bool.eq_false_iff.mpr fun h => List.lt_irrefl a ((nameLt_iff a a).mp h)

theorem nameLt_total (a b : List Nat) (h : nameLt a b = false) (hne : a ≠ b) : nameLt b a = true := by
  rw [nameLt_iff]
  have hba : b ≤ a := List.not_lt.mp fun hlt => by rw [(nameLt_iff a b).mpr hlt] at h; cases h
  exact Classical.byContradiction fun hn => hne (List.le_antisymm (List.not_lt.mp hn) hba)

theorem findAttr_some (s : Store) (l : List NodeId) (nm : List Nat) (a : NodeId)
    (h : findAttr s l nm = some a) : a ∈ l ∧ nameOf s a = nm :=
  ⟨List.mem_of_find?_eq_some h, by simpa using List.find?_some h⟩

theorem findAttr_none (s : Store) (l : List NodeId) (nm : List Nat)
    (h : findAttr s l nm = none) : ∀ x, x ∈ l → nameOf s x ≠ nm :=
  fun x hx => by simpa using List.find?_eq_none.mp h x hx

theorem length_insertAtOff (l d : List Nat) (off : Nat) (h : off ≤ l.length) :
    (insertAtOff l off d).length = l.length + d.length := by
  unfold insertAtOff
  rw [List.length_append, List.length_append, List.length_take_of_le h, List.length_drop]
  omega

theorem substr_insertAtOff (l d : List Nat) (off : Nat) (h : off ≤ l.length) :
    substr (insertAtOff l off d) off d.length = d := by
  unfold substr insertAtOff
  rw [List.append_assoc, List.drop_left' (List.length_take_of_le h), List.take_left' rfl]

theorem delete_insertAtOff (l d : List Nat) (off : Nat) (h : off ≤ l.length) :
    deleteRange (insertAtOff l off d) off d.length = l := by
  unfold deleteRange insertAtOff
  rw [List.drop_left' (by rw [List.length_append, List.length_take_of_le h]), List.append_assoc,
    List.take_left' (List.length_take_of_le h), List.take_append_drop]

theorem insertAtOff_deleteRange (l d : List Nat) (off cnt : Nat) (h : off ≤ l.length) :
    insertAtOff (deleteRange l off cnt) off d = l.take off ++ d ++ l.drop (off + cnt) := by
  unfold insertAtOff deleteRange
  rw [List.take_left' (List.length_take_of_le h), List.drop_left' (List.length_take_of_le h)]

theorem length_deleteRange (l : List Nat) (off cnt : Nat) (h : off ≤ l.length) :
    (deleteRange l off cnt).length = l.length - min cnt (l.length - off) := by
  unfold deleteRange
  rw [List.length_append, List.length_take_of_le h, List.length_drop]
  omega

theorem length_substr (l : List Nat) (off cnt : Nat) :
    (substr l off cnt).length = min cnt (l.length - off) := by
  unfold substr; simp [List.length_take, List.length_drop]

theorem substr_getElem (l : List Nat) (off cnt i : Nat) (hi : i < cnt) :
    (substr l off cnt)[i]? = l[off + i]? := by
  unfold substr
  rw [List.getElem?_take_of_lt hi, List.getElem?_drop]

end XV.Lemmas.Dom
