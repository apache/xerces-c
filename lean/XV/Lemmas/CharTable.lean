/-
Finite-table checking by big-number arithmetic.  The 65536-entry byte table is one number `T` (entry `c` in
bits 8c..8c+7).  For a class given as a set expression over ranges, the expected bit plane (bit 8c+j set iff
c is in the class) is built with a handful of shifts/ors, so that the kernel compares whole planes at once
(`Nat` operations on literals are GMP-accelerated).  `checkTable_spec` lifts the Boolean check to the `∀`.
Apart from that, `inRanges_eval` reads the range lists of XV.Spec.XmlChar as range expressions (XV.Lemmas.RangeExp).
-/
import XV.Model.XmlChar
import XV.Spec.XmlChar
import XV.Lemmas.RangeExp
namespace XV.Lemmas.CharTable
open XV.Model.XmlChar XV.Spec.XmlChar

open XV.Lemmas.RangeExp RExp in
/-- XV.Spec.XmlChar tests with `Nat.ble`; read as a range expression its tables are the same lists, so that a fact
    about all code points of some classes is one evaluation at their end points (`RExp.always_spec`) -/
theorem inRanges_eval (R : Ranges) (c : Nat) : inRanges R c = (ofRanges R).eval c := by
  induction R with
  | nil => rfl
  | cons r t ih =>
    rw [inRanges, List.any_cons, ← inRanges, ih, ofRanges, eval, eval, inR]
    congr 1
    rw [Bool.eq_iff_iff, Bool.and_eq_true, Bool.and_eq_true, Nat.ble_eq, Nat.ble_eq, decide_eq_true_eq, decide_eq_true_eq]

/-- 0x…010101 with 2^k one-bytes -/
def ones8 : Nat → Nat
  | 0 => 1
  | k + 1 => ones8 k ||| (ones8 k <<< (8 * 2 ^ k))

theorem testBit_ones8 (k m : Nat) : (ones8 k).testBit (8 * m) = decide (m < 2 ^ k) := by
  induction k generalizing m with
  | zero =>
    rw [ones8, show (1 : Nat) = 2 ^ 0 from rfl, Nat.testBit_two_pow, Bool.eq_iff_iff]
    simp only [decide_eq_true_eq]
    omega
  | succ k ih =>
    rw [ones8, Nat.testBit_or, Nat.testBit_shiftLeft, ih, ← Nat.mul_sub, ih, Nat.pow_succ]
    generalize 2 ^ k = p
    rw [Bool.eq_iff_iff]
    simp only [Bool.or_eq_true, Bool.and_eq_true, decide_eq_true_eq, ge_iff_le]
    omega

/-- bit plane (flag bit `j`) of a union of ranges, over the 65536 table entries and beyond; a range is a run of
    `hi + 1 - lo` one-bytes, none if `hi < lo` -/
def planeR (j : Nat) : Ranges → Nat
  | [] => 0
  | r :: R => ((ones8 16 % 2 ^ (8 * (r.2 + 1 - r.1))) <<< (8 * r.1 + j)) ||| planeR j R

theorem testBit_planeR (j c : Nat) (hc : c < 65536) (R : Ranges) :
    (planeR j R).testBit (8 * c + j) = inRanges R c := by
  induction R with
  | nil => exact Nat.zero_testBit _
  | cons r R ih =>
    show _ = (inR c r.1 r.2 || inRanges R c)
    rw [planeR, Nat.testBit_or, ih]
    congr 1
    rw [Nat.testBit_shiftLeft, Nat.testBit_mod_two_pow, show 8 * c + j - (8 * r.1 + j) = 8 * (c - r.1) by omega,
      testBit_ones8, show (2 : Nat) ^ 16 = 65536 from rfl, Bool.eq_iff_iff]
    simp only [inR, Bool.and_eq_true, decide_eq_true_eq, ge_iff_le, Nat.ble_eq]
    omega

def plane (j : Nat) : CSet → Nat
  | .rs R => planeR j R
  | .union a b => plane j a ||| plane j b
  | .diff a b => plane j a ^^^ (plane j a &&& plane j b)

theorem testBit_plane (j c : Nat) (hc : c < 65536) (e : CSet) :
    (plane j e).testBit (8 * c + j) = e.mem c := by
  induction e with
  | rs R => exact testBit_planeR j c hc R
  | union a b iha ihb => simp [plane, CSet.mem, iha, ihb]
  | diff a b iha ihb =>
    simp only [plane, CSet.mem, Nat.testBit_xor, Nat.testBit_and, iha, ihb]
    cases a.mem c <;> cases b.mem c <;> rfl

/-- the table as one number: page `q` in bits 2048q .. 2048q+2047 -/
def packPages : List Nat → Nat
  | [] => 0
  | pg :: rest => pg ||| (packPages rest <<< 2048)

theorem testBit_ge_of_lt_two_pow {x n i : Nat} (h : x < 2 ^ n) (hi : n ≤ i) : x.testBit i = false :=
  Nat.testBit_lt_two_pow (Nat.lt_of_lt_of_le h (Nat.pow_le_pow_right (by decide) hi))

theorem testBit_packPages (pages : List Nat) (h : ∀ pg ∈ pages, pg < 2 ^ 2048) (q r : Nat) (hr : r < 2048) :
    (packPages pages).testBit (2048 * q + r) = (pages.getD q 0).testBit r := by
  induction pages generalizing q with
  | nil => simp [packPages]
  | cons pg rest ih =>
    have hrest : ∀ p ∈ rest, p < 2 ^ 2048 := fun p hp => h p (List.mem_cons_of_mem _ hp)
    cases q with
    | zero =>
      simp only [packPages, Nat.testBit_or, Nat.testBit_shiftLeft, Nat.mul_zero, Nat.zero_add, List.getD_cons_zero]
      have : decide (r ≥ 2048) = false := by simp; omega
      rw [this]; simp
    | succ q =>
      simp only [packPages, Nat.testBit_or, Nat.testBit_shiftLeft, List.getD_cons_succ]
      rw [testBit_ge_of_lt_two_pow (h pg (List.mem_cons_self ..)) (by omega)]
      have : decide (2048 * (q + 1) + r ≥ 2048) = true := by simp; omega
      rw [this]
      have e : 2048 * (q + 1) + r - 2048 = 2048 * q + r := by omega
      rw [e, ih hrest]; simp

/-- the mask `m` is one bit `j < 8`, and bit plane `j` of the table `T` is the plane expected of `e`, cut to 65536 entries -/
def checkClass (T : Nat) (m : Nat) (e : CSet) : Bool :=
  Nat.beq (2 ^ Nat.log2 m) m && Nat.blt (Nat.log2 m) 8 &&
  Nat.beq (T &&& (ones8 16 <<< Nat.log2 m)) (plane (Nat.log2 m) e % 2 ^ (8 * 65536))

/-- the pages are 256 numbers below 2^2048, and every class checks against them.  `checkTable_spec` makes no use of the
    length: a missing page reads as 0 in `packPages` and in `getD` alike -/
def checkTable (pages : List Nat) (cls : List (Nat × CSet)) : Bool :=
  Nat.beq pages.length 256 && pages.all (fun pg => Nat.blt pg (2 ^ 2048)) &&
  cls.all (fun me => checkClass (packPages pages) me.1 me.2)

theorem flag_two_pow (b j : Nat) : flag b (2 ^ j) = b.testBit j := by
  unfold flag
  cases hb : b.testBit j with
  | true =>
    have h1 : (b &&& 2 ^ j).testBit j = true := by simp [Nat.testBit_and, hb, Nat.testBit_two_pow_self]
    have : b &&& 2 ^ j ≠ 0 := by
      intro h0; rw [h0, Nat.zero_testBit] at h1; exact Bool.noConfusion h1
    simpa using this
  | false =>
    have : b &&& 2 ^ j = 0 := by
      apply Nat.eq_of_testBit_eq
      intro i
      rw [Nat.testBit_and, Nat.testBit_two_pow, Nat.zero_testBit]
      by_cases hij : j = i
      · subst hij; simp [hb]
      · simp [hij]
    simp [this]

theorem checkTable_spec (pages : List Nat) (cls : List (Nat × CSet)) (h : checkTable pages cls = true) :
    ∀ c, c < 65536 → ∀ me ∈ cls, flag (byteAt (pages.getD (c / 256) 0) (c % 256)) me.1 = me.2.mem c := by
  intro c hc me hme
  simp only [checkTable, Bool.and_eq_true, List.all_eq_true] at h
  obtain ⟨⟨_, hpg⟩, hcls⟩ := h
  have hpg' : ∀ pg ∈ pages, pg < 2 ^ 2048 := fun pg hp => by
    exact Nat.le_of_ble_eq_true (hpg pg hp)
  have hk := hcls me hme
  simp only [checkClass, Bool.and_eq_true] at hk
  obtain ⟨⟨hm, hj⟩, heq⟩ := hk
  have hm' : 2 ^ Nat.log2 me.1 = me.1 := Nat.eq_of_beq_eq_true hm
  have hj' : Nat.log2 me.1 < 8 := by
    have := Nat.le_of_ble_eq_true (by simpa [Nat.blt] using hj); omega
  have heq' := Nat.eq_of_beq_eq_true heq
  generalize Nat.log2 me.1 = j at hm' hj' heq'
  rw [← hm']
  rw [flag_two_pow]
  have h256 : (256 : Nat) = 2 ^ 8 := by decide
  unfold byteAt
  rw [h256, Nat.testBit_mod_two_pow, Nat.testBit_shiftRight]
  have hjd : decide (j < 8) = true := by simp [hj']
  rw [hjd, Bool.true_and]
  have hr : 8 * (c % 256) + j < 2048 := by omega
  rw [← testBit_packPages pages hpg' (c / 256) _ hr]
  have e1 : 2048 * (c / 256) + (8 * (c % 256) + j) = 8 * c + j := by omega
  rw [e1]
  have key := congrArg (fun x => Nat.testBit x (8 * c + j)) heq'
  simp only [Nat.testBit_and, Nat.testBit_shiftLeft, Nat.testBit_mod_two_pow, Nat.add_sub_cancel, testBit_ones8,
    testBit_plane j c hc, ge_iff_le, Nat.le_add_left, decide_true,
    decide_eq_true (show c < 2 ^ 16 from hc), Bool.and_true] at key
  rw [decide_eq_true (show 8 * c + j < 8 * 65536 by omega), Bool.true_and] at key
  exact key

end XV.Lemmas.CharTable
