/-
Lemmas for C16 about the object-graph machines `storeRun` / `loadRun`: two independent inductions over the storer's run.
Bytes (`graph_sim`): the loading engine follows the storing engine in lock step (`GInv`: buffers in `Sync`, pools of equal
size), each work item a round trip in the shape of `RT`.  Names (`storeRun_sinv`): pool indices are handed out increasing, to
fresh keys (`PoolOK`, `Extends`), so the index trace is the pointer trace renamed by any later pool (`SInv`).  At the end, a
Boolean check of `HeapOK` for concrete heaps.
-/
import XV.Lemmas.SerEngine
namespace XV.Lemmas.SerGraph
open XV.Model.SerEngine XV.Gen.SerConsts XV.Lemmas.SerEngine

inductive All2 {α β : Type} (R : α → β → Prop) : List α → List β → Prop
  | nil : All2 R [] []
  | cons {a b as bs} : R a b → All2 R as bs → All2 R (a :: as) (b :: bs)

theorem All2.append {α β : Type} {R : α → β → Prop} {as bs cs ds} (h1 : All2 R as bs) (h2 : All2 R cs ds) :
    All2 R (as ++ cs) (bs ++ ds) := by
  induction h1 with
  | nil => exact h2
  | cons hr _ ih => exact All2.cons hr ih

def fmatch (h : Heap) : Fld → FldTy → Prop
  | .val v, .val sh => v.shape = sh ∧ v.ok
  | .ptr q, .ptr c => q = 0 ∨ ∃ n, heapLookup h q = some n ∧ n.cls = c
  | _, _ => False

/-- every object's fields have the layout its class's `serialize` follows, and every pointer field points to an object
of the field's static class (polymorphic fields go through helper pairs such as storeDV/loadDV, outside this model) -/
def HeapOK (sch : Schema) (h : Heap) : Prop :=
  ∀ p n, heapLookup h p = some n → All2 (fmatch h) n.flds (sch n.cls).flds

/-- the loader's work list `wl` names the static types of the storer's work list: a value goes with its shape, a pointer
with a class its target has; both lists carry the owner's pool index -/
inductive WorkRel (h : Heap) : List (Nat × Nat × Fld) → List (Nat × FldTy) → Prop
  | nil : WorkRel h [] []
  | val {o oi v ws wl} : v.ok → WorkRel h ws wl → WorkRel h ((o, oi, .val v) :: ws) ((oi, .val v.shape) :: wl)
  | ptr {o oi p c ws wl} : (p = 0 ∨ ∃ n, heapLookup h p = some n ∧ n.cls = c) → WorkRel h ws wl →
      WorkRel h ((o, oi, .ptr p) :: ws) ((oi, .ptr c) :: wl)

theorem WorkRel.push {h : Heap} {ws : List (Nat × Nat × Fld)} {wl : List (Nat × FldTy)} (p i : Nat) (hw : WorkRel h ws wl)
    {flds : List Fld} {tys : List FldTy} (hf : All2 (fmatch h) flds tys) :
    WorkRel h (flds.map (fun x => (p, i, x)) ++ ws) (tys.map (fun t => (i, t)) ++ wl) := by
  induction hf with
  | nil => exact hw
  | @cons a b _ _ hab _ ih =>
    cases a <;> cases b
    · obtain ⟨rfl, hok⟩ := hab; exact .val hok ih
    · exact hab.elim
    · exact hab.elim
    · exact .ptr hab ih

/-- the loading engine `l` stands where the storing engine `s` stood and has `r` left to read: buffers in step, and the
load pool has one entry for every object id the store pool has handed out -/
structure GInv (s : Store) (l : Load) (r : List Nat) : Prop where
  sync : Sync s.b l.b r
  cnt : l.count = s.count
  len : l.pool.length = s.count
  bound : ∀ k, poolLookup s.pool k ≤ s.count
  max : s.count ≤ fgMaxObjectCount

theorem c_mask : fgClassMask = 2147483648 := by decide
theorem c_new : fgNewClassTag = 4294967295 := by decide
theorem c_max : fgMaxObjectCount = 1073741821 := by decide
theorem c_null : fgNullObjectTag = 0 := by decide
theorem c_uint : 256 ^ Ty.uint.w.xfer = 4294967296 := by decide

/-- an object id fits the tag word, and its class bit is clear -/
theorem tag_ref {t : Nat} (h : t ≤ fgMaxObjectCount) : t < 256 ^ Ty.uint.w.xfer ∧ (t / fgClassMask % 2 == 0) = true := by
  rw [c_max] at h; rw [c_uint, c_mask, beq_iff_eq]; omega

/-- a class index under the class mask fits the tag word, has the class bit set, and is not the new-class tag -/
theorem tag_cls {x : Nat} (h : x ≤ fgMaxObjectCount) :
    fgClassMask + x < 256 ^ Ty.uint.w.xfer ∧ ((fgClassMask + x) / fgClassMask % 2 == 0) = false ∧
      (fgClassMask + x == fgNewClassTag) = false := by
  rw [c_max] at h; rw [c_uint, c_mask, c_new, beq_eq_false_iff_ne, beq_eq_false_iff_ne]; omega

/-- a round trip of the buffers is one of the engines: the pools are not touched -/
theorem _root_.XV.Lemmas.SerEngine.RT.lift {put : SBuf → SBuf} {P : Prop} {G : LBuf → LBuf → Prop} (h : RT put P G) {s : Store} (hwf : WF s.b) :
    ∃ w, Wrote s.b (put s.b) w ∧ (P → ∀ {l : Load} {t : List Nat}, GInv s l (w ++ t) →
      ∃ b', G l.b b' ∧ GInv { s with b := put s.b } { l with b := b' } t) :=
  have ⟨w, hw, r⟩ := h s.b hwf
  ⟨w, hw, fun hp l t hi => have ⟨b', hg, hs⟩ := r hp l.b t hi.sync; ⟨b', hg, hs, hi.cnt, hi.len, hi.bound, hi.max⟩⟩

theorem add_some {s s' : Store} {k : Key} (h : s.add k = some s') :
    s'.b = s.b ∧ s'.count = s.count + 1 ∧ s'.pool = (k, s.count + 1) :: s.pool ∧ s.count < fgMaxObjectCount := by
  unfold Store.add at h
  split at h
  · cases h
  · cases h; exact ⟨rfl, rfl, rfl, Nat.lt_of_not_le ‹_›⟩

theorem poolLookup_cons (k k' : Key) (i : Nat) (r : List (Key × Nat)) :
    poolLookup ((k, i) :: r) k' = if k = k' then i else poolLookup r k' := rfl

theorem poolLookup_cons_le {pool : List (Key × Nat)} {k k' : Key} {c : Nat} (hb : ∀ k, poolLookup pool k ≤ c) :
    poolLookup ((k, c + 1) :: pool) k' ≤ c + 1 := by
  rw [poolLookup_cons]
  split
  · exact Nat.le_refl _
  · exact Nat.le_succ_of_le (hb k')

/-- `addStorePool` and `addLoadPool` keep the engines in step -/
theorem ginv_add {s s' : Store} {l : Load} {r : List Nat} {k : Key} (e : LEntry) (hi : GInv s l r)
    (ha : s.add k = some s') :
    l.add e = .ok { l with pool := l.pool ++ [e], count := l.count + 1 } ∧
    GInv s' { l with pool := l.pool ++ [e], count := l.count + 1 } r := by
  obtain ⟨hb, hc, hp, hm⟩ := add_some ha
  refine ⟨?_, hb ▸ hi.sync, show l.count + 1 = _ by rw [hc, hi.cnt],
    show (l.pool ++ [e]).length = _ by rw [List.length_append, hi.len, hc]; rfl, fun k' => ?_,
    hc ▸ Nat.succ_le_of_lt hm⟩
  · unfold Load.add
    rw [if_neg (by rw [hi.len, hi.cnt, bne_self_eq_false]; exact Bool.false_ne_true), if_neg (Nat.not_le.2 (hi.cnt ▸ hm))]
  · rw [hp, hc]; exact poolLookup_cons_le hi.bound

theorem writeProto_cases {s s1 : Store} {c : Nat} {name : List Nat} (h : s.writeProto c name = some s1) :
    (s.lookup (.cls c) ≠ 0 ∧ s1 = s.putTag (fgClassMask + s.lookup (.cls c))) ∨
    (s.lookup (.cls c) = 0 ∧
      ({ s with b := ((s.b.putPrim Ty.uint.w fgNewClassTag).putUL name.length).putRaw name } : Store).add (.cls c)
        = some s1) := by
  unfold Store.writeProto at h
  by_cases hz : s.lookup (.cls c) = 0
  · right; refine ⟨hz, ?_⟩; simpa [hz, Store.putTag] using h
  · left; refine ⟨hz, ?_⟩
    have : (s.lookup (.cls c) != 0) = true := by simp [hz]
    simp only [this, if_true, Option.some.injEq] at h; exact h.symm

/-- the class-name record: tag, name length, name -/
theorem rt_record (name : List Nat) :
    RT (fun b => ((b.putPrim Ty.uint.w fgNewClassTag).putUL name.length).putRaw name) (name.length < noDataFollowed)
      (fun b b' => ∃ b1 b2, b.getPrim Ty.uint.r = .ok (fgNewClassTag, b1) ∧ b1.getUL = .ok (name.length, b2) ∧
        b2.getRaw name.length = .ok (name, b')) :=
  (((rt_ty .uint fgNewClassTag).seq (rt_ul name.length)).seq (rt_raw name)).map
    (fun hn => ⟨⟨by decide, Nat.le_of_lt hn⟩, trivial⟩) fun _ _ _ ⟨b2, ⟨b1, h1, h2⟩, h3⟩ => ⟨b1, b2, h1, h2, h3⟩

/-- `write(XProtoType*)` against `read(XProtoType*, …)`, in the shape of `RT` -/
theorem rt_proto {s s1 : Store} {c : Nat} {name : List Nat} (hw : s.writeProto c name = some s1) (hwf : WF s.b) :
    ∃ w, Wrote s.b s1.b w ∧ (name.length < noDataFollowed → ∀ {l : Load} {t : List Nat}, GInv s l (w ++ t) →
      ∃ l1, l.readProto c name = .ok (none, l1) ∧ GInv s1 l1 t) := by
  rcases writeProto_cases hw with ⟨hne, rfl⟩ | ⟨hz, h2⟩
  · -- a class seen before: its index with the class bit
    obtain ⟨w, hw1, r⟩ := (rt_ty .uint (fgClassMask + s.lookup (.cls c))).lift hwf
    refine ⟨w, hw1, fun _ l t hi => ?_⟩
    have hb : s.lookup (.cls c) ≤ s.count := hi.bound (.cls c)
    obtain ⟨ht, e1, e2⟩ := tag_cls (Nat.le_trans hb hi.max)
    obtain ⟨b', hg, hi1⟩ := r ht hi
    refine ⟨_, ?_, hi1⟩
    have e3 : (fgClassMask + s.lookup (.cls c) - fgClassMask == 0 ||
        decide (fgClassMask + s.lookup (.cls c) - fgClassMask > l.pool.length)) = false := by
      rw [hi.len, Nat.add_sub_cancel_left, Bool.or_eq_false_iff, beq_eq_false_iff_ne, decide_eq_false_iff_not]
      exact ⟨hne, Nat.not_lt.2 hb⟩
    simp only [Load.readProto, Load.getTag, hg, bind, Except.bind, e1, e2, e3, Bool.false_eq_true, if_false]
  · -- a new class: the record, then both pools grow
    rw [(add_some h2).1]
    obtain ⟨w, hw1, r⟩ := (rt_record name).lift hwf
    refine ⟨w, hw1, fun hn l t hi => ?_⟩
    obtain ⟨b', ⟨b1, b2, h1, h2', h3⟩, hi1⟩ := r hn hi
    obtain ⟨ha, hi2⟩ := ginv_add (.cls c) hi1 h2
    refine ⟨_, ?_, hi2⟩
    have e1 : (fgNewClassTag / fgClassMask % 2 == 0) = false := by decide
    simp only [Load.readProto, Load.getTag, Load.readProtoRecord, h1, h2', h3, bind, Except.bind, e1,
      Bool.false_eq_true, if_false, beq_self_eq_true, if_true, bne_self_eq_false]
    simp only [ha]

/-- a reference to an object written before (or the null pointer): its id, with the class bit clear -/
theorem rt_ref {s : Store} (t : Nat) (hwf : WF s.b) :
    ∃ w, Wrote s.b (s.putTag t).b w ∧ (t ≤ s.count → ∀ {l : Load} {r : List Nat}, GInv s l (w ++ r) → ∀ (c : Nat) (name : List Nat),
      ∃ l1, l.readProto c name = .ok (some t, l1) ∧ l1.lookup t = .ok t ∧ GInv (s.putTag t) l1 r) := by
  obtain ⟨w, hw, r⟩ := (rt_ty .uint t).lift hwf
  refine ⟨w, hw, fun ht l _ hi c name => ?_⟩
  obtain ⟨h32, e1⟩ := tag_ref (Nat.le_trans ht hi.max)
  obtain ⟨b', hg, hi1⟩ := r h32 hi
  refine ⟨_, by simp only [Load.readProto, Load.getTag, hg, bind, Except.bind, e1, if_true], ?_, hi1⟩
  show (if t > l.pool.length then _ else _) = _
  rw [if_neg (Nat.not_lt.2 (hi.len ▸ ht))]

/-- The graph machines in the shape of `RT`.  The storing machine only appends to its buffer, whatever the heap.  If heap
and work list are well typed, a loading engine that stands where the storing engine stands and has left what the run
writes and then `t`, follows it to the end, rebuilds the index trace, and has `t` left. -/
theorem graph_sim {sch : Schema} {h : Heap} {f : Nat} {ws : List (Nat × Nat × Fld)} {s : Store} {tp ti : List (Nat × Fld)}
    {sF : Store} {tpF tiF : List (Nat × Fld)} (hr : storeRun sch h f ws s tp ti = some (sF, tpF, tiF)) (hwf : WF s.b) :
    ∃ w, Wrote s.b sF.b w ∧
    (HeapOK sch h → (∀ c, (sch c).name.length < noDataFollowed) → ∀ {wl : List (Nat × FldTy)} {l : Load} {t : List Nat},
      WorkRel h ws wl → GInv s l (w ++ t) → ∃ lF, loadRun sch f wl l ti = .ok (lF, tiF) ∧ GInv sF lF t) := by
  fun_induction storeRun sch h f ws s tp ti with
  | case1 =>
    cases hr
    exact ⟨[], .refl hwf, fun _ _ _ l _ hw hi => by cases hw; exact ⟨l, by cases ‹Nat› <;> rfl, hi⟩⟩
  | case2 | case6 | case7 | case8 => cases hr
  | case3 f o oi v rest s tp ti ih =>
    obtain ⟨w1, hw1, r1⟩ := (rt_val v).lift hwf
    obtain ⟨w2, hw2, r⟩ := ih hr hw1.wf
    refine ⟨w1 ++ w2, hw1.trans hw2, fun hheap hnames _ l t hw hi => ?_⟩
    cases hw with | val hok htl =>
    obtain ⟨b', hg, hi1⟩ := r1 hok (List.append_assoc .. ▸ hi)
    obtain ⟨lF, hlF, hiF⟩ := r hheap hnames htl hi1
    exact ⟨lF, by simpa only [loadRun, Load.getVal, hg, bind, Except.bind] using hlF, hiF⟩
  | case4 f o oi rest s tp ti ih =>
    rw [c_null] at hr ih
    obtain ⟨w1, hw1, r1⟩ := rt_ref (s := s) 0 hwf
    obtain ⟨w2, hw2, r⟩ := ih hr hw1.wf
    refine ⟨w1 ++ w2, hw1.trans hw2, fun hheap hnames _ l t hw hi => ?_⟩
    cases hw with | @ptr _ _ _ c _ _ _ htl =>
    obtain ⟨l1, hg, hlk, hi1⟩ := r1 (Nat.zero_le _) (List.append_assoc .. ▸ hi) c (sch c).name
    obtain ⟨lF, hlF, hiF⟩ := r hheap hnames htl hi1
    exact ⟨lF, by simpa only [loadRun, hg, hlk, bind, Except.bind] using hlF, hiF⟩
  | case5 f o oi p rest s tp ti hp hs ih =>
    obtain ⟨w1, hw1, r1⟩ := rt_ref (s.lookup (.obj p)) hwf
    obtain ⟨w2, hw2, r⟩ := ih hr hw1.wf
    refine ⟨w1 ++ w2, hw1.trans hw2, fun hheap hnames _ l t hw hi => ?_⟩
    cases hw with | @ptr _ _ _ c _ _ _ htl =>
    obtain ⟨l1, hg, hlk, hi1⟩ := r1 (hi.bound _) (List.append_assoc .. ▸ hi) c (sch c).name
    obtain ⟨lF, hlF, hiF⟩ := r hheap hnames htl hi1
    exact ⟨lF, by simpa only [loadRun, hg, hlk, bind, Except.bind] using hlF, hiF⟩
  | case9 f o oi p rest s tp ti hp hs n hn s1 hw1 s2 ha ih =>
    obtain ⟨w0, hw0, r0⟩ := rt_proto hw1 hwf
    have hb2 := (add_some ha).1
    obtain ⟨w2, hw2, r⟩ := ih hr (hb2 ▸ hw0.wf)
    refine ⟨w0 ++ w2, (hb2 ▸ hw0).trans hw2, fun hheap hnames _ l t hw hi => ?_⟩
    cases hw with | ptr hfm htl =>
    obtain ⟨n', hn', rfl⟩ := hfm.resolve_left hp
    cases hn.symm.trans hn'
    obtain ⟨l1, hg1, hi1⟩ := r0 (hnames _) (List.append_assoc .. ▸ hi)
    obtain ⟨hadd, hi2⟩ := ginv_add (.obj n.cls) hi1 ha
    obtain ⟨lF, hlF, hiF⟩ := r hheap hnames (htl.push p s2.count (hheap p n hn)) hi2
    exact ⟨lF, by simpa only [loadRun, hg1, bind, Except.bind, hadd, show l1.count + 1 = s2.count from hi2.cnt] using hlF, hiF⟩

def idx (pool : List (Key × Nat)) (p : Nat) : Nat := poolLookup pool (.obj p)

def renameFld (pool : List (Key × Nat)) : Fld → Fld
  | .val v => .val v
  | .ptr p => .ptr (idx pool p)

def rename (pool : List (Key × Nat)) (e : Nat × Fld) : Nat × Fld := (idx pool e.1, renameFld pool e.2)

/-- the pointer is null or already in the store pool: its index is final (`Extends`) -/
def Reg (pool : List (Key × Nat)) (p : Nat) : Prop := p = 0 ∨ idx pool p ≠ 0

/-- every index the store pool has handed out is at most `count` and belongs to one key; the null pointer has none -/
structure PoolOK (pool : List (Key × Nat)) (count : Nat) : Prop where
  bound : ∀ k, poolLookup pool k ≤ count
  inj : ∀ k1 k2, poolLookup pool k1 = poolLookup pool k2 → poolLookup pool k1 ≠ 0 → k1 = k2
  null : poolLookup pool (.obj 0) = 0

theorem poolOK_cons {pool : List (Key × Nat)} {c : Nat} (k : Key) (h : PoolOK pool c) (hk : k ≠ .obj 0) :
    PoolOK ((k, c + 1) :: pool) (c + 1) := by
  refine ⟨fun k' => poolLookup_cons_le h.bound, fun k1 k2 he hne => ?_, by rw [poolLookup_cons, if_neg hk]; exact h.null⟩
  have b1 := h.bound k1
  have b2 := h.bound k2
  rw [poolLookup_cons] at he hne
  rw [poolLookup_cons] at he
  -- the new index `c + 1` is above every old one
  split at he <;> split at he
  · exact ‹k = k1›.symm.trans ‹k = k2›
  · omega
  · omega
  · rw [if_neg ‹¬k = k1›] at hne; exact h.inj k1 k2 he hne

/-- `pool'` is `pool` after more additions: every pointer registered in `pool` keeps its index -/
def Extends (pool pool' : List (Key × Nat)) : Prop := ∀ q, Reg pool q → idx pool' q = idx pool q

theorem Extends.refl (pool : List (Key × Nat)) : Extends pool pool := fun _ _ => rfl

theorem Extends.reg {pool pool' : List (Key × Nat)} (h : Extends pool pool') {q : Nat} (hq : Reg pool q) : Reg pool' q :=
  hq.imp_right fun h1 => by rw [h q (.inr h1)]; exact h1

theorem Extends.trans {a b c : List (Key × Nat)} (h1 : Extends a b) (h2 : Extends b c) : Extends a c :=
  fun q hq => by rw [h2 q (h1.reg hq), h1 q hq]

theorem extends_cons {pool : List (Key × Nat)} (i : Nat) {k : Key} (hfresh : poolLookup pool k = 0) (hk0 : k ≠ .obj 0) :
    Extends pool ((k, i) :: pool) := by
  intro p hr
  unfold idx
  rw [poolLookup_cons, if_neg]
  rintro rfl
  exact hr.elim (fun h0 => hk0 (by rw [h0])) (fun h1 => h1 hfresh)

/-- `write(XProtoType*)` registers class keys only -/
theorem writeProto_pool {s s1 : Store} {c : Nat} {name : List Nat} (h : s.writeProto c name = some s1)
    (hp : PoolOK s.pool s.count) : PoolOK s1.pool s1.count ∧ ∀ p, idx s1.pool p = idx s.pool p := by
  rcases writeProto_cases h with ⟨_, rfl⟩ | ⟨_, h2⟩
  · exact ⟨hp, fun _ => rfl⟩
  · obtain ⟨_, hc, hpool, _⟩ := add_some h2
    rw [hpool, hc]
    exact ⟨poolOK_cons _ hp (by simp), fun p => by rw [idx, poolLookup_cons, if_neg (by simp)]; rfl⟩

/-- the storing machine's state.  Both facts about indices are stated of every pool the present one may grow to, the
final one among them, so that a step which adds to the pool has nothing to redo for the trace so far: an owner on the work
list has the index the list carries, and the index trace is the pointer trace renamed -/
structure SInv (s : Store) (ws : List (Nat × Nat × Fld)) (tp ti : List (Nat × Fld)) : Prop where
  pool : PoolOK s.pool s.count
  work : ∀ w ∈ ws, ∀ pool', Extends s.pool pool' → idx pool' w.1 = w.2.1
  tr : ∀ pool', Extends s.pool pool' → ti = tp.map (rename pool')

/-- one work item done: its field goes to both traces, new items `ws'` may be pushed, the pool may have grown -/
theorem SInv.push {s s' : Store} {o oi : Nat} {fld fld' : Fld} {ws ws' : List (Nat × Nat × Fld)} {tp ti : List (Nat × Fld)}
    (hi : SInv s ((o, oi, fld) :: ws) tp ti) (hp : PoolOK s'.pool s'.count) (hx : Extends s.pool s'.pool)
    (hf : ∀ pool', Extends s'.pool pool' → renameFld pool' fld = fld')
    (hws : ∀ w ∈ ws', ∀ pool', Extends s'.pool pool' → idx pool' w.1 = w.2.1) :
    SInv s' (ws' ++ ws) (tp ++ [(o, fld)]) (ti ++ [(oi, fld')]) := by
  refine ⟨hp, fun w hw pool' hx' => ?_, fun pool' hx' => ?_⟩
  · rcases List.mem_append.1 hw with h | h
    · exact hws w h pool' hx'
    · exact hi.work w (List.mem_cons_of_mem _ h) pool' (hx.trans hx')
  · rw [List.map_append, ← hi.tr pool' (hx.trans hx')]
    simp only [List.map_cons, List.map_nil, rename, hf pool' hx', hi.work _ (List.mem_cons_self ..) pool' (hx.trans hx')]

theorem storeRun_sinv {sch : Schema} {h : Heap} {f : Nat} {ws : List (Nat × Nat × Fld)} {s : Store}
    {tp ti : List (Nat × Fld)} {sF : Store} {tpF tiF : List (Nat × Fld)}
    (hr : storeRun sch h f ws s tp ti = some (sF, tpF, tiF)) (hi : SInv s ws tp ti) : SInv sF [] tpF tiF := by
  fun_induction storeRun sch h f ws s tp ti with
  | case1 => cases hr; exact ⟨hi.pool, fun _ h => (nomatch h), hi.tr⟩
  | case2 | case6 | case7 | case8 => cases hr
  | case3 f o oi v rest s tp ti ih =>
    exact ih hr (hi.push (s' := s.putVal v) (ws' := []) hi.pool (.refl _) (fun _ _ => rfl) fun _ h => nomatch h)
  | case4 f o oi rest s tp ti ih =>
    exact ih hr (hi.push (s' := s.putTag fgNullObjectTag) (ws' := []) hi.pool (.refl _)
      (fun _ hx => congrArg Fld.ptr ((hx 0 (.inl rfl)).trans hi.pool.null)) fun _ h => nomatch h)
  | case5 f o oi p rest s tp ti _ hs ih =>
    exact ih hr (hi.push (s' := s.putTag (s.lookup (.obj p))) (ws' := []) hi.pool (.refl _)
      (fun _ hx => congrArg Fld.ptr (hx p (.inr (by simpa [idx, Store.lookup, Store.putTag] using hs)))) fun _ h => nomatch h)
  | case9 f o oi p rest s tp ti hp hs n _ s1 hw s2 ha ih =>
    obtain ⟨hp1, he1⟩ := writeProto_pool hw hi.pool
    have hfresh : poolLookup s1.pool (.obj p) = 0 := (he1 p).trans (by simpa [Store.lookup, idx] using hs)
    obtain ⟨_, hc2, hpool2, _⟩ := add_some ha
    have hk0 : Key.obj p ≠ Key.obj 0 := by simp [hp]
    have hidx : idx s2.pool p = s2.count := by rw [hpool2, hc2, idx, poolLookup_cons, if_pos rfl]
    have hfin : ∀ pool', Extends s2.pool pool' → idx pool' p = s2.count :=
      fun _ hx => (hx p (.inr (by rw [hidx, hc2]; omega))).trans hidx
    refine ih hr (hi.push ?_ ?_ (fun _ hx => congrArg Fld.ptr (hfin _ hx)) fun w hw => ?_)
    · rw [hpool2, hc2]; exact poolOK_cons _ hp1 hk0
    · rw [hpool2]; exact Extends.trans (fun q _ => he1 q) (extends_cons _ hfresh hk0)
    · obtain ⟨_, _, rfl⟩ := List.mem_map.1 hw
      exact hfin

theorem sinv_init (base B root : Nat) : SInv (Store.init base B) [(0, 0, .ptr root)] [] [] :=
  ⟨⟨fun _ => Nat.le_refl _, fun _ _ _ hne => absurd rfl hne, rfl⟩,
    fun w hw _ hx => by rw [List.mem_singleton.1 hw]; exact hx 0 (.inl rfl), fun _ _ => rfl⟩

instance (u : Nat) : Decidable (unitOK u) := by unfold unitOK; infer_instance
instance (u : Nat) : Decidable (byteOK u) := by unfold byteOK; infer_instance
instance (v : Val) : Decidable v.ok := by
  cases v with
  | prim t x => unfold Val.ok; infer_instance
  | raw bs => unfold Val.ok; infer_instance
  | str o => cases o <;> unfold Val.ok <;> infer_instance
  | bstr o => cases o <;> unfold Val.ok <;> infer_instance
  | strL o => cases o with
    | none => unfold Val.ok; infer_instance
    | some p => obtain ⟨a, b⟩ := p; unfold Val.ok; infer_instance
  | bstrL o => cases o with
    | none => unfold Val.ok; infer_instance
    | some p => obtain ⟨a, b⟩ := p; unfold Val.ok; infer_instance

def fmatchb (h : Heap) : Fld → FldTy → Bool
  | .val v, .val sh => decide (v.shape = sh) && decide v.ok
  | .ptr q, .ptr c => q == 0 || (match heapLookup h q with | some n => n.cls == c | none => false)
  | _, _ => false

def all2b {α β : Type} (r : α → β → Bool) : List α → List β → Bool
  | [], [] => true
  | a :: as, b :: bs => r a b && all2b r as bs
  | _, _ => false

def heapOKb (sch : Schema) (h : Heap) : Bool := h.all (fun e => all2b (fmatchb h) e.2.flds (sch e.2.cls).flds)

theorem fmatchb_sound (h : Heap) (f : Fld) (t : FldTy) (hb : fmatchb h f t = true) : fmatch h f t := by
  cases f <;> cases t <;> simp [fmatchb, fmatch] at hb ⊢
  · exact hb
  · rcases hb with h0 | h1
    · exact Or.inl h0
    · right
      split at h1
      · next n hn => exact ⟨n, hn, by simpa using h1⟩
      · simp at h1

theorem all2b_sound {α β : Type} (r : α → β → Bool) (R : α → β → Prop) (hs : ∀ a b, r a b = true → R a b) :
    ∀ as bs, all2b r as bs = true → All2 R as bs
  | [], [], _ => All2.nil
  | a :: as, b :: bs, h => by
    simp only [all2b, Bool.and_eq_true] at h
    exact All2.cons (hs a b h.1) (all2b_sound r R hs as bs h.2)
  | [], _ :: _, h => by simp [all2b] at h
  | _ :: _, [], h => by simp [all2b] at h

theorem heapLookup_mem : ∀ (h : Heap) (p : Nat) (n : Node), heapLookup h p = some n → (p, n) ∈ h
  | [], _, _, hl => by simp [heapLookup] at hl
  | (q, m) :: r, p, n, hl => by
    unfold heapLookup at hl
    by_cases hq : q = p
    · simp only [hq, if_true, Option.some.injEq] at hl; subst hl; subst hq; simp
    · simp only [hq, if_false] at hl; exact List.mem_cons_of_mem _ (heapLookup_mem r p n hl)

theorem heapOKb_sound (sch : Schema) (h : Heap) (hb : heapOKb sch h = true) : HeapOK sch h := by
  intro p n hl
  have hm := heapLookup_mem h p n hl
  unfold heapOKb at hb
  rw [List.all_eq_true] at hb
  exact all2b_sound _ _ (fmatchb_sound h) _ _ (hb (p, n) hm)

end XV.Lemmas.SerGraph
