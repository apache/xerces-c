/-
Lemmas for C15 about the parser object of `XV.Model.ParserState`, one component of its state at a time, each an invariant of
`step` carried along `exec`.  Configuration and per-parse state: under `ResetComplete` the real and the reference machine
coincide, and `resetCfg` of the configuration follows the last-writer-wins configuration of the history.  Scanner and sequence
ids: `TokInv`, and `Evolves`, which relates the ids of a state to those of an earlier one and makes a stale token illegal.
Documents: `DocInv`; the parser knows (`adoptedByUser`) when its current document was handed out, so what it retires was
never adopted.  Grammar pool: short of unlock, a locked pool is left as it is.
-/
import XV.Model.ParserState
import XV.Lemmas.GrammarPool
namespace XV.Lemmas.ParserState
open XV.Model.GrammarPool XV.Model.ParserState XV.Lemmas.GrammarPool

variable {w : World}

theorem exec_append (b : Bool) (h1 h2 : List Op) (p : Parser w) :
    exec b (h1 ++ h2) p = exec b h2 (exec b h1 p) := List.foldl_append

theorem exec_snoc (b : Bool) (h : List Op) (op : Op) (p : Parser w) :
    exec b (h ++ [op]) p = step b (exec b h p) op := List.foldl_append

theorem lastObs_snoc (p : Parser w) (o : Obs w.Outcome) : lastObs { p with log := p.log ++ [o] } = o := by
  simp only [lastObs, List.getLast?_concat, Option.getD_some]

/-- the test that guards `parseNext` and `parseReset` -/
def accepted (p : Parser w) (t : Nat) : Bool := (p.tokens[t]?).any (isLegalToken p)

theorem step_parseNext (b : Bool) (p : Parser w) (t : Nat) :
    step b p (.parseNext t) =
      if accepted p t then
        { p with perParse := (w.next p.cfg p.perParse (viewOf p.res)).2.1,
                 res := applyDelta p.res (w.next p.cfg p.perParse (viewOf p.res)).2.2,
                 log := p.log ++ [.outcome (w.next p.cfg p.perParse (viewOf p.res)).1] }
      else { p with log := p.log ++ [.rejected] } := by
  unfold accepted
  simp only [step]
  split
  · next h => rw [h]; rfl
  · next tok h =>
    rw [h]
    show _ = if isLegalToken p tok = true then _ else _
    cases isLegalToken p tok <;> rfl

theorem step_parseReset (b : Bool) (p : Parser w) (t : Nat) :
    step b p (.parseReset t) =
      if accepted p t then { bump p with perParse := w.abandon p.perParse, docs := p.docs.abandon, log := p.log ++ [.none] }
      else { p with log := p.log ++ [.rejected] } := by
  unfold accepted
  simp only [step]
  split
  · next h => rw [h]; rfl
  · next tok h =>
    rw [h]
    show _ = if isLegalToken p tok = true then _ else _
    cases isLegalToken p tok <;> rfl

theorem startScan_ref (rc : ResetComplete w) (p : Parser w) (d : Doc) (m : Mode) :
    startScan false p d m = startScan true p d m := by
  unfold startScan
  simp only [Bool.false_eq_true, if_false, if_true]
  rw [rc.perParse]

theorem step_ref (rc : ResetComplete w) (p : Parser w) (op : Op) : step false p op = step true p op := by
  cases op <;> simp only [step, startScan_ref rc]

theorem exec_ref (rc : ResetComplete w) (h : List Op) (p : Parser w) : exec false h p = exec true h p := by
  unfold exec
  rw [show @step w false = step true from funext fun p => funext fun op => step_ref rc p op]

theorem step_cfg (rc : ResetComplete w) (b : Bool) (p : Parser w) (op : Op) (c : Config)
    (hc : w.resetCfg p.cfg = w.resetCfg c) :
    w.resetCfg (step b p op).cfg = w.resetCfg (match op with | .set k v => w.setter k v c | _ => c) := by
  cases op with
  | set k v => show w.resetCfg (w.setter k v p.cfg) = _; rw [← rc.absorbed k v p.cfg, hc, rc.absorbed]
  | parse d | parseThrow d k | parseFirst d => show w.resetCfg (w.resetCfg p.cfg) = _; rw [rc.idem, hc]
  | parseNext t => rw [step_parseNext]; split <;> exact hc
  | parseReset t => rw [step_parseReset]; split <;> exact hc
  | _ => exact hc

theorem exec_cfg (rc : ResetComplete w) (b : Bool) (h : List Op) (p : Parser w) (c : Config)
    (hc : w.resetCfg p.cfg = w.resetCfg c) :
    w.resetCfg (exec b h p).cfg =
      w.resetCfg (h.foldl (fun c op => match op with | .set k v => w.setter k v c | _ => c) c) := by
  induction h generalizing p c with
  | nil => exact hc
  | cons op h ih => exact ih _ _ (step_cfg rc b p op c hc)

/-- the three `history_independent` theorems of C15 for any `Mode`: the outcome (`.2.1`) of a scan entered after `h` is
that of a fresh parser with the configuration and the pool of `h` -/
theorem history_independent_mode (rc : ResetComplete w) (h : List Op) (d : Doc) (m : Mode) :
    (startScan false (run w h) d m).2.1 = freshOutcome w (cfgOf w h) (poolOf w h) d m := by
  have hc : w.resetCfg (run w h).cfg = w.resetCfg (cfgOf w h) := exec_cfg rc false h (fresh w) w.cfg0 rfl
  have hp : (run w h).res = poolOf w h := congrArg (·.res) (exec_ref rc h (fresh w))
  unfold startScan freshOutcome
  simp only [Bool.false_eq_true, if_false, bump]
  rw [rc.perParse, hc, hp]

def invalidates : Op → Bool
  | .parse _ | .parseThrow _ _ | .parseFirst _ | .useScanner => true
  | _ => false

def TokInv (p : Parser w) : Prop := 0 < p.scannerId ∧ p.scannerId < p.nextScannerId ∧ p.seq = p.bumps % seqMod

theorem fresh_tokInv (w : World) : TokInv (fresh w) := ⟨Nat.one_pos, Nat.lt_succ_self 1, rfl⟩

/-- the identity members: fScannerId, the id the next scanner gets, fSequenceId, and how often it was incremented -/
def idOf (p : Parser w) : Nat × Nat × Nat × Nat := (p.scannerId, p.nextScannerId, p.seq, p.bumps)

theorem step_ids (b : Bool) (p : Parser w) (op : Op) :
    (∃ l, (step b p op).tokens = p.tokens ++ l) ∧
    (idOf (step b p op) = (p.nextScannerId, p.nextScannerId + 1, 0, 0) ∨ idOf (step b p op) = idOf (bump p) ∨
      (invalidates op = false ∧ idOf (step b p op) = idOf p)) := by
  have same : (∃ l, p.tokens = p.tokens ++ l) := ⟨[], (List.append_nil _).symm⟩
  cases op with
  | useScanner => exact ⟨same, .inl rfl⟩
  | parse d | parseThrow d k => exact ⟨same, .inr (.inl rfl)⟩
  | parseFirst d => exact ⟨⟨[_], rfl⟩, .inr (.inl rfl)⟩
  | parseNext t => rw [step_parseNext]; split <;> exact ⟨same, .inr (.inr ⟨rfl, rfl⟩)⟩
  | parseReset t =>
    rw [step_parseReset]
    split
    · exact ⟨same, .inr (.inl rfl)⟩
    · exact ⟨same, .inr (.inr ⟨rfl, rfl⟩)⟩
  | _ => exact ⟨same, .inr (.inr ⟨rfl, rfl⟩)⟩

theorem step_tokInv (b : Bool) (p : Parser w) (op : Op) (hi : TokInv p) : TokInv (step b p op) := by
  obtain ⟨h0, h1, h2⟩ := hi
  unfold TokInv
  rcases (step_ids b p op).2 with h | h | ⟨_, h⟩ <;> simp only [idOf, bump, Prod.mk.injEq] at h <;>
    obtain ⟨e1, e2, e3, e4⟩ := h <;> rw [e1, e2, e3, e4]
  · exact ⟨Nat.lt_trans h0 h1, Nat.lt_succ_self _, rfl⟩
  · exact ⟨h0, h1, by rw [h2]; exact (Nat.add_mod p.bumps 1 seqMod).symm⟩
  · exact ⟨h0, h1, h2⟩

/-- how the identity members of `q` relate to an earlier state `p`, `n` operations and (if `strict`) at least one
invalidating operation later -/
structure Evolves (p q : Parser w) (n : Nat) (strict : Bool) : Prop where
  inv : TokInv q
  toks : ∃ l, q.tokens = p.tokens ++ l
  ids : (q.scannerId = p.scannerId ∧ p.bumps ≤ q.bumps ∧ q.bumps ≤ p.bumps + n ∧ (strict = true → p.bumps < q.bumps)) ∨
        p.scannerId < q.scannerId

theorem Evolves.refl (p : Parser w) (hi : TokInv p) : Evolves p p 0 false :=
  ⟨hi, ⟨[], (List.append_nil _).symm⟩, .inl ⟨rfl, Nat.le_refl _, Nat.le_refl _, fun h => nomatch h⟩⟩

theorem Evolves.step {p q : Parser w} {n : Nat} {s : Bool} (b : Bool) (e : Evolves p q n s) (op : Op) :
    Evolves p (step b q op) (n + 1) (s || invalidates op) := by
  obtain ⟨l, hl⟩ := e.toks
  obtain ⟨⟨l', hl'⟩, hids⟩ := step_ids b q op
  have hq1 := e.inv.2.1
  refine ⟨step_tokInv b q op e.inv, ⟨l ++ l', by rw [hl', hl, List.append_assoc]⟩, ?_⟩
  rcases hids with h | h | ⟨hop, h⟩ <;> simp only [idOf, bump, Prod.mk.injEq] at h <;> obtain ⟨h1, _, _, h4⟩ := h
  · -- a new scanner: its id is above every id handed out before
    exact .inr (h1 ▸ e.ids.elim (fun i => i.1 ▸ hq1) fun i => Nat.lt_trans i hq1)
  · exact e.ids.imp (fun ⟨i1, i2, i3, _⟩ => ⟨h1.trans i1, h4 ▸ Nat.le_succ_of_le i2, h4 ▸ Nat.succ_le_succ i3,
      fun _ => h4 ▸ Nat.lt_succ_of_le i2⟩) fun i1 => h1 ▸ i1
  · rw [hop, Bool.or_false]
    exact e.ids.imp (fun ⟨i1, i2, i3, i4⟩ => ⟨h1.trans i1, h4 ▸ i2, h4 ▸ Nat.le_succ_of_le i3, fun hs => h4 ▸ i4 hs⟩)
      fun i1 => h1 ▸ i1

theorem Evolves.many {p q : Parser w} {n : Nat} {s : Bool} (b : Bool) (e : Evolves p q n s) (h : List Op) :
    Evolves p (exec b h q) (n + h.length) (s || h.any invalidates) := by
  induction h generalizing q n s with
  | nil => simpa [exec] using e
  | cons op h ih =>
    have := ih (e.step b op)
    rwa [Nat.add_assoc, Nat.add_comm 1, Bool.or_assoc] at this

theorem exec_tokInv (b : Bool) (h : List Op) (p : Parser w) (hi : TokInv p) : TokInv (exec b h p) :=
  ((Evolves.refl p hi).many b h).inv

theorem parseFirst_token (b : Bool) (p : Parser w) (d : Doc) :
    ∃ tok, (step b p (.parseFirst d)).tokens = p.tokens ++ [tok] ∧
      (tok = ⟨(step b p (.parseFirst d)).scannerId, (step b p (.parseFirst d)).seq⟩ ∨ tok = ⟨0, 0⟩) := by
  refine ⟨_, rfl, ?_⟩
  by_cases h : (startScan b p d .first).2.2 = true
  · exact .inl (if_pos h)
  · exact .inr (if_neg h)

/-- `p1` is the state right after the `parseFirst` that handed out `tok`, its last token: the ids of the scanner if the
scan started, ⟨0, 0⟩ if not. -/
theorem stale_rejected_core (b : Bool) (p1 : Parser w) (hi : TokInv p1) (toks : List Token) (tok : Token)
    (ht : p1.tokens = toks ++ [tok]) (hk : tok = ⟨p1.scannerId, p1.seq⟩ ∨ tok = ⟨0, 0⟩)
    (h2 : List Op) (hinv : h2.any invalidates = true) (hlen : h2.length < seqMod) :
    lastObs (step b (exec b h2 p1) (.parseNext toks.length)) = .rejected ∧
    lastObs (step b (exec b h2 p1) (.parseReset toks.length)) = .rejected := by
  have ev := (Evolves.refl p1 hi).many b h2
  obtain ⟨l, hl⟩ := ev.toks
  obtain ⟨q0, q1, q2⟩ := ev.inv
  obtain ⟨_, _, p2⟩ := hi
  have hill : accepted (exec b h2 p1) toks.length = false := by
    rw [accepted, hl, ht, List.append_assoc, List.getElem?_append_right (Nat.le_refl _), Nat.sub_self]
    show isLegalToken _ tok = false
    rw [isLegalToken, Bool.and_eq_false_iff, beq_eq_false_iff_ne, beq_eq_false_iff_ne]
    rcases hk with rfl | rfl
    · -- same scanner: between 1 and 2^32 - 1 increments later the sequence id differs
      refine ev.ids.elim (fun ⟨_, i2, i3, i4⟩ => .inr ?_) (fun i1 => .inl (by show _ ≠ p1.scannerId; omega))
      have := i4 (by rw [hinv]; rfl)
      show _ ≠ p1.seq
      rw [q2, p2]; unfold seqMod at hlen ⊢; omega
    · exact .inl (by show _ ≠ 0; omega)
  rw [step_parseNext, step_parseReset, hill]
  exact ⟨lastObs_snoc _ _, lastObs_snoc _ _⟩

structure DocInv (p : DocPool) : Prop where
  adopted : ∀ d ∈ p.adopted, d ∉ p.released ∧ d ∉ p.vector ∧ d < p.nextId
  current : ∀ d, p.current = some d → d ∉ p.released ∧ d ∉ p.vector ∧ d < p.nextId ∧ (d ∈ p.adopted → p.adoptedByUser = true)
  bound : (∀ d ∈ p.released, d < p.nextId) ∧ (∀ d ∈ p.vector, d < p.nextId)

theorem docInv_init : DocInv {} :=
  ⟨fun _ h => (nomatch h), fun _ h => (nomatch h), fun _ h => (nomatch h), fun _ h => (nomatch h)⟩

/-- the current document, if the parser still owns it: what `reset()` moves to the owned vector and `resetPool()`
releases -/
def retired (p : DocPool) : List Nat :=
  match p.current with
  | some d => if !p.adoptedByUser then [d] else []
  | none => []

theorem mem_retired {p : DocPool} {d : Nat} : d ∈ retired p ↔ p.current = some d ∧ p.adoptedByUser = false := by
  unfold retired
  split
  · rename_i c hc
    cases p.adoptedByUser <;> simp [hc, eq_comm]
  · rename_i hc; simp [hc]

theorem startParse_vector (p : DocPool) : p.startParse.vector = p.vector ++ retired p := by
  unfold DocPool.startParse retired
  cases p.current with
  | none => exact (List.append_nil _).symm
  | some d => cases p.adoptedByUser <;> simp

theorem abandon_vector (p : DocPool) : p.abandon.vector = p.vector ++ retired p := startParse_vector p

theorem resetPool_released (p : DocPool) : p.resetPool.released = p.released ++ (p.vector ++ retired p) := by
  unfold DocPool.resetPool retired
  cases p.current with
  | none => simp
  | some d => cases p.adoptedByUser <;> simp

theorem DocInv.owned {p : DocPool} (h : DocInv p) {d : Nat} (hd : d ∈ p.released ++ (p.vector ++ retired p)) :
    d ∉ p.adopted ∧ d < p.nextId := by
  rcases List.mem_append.1 hd with hd | hd
  · exact ⟨fun ha => (h.adopted d ha).1 hd, h.bound.1 d hd⟩
  rcases List.mem_append.1 hd with hd | hd
  · exact ⟨fun ha => (h.adopted d ha).2.1 hd, h.bound.2 d hd⟩
  · obtain ⟨hc, hu⟩ := mem_retired.1 hd
    exact ⟨fun ha => Bool.noConfusion (((h.current d hc).2.2.2 ha).symm.trans hu), (h.current d hc).2.2.1⟩

theorem DocInv.startParse {p : DocPool} (h : DocInv p) : DocInv p.startParse := by
  have hv : ∀ d ∈ p.startParse.vector, d ∉ p.adopted ∧ d < p.nextId := fun _ hd =>
    h.owned (List.mem_append_right _ (startParse_vector p ▸ hd))
  refine ⟨fun d hd => ⟨(h.adopted d hd).1, fun hm => (hv d hm).1 hd, Nat.lt_succ_of_lt (h.adopted d hd).2.2⟩, ?_,
    fun d hd => Nat.lt_succ_of_lt (h.bound.1 d hd), fun d hd => Nat.lt_succ_of_lt (hv d hd).2⟩
  -- the new document has the fresh id
  rintro d ⟨rfl⟩
  exact ⟨fun hm => Nat.lt_irrefl _ (h.bound.1 _ hm), fun hm => Nat.lt_irrefl _ (hv _ hm).2, Nat.lt_succ_self _,
    fun hm => absurd (h.adopted _ hm).2.2 (Nat.lt_irrefl _)⟩

theorem DocInv.abandon {p : DocPool} (h : DocInv p) : DocInv p.abandon :=
  have hv : ∀ d ∈ p.abandon.vector, d ∉ p.adopted ∧ d < p.nextId := fun _ hd =>
    h.owned (List.mem_append_right _ (abandon_vector p ▸ hd))
  ⟨fun d hd => ⟨(h.adopted d hd).1, fun hm => (hv d hm).1 hd, (h.adopted d hd).2.2⟩, fun _ hc => (nomatch hc),
    h.bound.1, fun d hd => (hv d hd).2⟩

theorem DocInv.adopt {p : DocPool} (h : DocInv p) : DocInv p.adopt := by
  refine ⟨fun d hd => ?_, fun d hc => ⟨(h.current d hc).1, (h.current d hc).2.1, (h.current d hc).2.2.1, fun _ => rfl⟩,
    h.bound⟩
  simp only [DocPool.adopt] at hd ⊢
  split at hd
  · rename_i c hc
    rcases List.mem_cons.1 hd with rfl | hd
    · exact ⟨(h.current d hc).1, (h.current d hc).2.1, (h.current d hc).2.2.1⟩
    · exact h.adopted d hd
  · exact h.adopted d hd

theorem DocInv.resetPool {p : DocPool} (h : DocInv p) : DocInv p.resetPool :=
  have hr : ∀ d ∈ p.resetPool.released, d ∉ p.adopted ∧ d < p.nextId := fun _ hd => h.owned (resetPool_released p ▸ hd)
  ⟨fun d hd => ⟨fun hm => (hr d hm).1 hd, fun hm => (nomatch hm), (h.adopted d hd).2.2⟩, fun _ hc => (nomatch hc),
    fun d hd => (hr d hd).2, fun _ hm => (nomatch hm)⟩

theorem step_docInv (b : Bool) (p : Parser w) (op : Op) (h : DocInv p.docs) : DocInv (step b p op).docs := by
  cases op with
  | parse d | parseThrow d k | parseFirst d => exact h.startParse
  | parseNext t => rw [step_parseNext]; split <;> exact h
  | parseReset t =>
    rw [step_parseReset]
    split
    · exact h.abandon
    · exact h
  | loadGrammar g c => exact h.abandon
  | resetDocPool => exact h.resetPool
  | adopt => exact h.adopt
  | _ => exact h

theorem exec_docInv (b : Bool) (h : List Op) (p : Parser w) (hi : DocInv p.docs) : DocInv (exec b h p).docs :=
  List.foldlRecOn (motive := fun q : Parser w => DocInv q.docs) h (step b) hi fun q hq op _ => step_docInv b q op hq

theorem applyDelta_pool (r : Resolver) (δ : PoolDelta) (hl : r.pool.locked = true) : (applyDelta r δ).pool = r.pool :=
  List.foldlRecOn (motive := fun r' : Resolver => r'.pool = r.pool) δ putGrammar rfl
    fun r' h g _ => (putGrammar_pool r' g (h ▸ hl)).trans h

theorem startScan_pool (b : Bool) (p : Parser w) (d : Doc) (m : Mode) (hl : p.res.pool.locked = true) :
    (startScan b p d m).1.res.pool = p.res.pool :=
  applyDelta_pool (resolverForScan p.res (w.resetCfg p.cfg)) _ hl

theorem step_pool (b : Bool) (p : Parser w) (op : Op) (hl : p.res.pool.locked = true) (hu : op ≠ .unlock) :
    (step b p op).res.pool = p.res.pool := by
  cases op with
  | parse d | parseThrow d k | parseFirst d => exact startScan_pool b p d _ hl
  | parseNext t =>
    rw [step_parseNext]
    split
    · exact applyDelta_pool _ _ hl
    · rfl
  | parseReset t => rw [step_parseReset]; split <;> rfl
  | loadGrammar g c =>
    -- cacheGrammarFromParse / useCachedGrammarInParse do not touch the pool; putGrammar and cacheGrammars find it locked
    have hl1 : (useCachedGrammarInParse (cacheGrammarFromParse p.res false) c).pool.locked = true := hl
    show (if (c && _) = true then cacheGrammars _ else _).pool = _
    have h2 : (if c = true then putGrammar (useCachedGrammarInParse (cacheGrammarFromParse p.res false) c) g
        else useCachedGrammarInParse (cacheGrammarFromParse p.res false) c).pool = p.res.pool := by
      split
      · exact putGrammar_pool _ g hl1
      · rfl
    split
    · rw [cacheGrammars_pool _ (h2 ▸ hl), h2]
    · exact h2
  | resetGrammarPool => show (clear p.res.pool).1 = _; rw [clear_locked _ hl]
  | lock => exact lockPool_locked _ hl
  | unlock => exact absurd rfl hu
  | _ => rfl

theorem exec_pool (b : Bool) (h : List Op) (p : Parser w) (hl : p.res.pool.locked = true)
    (hu : ∀ op ∈ h, op ≠ .unlock) : (exec b h p).res.pool = p.res.pool :=
  List.foldlRecOn (motive := fun q : Parser w => q.res.pool = p.res.pool) h (step b) rfl
    fun q hq op ho => (step_pool b q op ((congrArg Pool.locked hq).trans hl) (hu op ho)).trans hq

end XV.Lemmas.ParserState
