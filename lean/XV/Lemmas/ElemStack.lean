/- `ElemStack` refines an abstract machine.  `Abs` holds the declaration lists of the open elements (and the global
   bindings) and steps through the same `Op`s; `Rep S a` says that the rows and the two string pools of `S` hold `a`, every
   declaration as a pair of pool ids, and every operation keeps it (`rep_run`).  In a represented state `mapPrefixToURI`
   answers with `code` of `bound` (`mapPrefix_raw`): the binding the declarations hold for the prefix, as pool id and
   "unknown" flag; read back as text that is the Spec's `inScopeG`.  What the scanner does to the stack at a start tag is a
   run of operations too (`startTag_eq_run`).  Two facts about runs serve the document level: `Ext`, a run only lets the
   URI pool grow, so ids handed out stay readable; `abs_frame`, a balanced element (`relDepth`) leaves `Abs` as it was. -/
import XV.Model.ElemStack
import XV.Spec.Namespace
namespace XV.Lemmas.ElemStack
open XV.Model.ElemStack XV.Spec.Namespace XV.Gen.ElemStackConsts

theorem take_succ_map_reverse {α β : Type} (f : α → β) (l : List α) (n : Nat) (h : n < l.length) :
    ((l.take (n + 1)).map f).reverse = f l[n] :: ((l.take n).map f).reverse := by
  rw [List.take_add_one, List.getElem?_eq_getElem h]
  simp only [Option.toList_some, List.map_append, List.map_cons, List.map_nil, List.reverse_append,
    List.reverse_cons, List.reverse_nil, List.nil_append, List.cons_append]

theorem take_succ_set {α : Type} (l : List α) (n : Nat) (x : α) (h : n < l.length) :
    (l.set n x).take (n + 1) = l.take n ++ [x] := by
  simp [List.take_add_one, List.take_set_of_le (Nat.le_refl n), h]

/-- `if (!fStack[fStackTop]) fStack[fStackTop] = new …`: the slot at `n` exists afterwards, the part below is untouched -/
theorem slot_spec {α : Type} (l : List α) (x : α) {n : Nat} (h : n ≤ l.length) :
    ∃ rows, rows = (if n < l.length then l else l ++ [x]) ∧
      n < rows.length ∧ rows.take n = l.take n ∧ rows.length ≤ max l.length (n + 1) ∧ ∀ r ∈ rows, r ∈ l ∨ r = x := by
  refine ⟨_, rfl, ?_⟩
  by_cases hlt : n < l.length
  · rw [if_pos hlt]
    exact ⟨hlt, rfl, Nat.le_max_left _ _, fun r hr => Or.inl hr⟩
  · rw [if_neg hlt, List.take_append_of_le_length h]
    exact ⟨by simp; omega, rfl, by simp; omega, fun r hr => by simpa using hr⟩

theorem grow_spec {α : Type} (d : α) {m : List α} {cap new : Nat} (hlen : m.length = cap) (hlt : cap ≤ new) :
    (m.take cap ++ List.replicate (new - cap) d).length = new ∧
    ∀ k ≤ cap, (m.take cap ++ List.replicate (new - cap) d).take k = m.take k := by
  refine ⟨by simp; omega, fun k hk => ?_⟩
  rw [List.take_append_of_le_length (by simp; omega), List.take_take, Nat.min_eq_left hk]

theorem getId_eq_zero_iff {pool : Pool} {s : String} : getId pool s = 0 ↔ s ∉ pool := by
  simp [getId, poolFirstId, List.idxOf_lt_length_iff]

theorem getId_ne_zero_iff {pool : Pool} {s : String} : getId pool s ≠ 0 ↔ s ∈ pool := by
  rw [Ne, getId_eq_zero_iff, Classical.not_not]

theorem getId_of_mem {pool : Pool} {s : String} (h : s ∈ pool) : getId pool s = List.idxOf s pool + 1 := by
  simp [getId, List.idxOf_lt_length_iff.mpr h, poolFirstId]

theorem valueForId_getId {pool : Pool} {s : String} (h : s ∈ pool) : valueForId pool (getId pool s) = some s := by
  have hl := List.idxOf_lt_length_iff.mpr h
  simp [getId_of_mem h, valueForId, poolFirstId, List.getElem?_eq_getElem hl, List.getElem_idxOf hl]

theorem getId_inj {pool : Pool} {s t : String} (hs : s ∈ pool) (ht : t ∈ pool)
    (h : getId pool s = getId pool t) : s = t :=
  Option.some.inj (by rw [← valueForId_getId hs, h, valueForId_getId ht])

theorem getId_append {pool l : Pool} {s : String} (h : s ∈ pool) : getId (pool ++ l) s = getId pool s := by
  rw [getId_of_mem h, getId_of_mem (List.mem_append_left l h), List.idxOf_append]
  simp [h]

theorem addOrFind_fst (pool : Pool) (s : String) :
    (addOrFind pool s).1 = pool ++ (if s ∈ pool then [] else [s]) := by
  fun_cases addOrFind pool s <;> simp_all [getId_ne_zero_iff]

theorem addOrFind_prefix (pool : Pool) (s : String) : pool <+: (addOrFind pool s).1 := ⟨_, (addOrFind_fst pool s).symm⟩

theorem addOrFind_mem (pool : Pool) (s : String) : s ∈ (addOrFind pool s).1 := by
  rw [addOrFind_fst]
  by_cases h : s ∈ pool <;> simp [h]

theorem addOrFind_snd (pool : Pool) (s : String) : (addOrFind pool s).2 = getId (addOrFind pool s).1 s := by
  by_cases h : s ∈ pool
  · simp [addOrFind, getId_ne_zero_iff.mpr h]
  · simp [addOrFind, getId_eq_zero_iff.mpr h, getId_of_mem (List.mem_append_right pool (List.mem_singleton_self s)),
      List.idxOf_append, h, poolFirstId]

theorem getId_addOrFind {pool : Pool} {s t : String} (h : s ∈ pool) :
    getId (addOrFind pool t).1 s = getId pool s := by
  rw [addOrFind_fst]; exact getId_append h

theorem mem_addOrFind {pool : Pool} {s t : String} (h : s ∈ pool) : s ∈ (addOrFind pool t).1 := by
  rw [addOrFind_fst]; exact List.mem_append_left _ h

/-- "`s` is in the pool and `i` is its id" (the form in which `Rep`, below, records the six reserved strings) survives
    growth -/
theorem pooled_append {pool : Pool} {s : String} {i : Nat} (h : s ∈ pool ∧ i = getId pool s) (l : Pool) :
    s ∈ pool ++ l ∧ i = getId (pool ++ l) s :=
  ⟨List.mem_append_left l h.1, by rw [getId_append h.1]; exact h.2⟩

theorem pooled_addOrFind {pool : Pool} {s : String} {i : Nat} (h : s ∈ pool ∧ i = getId pool s) (t : String) :
    s ∈ (addOrFind pool t).1 ∧ i = getId (addOrFind pool t).1 s := by
  rw [addOrFind_fst]; exact pooled_append h _

theorem pooled_self (pool : Pool) (s : String) :
    s ∈ (addOrFind pool s).1 ∧ (addOrFind pool s).2 = getId (addOrFind pool s).1 s :=
  ⟨addOrFind_mem pool s, addOrFind_snd pool s⟩

theorem xmlString_eq : xmlString = "xml" := by decide +kernel
theorem xmlnsString_eq : xmlnsString = "xmlns" := by decide +kernel
theorem xmlURIName_eq : xmlURIName = xmlURI := by decide +kernel
theorem xmlnsURIName_eq : xmlnsURIName = xmlnsURI := by decide +kernel

theorem xmlnsString_ne_empty : xmlnsString ≠ "" := by rw [xmlnsString_eq]; decide
theorem xmlURI_ne_empty : xmlURI ≠ "" := by decide +kernel
theorem xmlnsURI_ne_empty : xmlnsURI ≠ "" := by decide +kernel

def valid (r : StackElem) : List PrefMapElem := r.fMap.take r.fMapCount

def findE (l : List PrefMapElem) (pid : Nat) : Option Nat :=
  (l.find? (fun e => e.fPrefId == pid)).map (·.fURIId)

theorem searchRow_eq (r : StackElem) (pid : Nat) : searchRow r pid = findE (valid r) pid := rfl

theorem findE_append (a b : List PrefMapElem) (pid : Nat) :
    findE (a ++ b) pid = (findE a pid).or (findE b pid) := by
  unfold findE
  rw [List.find?_append]
  cases List.find? (fun e => e.fPrefId == pid) a <;> rfl

theorem findE_none_of_not_mem (l : List PrefMapElem) (pid : Nat) (h : ∀ e ∈ l, e.fPrefId ≠ pid) :
    findE l pid = none := by
  unfold findE
  rw [List.find?_eq_none.mpr]
  · rfl
  · intro x hx; simpa using h x hx

theorem searchStack_eq (rows : List StackElem) (pid n : Nat) :
    searchStack rows pid n = findE ((rows.take n).map valid).reverse.flatten pid := by
  fun_induction searchStack rows pid n
  · rfl
  all_goals simp_all [List.take_add_one, findE_append, searchRow_eq]

/-- a declaration as stored in a row -/
def enc (pp up : Pool) (d : Decl) : PrefMapElem := ⟨getId pp d.pre, getId up d.uri⟩

theorem findE_enc (pp up : Pool) (l : Level) (p : String) (hl : ∀ d ∈ l, d.pre ∈ pp) (hp : p ∈ pp) :
    findE (l.map (enc pp up)) (getId pp p) = (declOf l p).map (getId up) := by
  fun_induction declOf l p with
  | case1 => rfl
  | case2 d ds => simp [findE, enc]
  | case3 d ds p e ih =>
    have ne : ((enc pp up d).fPrefId == getId pp p) = false :=
      beq_eq_false_iff_ne.mpr (fun h => e (getId_inj (hl d List.mem_cons_self) hp h))
    rw [← ih (fun x hx => hl x (List.mem_cons_of_mem d hx)) hp]
    simp only [findE, List.map_cons, List.find?_cons, ne]

theorem map_enc_append {pp up : Pool} (l1 l2 : Pool) (l : Level)
    (h : ∀ d ∈ l, d.pre ∈ pp ∧ d.uri ∈ up) :
    l.map (enc (pp ++ l1) (up ++ l2)) = l.map (enc pp up) :=
  List.map_congr_left (fun d hd => by simp [enc, getId_append (h d hd).1, getId_append (h d hd).2])

theorem declOf_append (a b : Level) (p : String) : declOf (a ++ b) p = (declOf a p).or (declOf b p) := by
  fun_induction declOf a p <;> simp_all [declOf]

theorem nearest_eq_declOf (ls : List Level) (p : String) : nearest ls p = declOf ls.flatten p := by
  fun_induction nearest ls p <;> simp_all [declOf_append, declOf]

theorem declOf_some_mem {l : Level} {p u : String} (h : declOf l p = some u) : ⟨p, u⟩ ∈ l := by
  fun_induction declOf l p with
  | case1 => cases h
  | case2 d ds => cases d; cases h; exact List.mem_cons_self
  | case3 d ds p e ih => exact List.mem_cons_of_mem d (ih h)

theorem declOf_none_of_not_mem (l : Level) (p : String) (h : ∀ d ∈ l, d.pre ≠ p) : declOf l p = none := by
  cases hd : declOf l p with
  | none => rfl
  | some u => exact absurd rfl (h _ (declOf_some_mem hd))

theorem nearest_some_mem {ls : List Level} {p u : String} (h : nearest ls p = some u) : ∃ l ∈ ls, ⟨p, u⟩ ∈ l := by
  rw [nearest_eq_declOf] at h
  exact List.mem_flatten.mp (declOf_some_mem h)

theorem nearest_none_of_not_mem (ls : List Level) (p : String) (h : ∀ l ∈ ls, ∀ d ∈ l, d.pre ≠ p) :
    nearest ls p = none := by
  rw [nearest_eq_declOf]
  exact declOf_none_of_not_mem _ p (fun d hd => by
    obtain ⟨l, hl, hdl⟩ := List.mem_flatten.mp hd
    exact h l hl d hdl)

theorem declOf_perm {l l' : Level} (hp : l.Perm l') (hn : (l.map (·.pre)).Nodup) (p : String) :
    declOf l p = declOf l' p := by
  induction hp with
  | nil => rfl
  | cons x _ ih =>
    simp only [List.map_cons, List.nodup_cons] at hn
    simp [declOf, ih hn.2]
  | swap x y l =>
    simp only [List.map_cons, List.nodup_cons, List.mem_cons, not_or] at hn
    have hne : y.pre ≠ x.pre := hn.1.1
    simp only [declOf]
    by_cases h1 : x.pre = p
    · have h2 : y.pre ≠ p := fun h2 => hne (h2.trans h1.symm)
      simp [h1, h2]
    · simp [h1]
  | trans h1 _ ih1 ih2 =>
    rw [ih1 hn, ih2 ((h1.map (·.pre)).nodup_iff.mp hn)]

/-- What the operations mean on the Spec side: `g` = application-supplied global bindings, `stack` = the
    declaration lists of the open elements, innermost FIRST (so the Spec's `Path` is `stack.reverse`). -/
structure Abs where
  g : Level := []
  stack : List Level := []
deriving Repr

def Abs.step (a : Abs) : Op → Abs
  | .addLevel => { a with stack := [] :: a.stack }
  | .popTop => { a with stack := a.stack.tail }
  | .addPrefix p u => match a.stack with
      | [] => a                                         -- EmptyStackException: nothing changes
      | l :: r => { a with stack := (l ++ [⟨p, u⟩]) :: r }
  | .addGlobalPrefix p u => { a with g := a.g ++ [⟨p, u⟩] }

def Abs.run (a : Abs) : List Op → Abs
  | [] => a
  | o :: os => (a.step o).run os

def Abs.path (a : Abs) : Path := a.stack.reverse

def RowOK (r : StackElem) : Prop :=
  r.fMap.length = r.fMapCapacity ∧ r.fMapCount ≤ r.fMapCapacity ∧ (r.fMapCapacity = 0 ∨ esMapInitCap ≤ r.fMapCapacity)

def GlobOK (S : Scan) (g : Level) : Prop :=
  match S.es.fGlobalNamespaces with
  | none => g = []
  | some r => RowOK r ∧ valid r = g.map (enc S.es.fPrefixPool S.uriPool)

structure Rep (S : Scan) (a : Abs) : Prop where
  top : S.es.fStackTop = a.stack.length
  top_le : S.es.fStackTop ≤ S.es.fStack.length
  len_le : S.es.fStack.length ≤ S.es.fStackCapacity
  cap_ge : esStackInitCap ≤ S.es.fStackCapacity
  rows : ((S.es.fStack.take S.es.fStackTop).map valid).reverse
           = a.stack.map (·.map (enc S.es.fPrefixPool S.uriPool))
  rowOK : ∀ r ∈ S.es.fStack, RowOK r
  glob : GlobOK S a.g
  memS : ∀ l ∈ a.stack, ∀ d ∈ l, d.pre ∈ S.es.fPrefixPool ∧ d.uri ∈ S.uriPool
  memG : ∀ d ∈ a.g, d.pre ∈ S.es.fPrefixPool ∧ d.uri ∈ S.uriPool
  gpool : "" ∈ S.es.fPrefixPool ∧ S.es.fGlobalPoolId = getId S.es.fPrefixPool ""
  xpool : xmlString ∈ S.es.fPrefixPool ∧ S.es.fXMLPoolId = getId S.es.fPrefixPool xmlString
  npool : xmlnsString ∈ S.es.fPrefixPool ∧ S.es.fXMLNSPoolId = getId S.es.fPrefixPool xmlnsString
  eid : "" ∈ S.uriPool ∧ S.es.fEmptyNamespaceId = getId S.uriPool ""
  xid : xmlURIName ∈ S.uriPool ∧ S.es.fXMLNamespaceId = getId S.uriPool xmlURIName
  nid : xmlnsURIName ∈ S.uriPool ∧ S.es.fXMLNSNamespaceId = getId S.uriPool xmlnsURIName
  sE : S.fEmptyNamespaceId = S.es.fEmptyNamespaceId
  sX : S.fXMLNamespaceId = S.es.fXMLNamespaceId
  sN : S.fXMLNSNamespaceId = S.es.fXMLNSNamespaceId

theorem Rep.mem {S : Scan} {a : Abs} (h : Rep S a) :
    ∀ l ∈ a.stack ++ [a.g], ∀ d ∈ l, d.pre ∈ S.es.fPrefixPool ∧ d.uri ∈ S.uriPool := by
  intro l hl d hd
  rcases List.mem_append.mp hl with h1 | h1
  · exact h.memS l h1 d hd
  · exact h.memG d (List.mem_singleton.mp h1 ▸ hd)

/-- allocated or not, the global row is one row: `globalRow` reads a missing one as the empty row -/
theorem globOK_iff (S : Scan) (g : Level) :
    GlobOK S g ↔ RowOK (globalRow S.es) ∧ valid (globalRow S.es) = g.map (enc S.es.fPrefixPool S.uriPool) := by
  unfold GlobOK globalRow
  cases S.es.fGlobalNamespaces with
  | none => exact ⟨fun e => e ▸ ⟨⟨rfl, Nat.le_refl _, Or.inl rfl⟩, rfl⟩, fun h => List.map_eq_nil_iff.mp h.2.symm⟩
  | some r => exact Iff.rfl

theorem mapGrow_strict (cap : Nat) (h : esMapInitCap ≤ cap) : cap < cap * esMapGrowNum / esMapGrowDen := by
  simp only [esMapInitCap, esMapGrowNum, esMapGrowDen] at *
  omega

theorem stackGrow_strict (cap : Nat) (h : esStackInitCap ≤ cap) :
    cap < cap * esStackGrowNum / esStackGrowDen := by
  simp only [esStackInitCap, esStackGrowNum, esStackGrowDen] at *
  omega

theorem mapInit_pos : 0 < esMapInitCap := by decide

/-- the capacity `expandMap` chooses (grow by the factor, or the initial capacity for a map not yet allocated) -/
theorem newCap_spec {init num den : Nat} (hg : ∀ c, init ≤ c → c < c * num / den) (h0 : 0 < init) {cap : Nat}
    (hcap : cap = 0 ∨ init ≤ cap) :
    cap < (if cap ≠ 0 then cap * num / den else init) ∧ init ≤ (if cap ≠ 0 then cap * num / den else init) := by
  by_cases hc : cap = 0
  · simp [hc, h0]
  · have := hg cap (hcap.resolve_left hc)
    simp only [ne_eq, hc, not_false_eq_true, ↓reduceIte]
    omega

/-- the capacity of the pointer array after `if (fStackTop == fStackCapacity) expandStack()` -/
theorem stackCap_spec {init num den : Nat} (hg : ∀ c, init ≤ c → c < c * num / den) {top len cap : Nat}
    (htop : top ≤ len) (hlen : len ≤ cap) (hcap : init ≤ cap) :
    max len (top + 1) ≤ (if top = cap then cap * num / den else cap) ∧
    init ≤ (if top = cap then cap * num / den else cap) := by
  have := hg cap hcap
  generalize cap * num / den = c at this ⊢
  split <;> omega

theorem expandMap_spec (r : StackElem) (h : RowOK r) :
    RowOK (expandMap r) ∧ (expandMap r).fMapCount = r.fMapCount ∧ r.fMapCapacity < (expandMap r).fMapCapacity ∧
    ∀ k ≤ r.fMapCapacity, (expandMap r).fMap.take k = r.fMap.take k := by
  obtain ⟨hlen, hle, hcap⟩ := h
  obtain ⟨hgrow, hinit⟩ := newCap_spec mapGrow_strict mapInit_pos hcap
  obtain ⟨hl, ht⟩ := grow_spec (default : PrefMapElem) hlen (Nat.le_of_lt hgrow)
  exact ⟨⟨hl, Nat.le_trans hle (Nat.le_of_lt hgrow), Or.inr hinit⟩, rfl, hgrow, ht⟩

/-- `if ((prefId == fGlobalPoolId) && (uriId == fEmptyNamespaceId)) …fURIId = fEmptyNamespaceId; else …fURIId = uriId`
    stores the id it was given -/
theorem storedUri_eq (prefId uriId g e : Nat) : (if prefId = g ∧ uriId = e then e else uriId) = uriId :=
  ite_eq_right_iff.mpr fun hc => hc.2.symm

theorem rowAdd_spec (s : ElemStack) (r : StackElem) (h : RowOK r) (prefId uriId : Nat) :
    RowOK (rowAdd s r prefId uriId) ∧ valid (rowAdd s r prefId uriId) = valid r ++ [⟨prefId, uriId⟩] := by
  -- the row with room for the pair
  obtain ⟨r', hdef, hr', hcnt, hroom, htake⟩ : ∃ r', r' = (if r.fMapCount = r.fMapCapacity then expandMap r else r) ∧
      RowOK r' ∧ r'.fMapCount = r.fMapCount ∧ r.fMapCount < r'.fMapCapacity ∧
      r'.fMap.take r.fMapCount = r.fMap.take r.fMapCount := by
    by_cases hfull : r.fMapCount = r.fMapCapacity
    · obtain ⟨a, b, c, d⟩ := expandMap_spec r h
      exact ⟨expandMap r, by rw [if_pos hfull], a, b, hfull ▸ c, d _ h.2.1⟩
    · exact ⟨r, by rw [if_neg hfull], h, rfl, Nat.lt_of_le_of_ne h.2.1 hfull, rfl⟩
  unfold rowAdd
  simp only [storedUri_eq, ← hdef]
  refine ⟨⟨by rw [List.length_set]; exact hr'.1, by rw [hcnt]; exact hroom, hr'.2.2⟩, ?_⟩
  simp only [valid, hcnt]
  rw [take_succ_set _ _ _ (by rw [hr'.1]; exact hroom), htake]

/-- a freshly reset stack represents the empty chain, whatever the pools, as long as they hold the reserved strings -/
theorem rep_fresh {pp up : Pool} {gi xi ni ei xu nu : Nat} (ui : Nat) (v : Bool)
    (g : "" ∈ pp ∧ gi = getId pp "") (x : xmlString ∈ pp ∧ xi = getId pp xmlString)
    (n : xmlnsString ∈ pp ∧ ni = getId pp xmlnsString) (e : "" ∈ up ∧ ei = getId up "")
    (hxu : xmlURIName ∈ up ∧ xu = getId up xmlURIName) (hnu : xmlnsURIName ∈ up ∧ nu = getId up xmlnsURIName) :
    Rep { es := { fEmptyNamespaceId := ei, fGlobalPoolId := gi, fPrefixPool := pp, fUnknownNamespaceId := ui,
                  fXMLNamespaceId := xu, fXMLPoolId := xi, fXMLNSNamespaceId := nu, fXMLNSPoolId := ni },
          uriPool := up, fEmptyNamespaceId := ei, fUnknownNamespaceId := ui, fXMLNamespaceId := xu,
          fXMLNSNamespaceId := nu, xml11 := v } {} where
  top := rfl
  top_le := Nat.le_refl _
  len_le := Nat.zero_le _
  cap_ge := Nat.le_refl _
  rows := rfl
  rowOK := fun _ hr => nomatch hr
  glob := rfl
  memS := fun _ hl => nomatch hl
  memG := fun _ hd => nomatch hd
  gpool := g
  xpool := x
  npool := n
  eid := e
  xid := hxu
  nid := hnu
  sE := rfl
  sX := rfl
  sN := rfl

/-- `commonInit`/`scanReset` pool the reserved strings one after the other; each keeps its id through the later
    `addOrFind`s.  (The pools are spelt out so that nothing has to be found by unfolding `addOrFind`, which would
    compare the strings.) -/
theorem init_rep (v : Bool) : Rep (Scan.init v) {} :=
  have g := pooled_addOrFind (pooled_addOrFind (pooled_self [] "") xmlString) xmlnsString
  have x := pooled_addOrFind (pooled_self (addOrFind [] "").1 xmlString) xmlnsString
  have n := pooled_self (addOrFind (addOrFind [] "").1 xmlString).1 xmlnsString
  have e := pooled_addOrFind (pooled_addOrFind (pooled_addOrFind (pooled_self [] "") unknownURIName) xmlURIName) xmlnsURIName
  have xu := pooled_addOrFind (pooled_self (addOrFind (addOrFind [] "").1 unknownURIName).1 xmlURIName) xmlnsURIName
  have nu := pooled_self (addOrFind (addOrFind (addOrFind [] "").1 unknownURIName).1 xmlURIName).1 xmlnsURIName
  rep_fresh _ v g x n e xu nu

theorem rep_addLevel {S : Scan} {a : Abs} (h : Rep S a) : Rep (S.step .addLevel) (a.step .addLevel) := by
  obtain ⟨rows, hrows, hlt, htake, hlen, hmem⟩ := slot_spec S.es.fStack ({} : StackElem) h.top_le
  obtain ⟨hc1, hc2⟩ := stackCap_spec stackGrow_strict h.top_le h.len_le h.cap_ge
  have hrowsOK : ∀ r ∈ rows, RowOK r := fun r hr =>
    (hmem r hr).elim (h.rowOK r) (fun e => e ▸ ⟨rfl, Nat.le_refl _, Or.inl rfl⟩)
  simp only [Scan.step, Abs.step, addLevel, expandStack, ← hrows, List.getElem?_eq_getElem hlt, Option.getD_some]
  exact { h with
    top := by simp [h.top]
    top_le := by simp only [List.length_set]; omega
    len_le := by simp only [List.length_set]; omega
    cap_ge := hc2
    rows := by
      show ((List.take (S.es.fStackTop + 1) (rows.set S.es.fStackTop _)).map valid).reverse = _
      rw [take_succ_map_reverse valid _ _ (by simpa only [List.length_set] using hlt),
        List.take_set_of_le (Nat.le_refl _), htake, h.rows]
      simp [valid]
    rowOK := fun r hr => (List.mem_or_eq_of_mem_set hr).elim (hrowsOK r) (fun e =>
      have := hrowsOK _ (List.getElem_mem hlt)
      e ▸ ⟨this.1, Nat.zero_le _, this.2.2⟩)
    memS := fun l hl d hd => (List.mem_cons.mp hl).elim (fun e => nomatch (e ▸ hd)) (fun h1 => h.memS l h1 d hd) }

theorem rep_popTop {S : Scan} {a : Abs} (h : Rep S a) : Rep (S.step .popTop) (a.step .popTop) := by
  cases a with | mk g st =>
  cases st with
  | nil =>
    -- EmptyStackException: nothing changes
    have h0 : S.es.fStackTop = 0 := h.top
    have hs : S.step .popTop = S := by simp [Scan.step, popTop, h0]
    rw [hs]; exact h
  | cons l r =>
    have hn : S.es.fStackTop = r.length + 1 := h.top
    have hlt : r.length < S.es.fStack.length := by have := h.top_le; omega
    have hrows := h.rows
    rw [hn, take_succ_map_reverse valid _ _ hlt] at hrows
    simp only [Scan.step, popTop, hn, Nat.add_one_ne_zero, ↓reduceIte, Abs.step, List.tail_cons, Nat.add_sub_cancel]
    exact { h with
      top := rfl
      top_le := Nat.le_of_lt hlt
      rows := (List.cons.inj hrows).2
      memS := fun l' hl' => h.memS l' (List.mem_cons_of_mem l hl') }

/-- the pools may grow: re-encoding is the identity on pooled strings -/
theorem rep_ext {S : Scan} {a : Abs} (h : Rep S a) {pp up : Pool} (hp : S.es.fPrefixPool <+: pp) (hu : S.uriPool <+: up) :
    Rep { S with es := { S.es with fPrefixPool := pp }, uriPool := up } a := by
  obtain ⟨l1, rfl⟩ := hp
  obtain ⟨l2, rfl⟩ := hu
  exact { h with
    rows := by
      show _ = a.stack.map (·.map (enc (S.es.fPrefixPool ++ l1) (S.uriPool ++ l2)))
      rw [List.map_congr_left (fun l hl => map_enc_append l1 l2 l (h.memS l hl))]; exact h.rows
    glob := (globOK_iff _ _).mpr (by
      show _ ∧ _ = a.g.map (enc (S.es.fPrefixPool ++ l1) (S.uriPool ++ l2))
      rw [map_enc_append l1 l2 a.g h.memG]; exact (globOK_iff _ _).mp h.glob)
    memS := fun l hl d hd => ⟨List.mem_append_left _ (h.memS l hl d hd).1, List.mem_append_left _ (h.memS l hl d hd).2⟩
    memG := fun d hd => ⟨List.mem_append_left _ (h.memG d hd).1, List.mem_append_left _ (h.memG d hd).2⟩
    gpool := pooled_append h.gpool l1
    xpool := pooled_append h.xpool l1
    npool := pooled_append h.npool l1
    eid := pooled_append h.eid l2
    xid := pooled_append h.xid l2
    nid := pooled_append h.nid l2 }

theorem rep_addPrefix {S : Scan} {a : Abs} (h : Rep S a) (p u : String) :
    Rep (S.step (.addPrefix p u)) (a.step (.addPrefix p u)) := by
  cases a with | mk g st =>
  cases st with
  | nil =>
    -- EmptyStackException, but the URI has been pooled
    have h0 : S.es.fStackTop = 0 := h.top
    simp only [Scan.step, addPrefix, if_pos h0]
    exact rep_ext h (List.prefix_refl _) (addOrFind_prefix _ u)
  | cons l rest =>
    -- first the pools grow, then the pair goes into the top row
    have h1 := rep_ext h (addOrFind_prefix _ p) (addOrFind_prefix _ u)
    have hn : S.es.fStackTop = rest.length + 1 := h.top
    have hlt : rest.length < S.es.fStack.length := by have := h.top_le; omega
    have hrows : ((S.es.fStack.take S.es.fStackTop).map valid).reverse = _ := h1.rows
    rw [hn, take_succ_map_reverse valid _ _ hlt] at hrows
    obtain ⟨hok', hval⟩ := rowAdd_spec S.es S.es.fStack[rest.length] (h.rowOK _ (List.getElem_mem hlt))
      (getId (addOrFind S.es.fPrefixPool p).1 p) (getId (addOrFind S.uriPool u).1 u)
    simp only [Scan.step, addPrefix, hn, Nat.add_one_ne_zero, ↓reduceIte, Nat.add_sub_cancel,
      List.getElem?_eq_getElem hlt, Abs.step, addOrFind_snd S.es.fPrefixPool p, addOrFind_snd S.uriPool u]
    exact { h1 with
      top := rfl
      top_le := by simpa using Nat.succ_le_of_lt hlt
      len_le := by simpa using h.len_le
      rows := by
        show ((List.take (rest.length + 1) (S.es.fStack.set rest.length _)).map valid).reverse = _
        rw [take_succ_map_reverse valid _ _ (by simpa using hlt), List.take_set_of_le (Nat.le_refl _),
          List.getElem_set_self, hval, (List.cons.inj hrows).1, (List.cons.inj hrows).2]
        simp [enc]
      rowOK := fun r hr => (List.mem_or_eq_of_mem_set hr).elim (h.rowOK r) (fun e => e ▸ hok')
      memS := fun l' hl' d hd => by
        rcases List.mem_cons.mp hl' with e | h2
        · rcases List.mem_append.mp (e ▸ hd) with h3 | h3
          · exact h1.memS l List.mem_cons_self d h3
          · exact List.mem_singleton.mp h3 ▸ ⟨addOrFind_mem _ _, addOrFind_mem _ _⟩
        · exact h1.memS l' (List.mem_cons_of_mem l h2) d hd }

theorem rep_addGlobal {S : Scan} {a : Abs} (h : Rep S a) (p u : String) :
    Rep (S.step (.addGlobalPrefix p u)) (a.step (.addGlobalPrefix p u)) := by
  have h1 := rep_ext h (addOrFind_prefix _ p) (addOrFind_prefix _ u)
  obtain ⟨hok0, hval0⟩ : RowOK (globalRow S.es) ∧
      valid (globalRow S.es) = a.g.map (enc (addOrFind S.es.fPrefixPool p).1 (addOrFind S.uriPool u).1) :=
    (globOK_iff _ _).mp h1.glob
  obtain ⟨hok', hval⟩ := rowAdd_spec S.es (globalRow S.es) hok0 (getId (addOrFind S.es.fPrefixPool p).1 p)
    (getId (addOrFind S.uriPool u).1 u)
  simp only [Scan.step, addGlobalPrefix, Abs.step, addOrFind_snd S.es.fPrefixPool p, addOrFind_snd S.uriPool u]
  exact { h1 with
    glob := ⟨hok', hval.trans (by rw [hval0]; simp [enc])⟩
    memG := fun d hd => by
      rcases List.mem_append.mp hd with h2 | h2
      · exact h1.memG d h2
      · exact List.mem_singleton.mp h2 ▸ ⟨addOrFind_mem _ _, addOrFind_mem _ _⟩ }

theorem rep_step {S : Scan} {a : Abs} (h : Rep S a) (o : Op) : Rep (S.step o) (a.step o) := by
  cases o with
  | addLevel => exact rep_addLevel h
  | popTop => exact rep_popTop h
  | addPrefix p u => exact rep_addPrefix h p u
  | addGlobalPrefix p u => exact rep_addGlobal h p u

theorem rep_run {S : Scan} {a : Abs} (h : Rep S a) (ops : List Op) : Rep (S.run ops) (a.run ops) := by
  induction ops generalizing S a with
  | nil => exact h
  | cons o os ih => exact ih (rep_step h o)

/-- the namespace name the declarations hold for prefix `p`, the two reserved prefixes included, before the rule "an empty
    name un-declares" is applied (`ls` = the declaration lists, innermost first, `g` the global bindings) -/
def bound (g : Level) (ls : List Level) (p : String) : Option String :=
  if p = "xml" then some xmlURI else if p = "xmlns" then some xmlnsURI else nearest (ls ++ [g]) p

theorem inScopeG_eq_bound (g : Level) (ls : List Level) (p : String) :
    inScopeG g ls.reverse p = match bound g ls p with
      | some u => if u = "" then none else some u
      | none => none := by
  fun_cases bound g ls p <;> simp [inScopeG, *, xmlURI_ne_empty, xmlnsURI_ne_empty]
  cases nearest (ls ++ [g]) p <;> rfl

theorem inScope_eq_bound (path : Path) (p : String) :
    inScope path p = match bound [] path.reverse p with
      | some u => if u = "" then none else some u
      | none => none := by
  rw [← inScopeG_eq_bound, List.reverse_reverse]; rfl

theorem inScope_ne_some_empty (path : Path) (p : String) : inScope path p ≠ some "" := by
  rw [inScope_eq_bound]
  cases bound [] path.reverse p with
  | none => exact fun h => nomatch h
  | some u => by_cases e : u = "" <;> simp [e]

/-- the answer of `mapPrefixToURI`, literally (id and "unknown" flag), for a prefix whose binding is `r`: the pool id of
    the name; without a binding the empty namespace id for the default namespace, else "unknown".  `ElemStack` and
    `WFElemStack` differ only in how they find the binding -/
def code (up : Pool) (eid unk : Nat) (p : String) : Option String → Nat × Bool
  | some u => (getId up u, false)
  | none => if p = "" then (eid, false) else (unk, true)

/-- the tests on the prefix id at the head of `mapPrefixToURI` single out the unpooled and the two reserved prefixes;
    `found` is what the search through the map yields, `near` the nearest declaration it stands for -/
theorem dispatch_eq {pp up : Pool} {xp np xid nid : Nat} (h0 : "" ∈ pp) (hx : xmlString ∈ pp ∧ xp = getId pp xmlString)
    (hn : xmlnsString ∈ pp ∧ np = getId pp xmlnsString) (hxu : xid = getId up xmlURIName)
    (hnu : nid = getId up xmlnsURIName) (p : String) (eid unk : Nat) (near : Option String) (found : Nat × Bool)
    (hfound : p ∈ pp → found = code up eid unk p near) (hnear : p ∉ pp → near = none) :
    (if getId pp p = 0 then (unk, true) else if getId pp p = xp then (xid, false)
      else if getId pp p = np then (nid, false) else found) =
    code up eid unk p (if p = "xml" then some xmlURI else if p = "xmlns" then some xmlnsURI else near) := by
  rw [hx.2, hn.2, hxu, hnu, xmlURIName_eq, xmlnsURIName_eq]
  by_cases hp : p ∈ pp
  · have e1 : getId pp p = getId pp xmlString ↔ p = "xml" :=
      xmlString_eq ▸ ⟨getId_inj hp hx.1, fun e => e ▸ rfl⟩
    have e2 : getId pp p = getId pp xmlnsString ↔ p = "xmlns" :=
      xmlnsString_eq ▸ ⟨getId_inj hp hn.1, fun e => e ▸ rfl⟩
    simp only [getId_ne_zero_iff.mpr hp, ↓reduceIte, e1, e2, hfound hp]
    by_cases c1 : p = "xml"
    · simp only [c1, ↓reduceIte, code]
    · simp only [c1, ↓reduceIte]
      by_cases c2 : p = "xmlns"
      · simp only [c2, ↓reduceIte, code]
      · simp only [c2, ↓reduceIte]
  · have p1 : p ≠ "xml" := fun e => hp (e ▸ xmlString_eq ▸ hx.1)
    have p2 : p ≠ "xmlns" := fun e => hp (e ▸ xmlnsString_eq ▸ hn.1)
    have p0 : p ≠ "" := fun e => hp (e ▸ h0)
    simp only [getId_eq_zero_iff.mpr hp, ↓reduceIte, p1, p2, p0, hnear hp, code]

/-- what the id means: `getURIText`, with "unknown" and the empty namespace id standing for "no namespace name"; the
    empty string has the empty namespace id, so a declaration with the empty name reads as none -/
theorem decode_code {up : Pool} {eid : Nat} (he : "" ∈ up ∧ eid = getId up "") (unk : Nat) (p : String)
    {r : Option String} (hmem : ∀ u, r = some u → u ∈ up) :
    (if (code up eid unk p r).2 = true then none
      else if (code up eid unk p r).1 = eid then none else valueForId up (code up eid unk p r).1) =
    match (generalizing := false) r with
      | some u => if u = "" then none else some u
      | none => none := by
  cases r with
  | none => by_cases c : p = "" <;> simp [code, c]
  | some u =>
    have hu := hmem u rfl
    by_cases e : u = ""
    · simp [code, e, he.2]
    · have hne : getId up u ≠ eid := he.2 ▸ fun hh => e (getId_inj hu he.1 hh)
      simp [code, e, hne, valueForId_getId hu]

/-- the tail of `mapPrefixToURI` in the shape `unfold` leaves it (hence `generalizing := false`): a hit in the rows `x`,
    else in the global row `y`, else the default -/
theorem search_code {x y : Option Nat} {n : Option String} {up : Pool} (h : x.or y = n.map (getId up)) (eid unk : Nat)
    (p : String) :
    (match (generalizing := false) x with
      | some u => (u, false)
      | none => match (generalizing := false) y with
        | some u => (u, false)
        | none => if p = "" then (eid, false) else (unk, true)) = code up eid unk p n := by
  cases x <;> cases y <;> cases n <;> simp_all [Option.or, code]

/-- the two search loops of `mapPrefixToURI` (stack rows from the top, then the global row) compute the nearest
    enclosing declaration, in encoded form -/
theorem lookup_eq {S : Scan} {a : Abs} (h : Rep S a) (p : String) (hp : p ∈ S.es.fPrefixPool) :
    (searchStack S.es.fStack (getId S.es.fPrefixPool p) S.es.fStackTop).or
      (S.es.fGlobalNamespaces.bind (searchRow · (getId S.es.fPrefixPool p)))
      = (nearest (a.stack ++ [a.g]) p).map (getId S.uriPool) := by
  have hglob : S.es.fGlobalNamespaces.bind (searchRow · (getId S.es.fPrefixPool p))
      = findE (a.g.map (enc S.es.fPrefixPool S.uriPool)) (getId S.es.fPrefixPool p) := by
    rw [← ((globOK_iff _ _).mp h.glob).2, ← searchRow_eq, globalRow]
    cases S.es.fGlobalNamespaces <;> rfl
  rw [nearest_eq_declOf, ← findE_enc S.es.fPrefixPool S.uriPool _ p (fun d hd => by
      obtain ⟨l, hl, hdl⟩ := List.mem_flatten.mp hd
      exact (h.mem l hl d hdl).1) hp,
    searchStack_eq, h.rows, hglob]
  simp only [List.flatten_append, List.map_append, List.map_flatten, findE_append, List.flatten_cons, List.flatten_nil,
    List.append_nil]

/-- **`mapPrefixToURI`, literally**: id and "unknown" flag of the binding the represented declarations hold -/
theorem mapPrefix_raw {S : Scan} {a : Abs} (h : Rep S a) (p : String) :
    mapPrefixToURI S.es p =
      code S.uriPool S.es.fEmptyNamespaceId S.es.fUnknownNamespaceId p (bound a.g a.stack p) := by
  -- the prefix id the C++ computes is simply the pool id
  have hpid : (if p = "" then S.es.fGlobalPoolId else getId S.es.fPrefixPool p) = getId S.es.fPrefixPool p := by
    split
    · next e => rw [e, h.gpool.2]
    · rfl
  unfold mapPrefixToURI
  simp only [hpid]
  exact dispatch_eq h.gpool.1 h.xpool h.npool h.xid.2 h.nid.2 p _ _ _ _ (fun hp => search_code (lookup_eq h p hp) _ _ p)
    (fun hp => nearest_none_of_not_mem _ p (fun l hl d hd e => hp (e ▸ (h.mem l hl d hd).1)))

theorem bound_some {g : Level} {ls : List Level} {p u : String} (hu : bound g ls p = some u) :
    u = xmlURI ∨ u = xmlnsURI ∨ ∃ l ∈ ls ++ [g], ⟨p, u⟩ ∈ l := by
  revert hu
  fun_cases bound g ls p <;> intro hu
  · exact Or.inl (Option.some.inj hu).symm
  · exact Or.inr (Or.inl (Option.some.inj hu).symm)
  · exact Or.inr (Or.inr (nearest_some_mem hu))

theorem bound_mem {up : Pool} (hx : xmlURIName ∈ up) (hn : xmlnsURIName ∈ up) {g : Level} {ls : List Level}
    (hmem : ∀ l ∈ ls ++ [g], ∀ d ∈ l, d.uri ∈ up) {p u : String} (hu : bound g ls p = some u) : u ∈ up := by
  rcases bound_some hu with e | e | ⟨l, hl, hd⟩
  · exact e ▸ xmlURIName_eq ▸ hx
  · exact e ▸ xmlnsURIName_eq ▸ hn
  · exact hmem l hl _ hd

theorem Rep.bound_mem {S : Scan} {a : Abs} (h : Rep S a) {p u : String} (hu : bound a.g a.stack p = some u) :
    u ∈ S.uriPool :=
  ElemStack.bound_mem h.xid.1 h.nid.1 (fun l hl d hd => (h.mem l hl d hd).2) hu

theorem mapPrefix_of_rep {S : Scan} {a : Abs} (h : Rep S a) (p : String) :
    S.decode (mapPrefixToURI S.es p) = inScopeG a.g a.path p := by
  rw [mapPrefix_raw h p, Abs.path, inScopeG_eq_bound]
  unfold Scan.decode
  rw [h.sE]
  exact decode_code h.eid _ p (fun _ hu => h.bound_mem hu)

/-- **`resolvePrefix`** is `mapPrefixToURI` plus the XML 1.1 "prefix was un-declared" test: a visible `xmlns:p=""` makes
    the use of `p` an error there, and only there.  (Without a binding the answer reads the scanner's copy of the empty id,
    `Rep.sE`, and the stack's unknown id: `Rep` says nothing of `S.fUnknownNamespaceId`, which `resolvePrefix` never reads.) -/
theorem resolvePrefix_eq {S : Scan} {a : Abs} (h : Rep S a) (p : String) (mode : MapModes)
    (hm : mode = .attribute → p ≠ "") :
    S.resolvePrefix p mode = match bound a.g a.stack p with
      | some u => (getId S.uriPool u, decide (p ≠ "" ∧ S.xml11 = true ∧ u = ""))
      | none => if p = "" then (S.fEmptyNamespaceId, false) else (S.es.fUnknownNamespaceId, true) := by
  fun_cases Scan.resolvePrefix S p mode
  · next c => exact absurd c.1 (hm c.2)
  · next c => simp [c.2, bound, xmlnsString_eq, h.sN, h.nid.2, xmlnsURIName_eq, xmlnsURI_ne_empty]
  · next c => simp [c.2, bound, xmlString_eq, h.sX, h.xid.2, xmlURIName_eq, xmlURI_ne_empty]
  · simp +zetaDelta only [mapPrefix_raw h p]
    cases hb : bound a.g a.stack p with
    | none => by_cases c : p = "" <;> simp [code, c, h.sE]
    | some u =>
      have hid : getId S.uriPool u = S.es.fEmptyNamespaceId ↔ u = "" :=
        h.eid.2 ▸ ⟨getId_inj (h.bound_mem hb) h.eid.1, fun e => e ▸ rfl⟩
      simp [code, hid]

def opsOfLevel (l : Level) : List Op := .addLevel :: l.map (fun d => .addPrefix d.pre d.uri)
/-- the operations a scanner performs on the way down to the element at the end of `path` -/
def opsOfPath (path : Path) : List Op := (path.map opsOfLevel).flatten

theorem Abs.run_append (a : Abs) (o1 o2 : List Op) : a.run (o1 ++ o2) = (a.run o1).run o2 := by
  fun_induction Abs.run a o1 <;> simp_all [Abs.run]

theorem Scan.run_append (s : Scan) (o1 o2 : List Op) : s.run (o1 ++ o2) = (s.run o1).run o2 := by
  fun_induction Scan.run s o1 <;> simp_all [Scan.run]

theorem run_addPrefixes (g : Level) (l : Level) (rest : List Level) (ds : Level) :
    (Abs.mk g (l :: rest)).run (ds.map (fun d => .addPrefix d.pre d.uri)) = ⟨g, (l ++ ds) :: rest⟩ := by
  induction ds generalizing l with
  | nil => simp [Abs.run]
  | cons d ds ih => simp [Abs.run, Abs.step, ih]

theorem run_opsOfLevel (a : Abs) (l : Level) : a.run (opsOfLevel l) = ⟨a.g, l :: a.stack⟩ := by
  have := run_addPrefixes a.g [] a.stack l
  rwa [List.nil_append] at this

theorem run_opsOfPath (g : Level) (st : List Level) (path : Path) :
    (Abs.mk g st).run (opsOfPath path) = ⟨g, path.reverse ++ st⟩ := by
  induction path generalizing st with
  | nil => rfl
  | cons l ls ih =>
    have : opsOfPath (l :: ls) = opsOfLevel l ++ opsOfPath ls := by simp [opsOfPath]
    rw [this, Abs.run_append, run_opsOfLevel, ih]; simp

/-- `S'` is `S` later in the same parse: the XML version is the same and the URI pool has only grown, so a URI id
    handed out at `S` still reads the same at `S'` -/
def Ext (S S' : Scan) : Prop := S'.xml11 = S.xml11 ∧ S.uriPool <+: S'.uriPool

theorem Ext.refl (S : Scan) : Ext S S := ⟨rfl, List.prefix_refl _⟩

theorem Ext.trans {S1 S2 S3 : Scan} (h1 : Ext S1 S2) (h2 : Ext S2 S3) : Ext S1 S3 :=
  ⟨h2.1.trans h1.1, h1.2.trans h2.2⟩

theorem step_ext (S : Scan) (o : Op) : Ext S (S.step o) := by
  cases o with
  | addLevel => exact Ext.refl S
  | popTop => simp only [Scan.step]; split <;> exact Ext.refl S
  | addPrefix p u => simp only [Scan.step]; split <;> exact ⟨rfl, addOrFind_prefix _ _⟩
  | addGlobalPrefix p u => exact ⟨rfl, addOrFind_prefix _ _⟩

theorem run_ext (ops : List Op) : ∀ S : Scan, Ext S (S.run ops) := by
  induction ops with
  | nil => exact Ext.refl
  | cons o os ih => exact fun S => (step_ext S o).trans (ih _)

/-- depth bookkeeping relative to a frame: `d ≥ 1` levels of the frame are open; a body may push and pop inside
    the frame but never pops the frame's own bottom level, and does not touch the global bindings -/
def relDepth : Nat → List Op → Option Nat
  | d, [] => some d
  | d, .addLevel :: r => relDepth (d + 1) r
  | d, .popTop :: r => if d ≤ 1 then none else relDepth (d - 1) r
  | d, .addPrefix _ _ :: r => relDepth d r
  | _, .addGlobalPrefix _ _ :: _ => none

/-- `top` = the levels opened since the frame began (its own bottom level included), `base` = those below, which a body
    with `relDepth top.length ops = some d'` cannot reach: it ends with `d'` levels on the same `base` -/
theorem run_relDepth (g : Level) (base : List Level) (ops : List Op) (top : List Level) (d' : Nat)
    (h1 : 1 ≤ top.length) (h : relDepth top.length ops = some d') :
    ∃ top', top'.length = d' ∧ (Abs.mk g (top ++ base)).run ops = ⟨g, top' ++ base⟩ := by
  generalize hd : top.length = d at h
  fun_induction relDepth d ops generalizing top with
  | case1 d => cases h; exact ⟨top, hd, rfl⟩
  | case2 d r ih => exact ih ([] :: top) (by simp) (by simp [hd]) h    -- addLevel
  | case3 d r hle => cases h    -- popTop of the frame's bottom level
  | case4 d r hle ih =>    -- popTop
    match top, h1, hd with
    | l :: t, _, hd => exact ih t (by simp at hd; omega) (by simp at hd; omega) h
  | case5 d p u r ih =>    -- addPrefix
    match top, h1 with
    | l :: t, _ => exact ih ((l ++ [⟨p, u⟩]) :: t) (by simp) (by simpa using hd) h
  | case6 => cases h    -- addGlobalPrefix

theorem abs_frame (a : Abs) (body : List Op) (hb : relDepth 1 body = some 1) :
    a.run ([.addLevel] ++ body ++ [.popTop]) = a := by
  cases a with | mk g st =>
  obtain ⟨t', hl, hr⟩ := run_relDepth g st body [[]] 1 (Nat.le_refl 1) hb
  rw [Abs.run_append, Abs.run_append, show (Abs.mk g st).run [.addLevel] = ⟨g, [[]] ++ st⟩ from rfl, hr]
  match t', hl with
  | [l], _ => rfl

def declsOfRaw : List RawAttr → Level
  | [] => []
  | a :: r => if a.isNSDecl then ⟨if a.pre = "" then "" else a.loc, a.value⟩ :: declsOfRaw r else declsOfRaw r

theorem declsOfRaw_eq_filterMap (as : List RawAttr) :
    declsOfRaw as = as.filterMap (fun a => if a.isNSDecl then some ⟨if a.pre = "" then "" else a.loc, a.value⟩ else none) := by
  fun_induction declsOfRaw as <;> simp_all

theorem declsOfRaw_append (a b : List RawAttr) : declsOfRaw (a ++ b) = declsOfRaw a ++ declsOfRaw b := by
  simp only [declsOfRaw_eq_filterMap, List.filterMap_append]

theorem declsOfRaw_perm {as as' : List RawAttr} (hp : as.Perm as') : (declsOfRaw as).Perm (declsOfRaw as') := by
  rw [declsOfRaw_eq_filterMap, declsOfRaw_eq_filterMap]
  exact hp.filterMap _

/-- the first pass over a start tag is a run of `addPrefix` operations, one for every declaration it finds -/
theorem scanRaw_eq_run (attrs : List RawAttr) (S : Scan) :
    S.scanRawAttrListforNameSpaces attrs = S.run ((declsOfRaw attrs).map (fun d => .addPrefix d.pre d.uri)) := by
  fun_induction Scan.scanRawAttrListforNameSpaces S attrs <;> simp_all [declsOfRaw, Scan.run]

/-- so whatever holds after every history holds after a start tag -/
theorem startTag_eq_run (S : Scan) (attrs : List RawAttr) : S.startTag attrs = S.run (opsOfLevel (declsOfRaw attrs)) :=
  scanRaw_eq_run attrs _

theorem rep_startTag {S : Scan} {a : Abs} (h : Rep S a) (attrs : List RawAttr) :
    Rep (S.startTag attrs) ⟨a.g, declsOfRaw attrs :: a.stack⟩ := by
  rw [startTag_eq_run, ← run_opsOfLevel]; exact rep_run h _

end XV.Lemmas.ElemStack
