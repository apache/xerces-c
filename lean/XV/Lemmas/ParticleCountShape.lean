/-
C08 — counting states: the shape of the tree `makeContentModel` hands to `DFAContentModel`.  Under
`useRepeatingLeafNodes s`, `convert true s` is in compact shape and its leaves are `collectLeafNodes s`
(`compact_convert`); without compact syntax the converted tree has no `Loop` node (`toCM_convert`).
-/
import XV.Lemmas.ParticleCountSpec
namespace XV.Lemmas.ParticleCount
open XV.Spec.Particle XV.Model.Particle XV.Model.ParticleDfa XV.Lemmas.ParticleExpand
open XV.Spec.ContentModel (CM)
open XV.Lemmas.Glushkov (names size)

/-- the content models `makeContentModel` builds a `DFAContentModel` for: no `All` group anywhere
    (an all-group is only allowed as the whole content and gets an `AllContentModel`) -/
def noAll : SNode Nat → Bool
  | .leaf _ _ _ => true
  | .group1 t f _ _ => t != .All && noAll f
  | .group2 t f g _ _ => t != .All && noAll f && noAll g

theorem hasRepeatedLeafIn_false (l : List Nat) : hasRepeatedLeafIn l = false ↔ l.Nodup := by
  induction l with
  | nil => simp [hasRepeatedLeafIn]
  | cons a rest ih => simp [hasRepeatedLeafIn, ih]

/-- with the compact syntax a range on a leaf never copies the leaf -/
theorem compact_of_reps {a mn : Nat} {mx : Option Nat} {y : XNode Nat} (h : Reps (.leaf a) true mn mx y) :
    Compact y = true ∧ names (sk y) = [a] := by
  cases h with
  | one => exact ⟨rfl, rfl⟩
  | unary t => cases t <;> exact ⟨rfl, rfl⟩
  | seq hl _ _ => cases hl
  | loop _ hocc =>
    by_cases h0 : mn = 0
    · subst h0; exact ⟨by simp [Compact, hocc], rfl⟩
    · rw [if_neg h0]
      exact ⟨by rw [Compact, hocc, Bool.and_true]; exact decide_eq_true (Nat.pos_of_ne_zero h0), rfl⟩

theorem expand_leaf_compact (a mn : Nat) (mx : Option Nat) (hocc : occOk mn mx = true) :
    Compact (expand (.leaf a) mn mx true) = true ∧ names (sk (expand (.leaf a) mn mx true)) = [a] :=
  compact_of_reps (expand_reps (.leaf a) mn mx true hocc)

theorem expand_one (x : XNode Nat) (compact : Bool) : expand x 1 (some 1) compact = x := rfl

theorem wf_group2 {t : GroupType} {f g : SNode Nat} {mn : Nat} {mx : Option Nat} (ht : t ≠ .All)
    (h : (SNode.group2 t f g mn mx).wf = true) : occOk mn mx = true ∧ f.wf = true ∧ g.wf = true := by
  cases t with
  | All => exact absurd rfl ht
  | Sequence => simpa [SNode.wf, and_assoc] using h
  | Choice => simpa [SNode.wf, and_assoc] using h

theorem compact_convert (s : SNode Nat) (hwf : s.wf = true) (hna : noAll s = true) (hu : useRepeatingLeafNodes s = true) :
    Compact (convert true s) = true ∧ names (sk (convert true s)) = collectLeafNodes s := by
  fun_induction useRepeatingLeafNodes s with
  | case1 a mn mx => exact expand_leaf_compact a mn mx hwf
  | case2 t mn mx _ _ a fmin fmax =>
    -- a range on the group: only allowed around a single {1,1} leaf, which it then sits on
    obtain ⟨rfl, rfl⟩ := of_decide_eq_true hu
    exact expand_leaf_compact a mn mx (Bool.and_eq_true_iff.1 hwf).1
  -- a range on a group that is not around a single leaf: `useRepeatingLeafNodes` is false
  | case3 | case6 => cases hu
  -- a {1,1} group: `convert` passes it through (`expand_one`)
  | case4 t f mn mx _ hn ih =>
    obtain ⟨rfl, rfl⟩ : mn = 1 ∧ mx = some 1 := by simpa [not_or] using hn
    exact ih (Bool.and_eq_true_iff.1 hwf).2 (Bool.and_eq_true_iff.1 hna).2 hu
  -- an `All` group (`ht`: neither Choice nor Sequence): excluded by `noAll`
  | case5 t _ _ _ ht | case8 t _ _ _ _ ht => cases t <;> simp [noAll] at ht hna
  | case7 t f g mn mx ht hn ihf ihg =>
    obtain ⟨rfl, rfl⟩ : mn = 1 ∧ mx = some 1 := by simpa [not_or] using hn
    simp only [noAll, Bool.and_eq_true, bne_iff_ne, ne_eq] at hna
    rw [Bool.and_eq_true] at hu
    obtain ⟨_, hf, hg⟩ := wf_group2 hna.1.1 hwf
    obtain ⟨c1, n1⟩ := ihf hf hna.1.2 hu.1
    obtain ⟨c2, n2⟩ := ihg hg hna.2 hu.2
    rcases ht with rfl | rfl <;> exact ⟨by simp [convert, expand_one, Compact, c1, c2], by simp [convert, expand_one, sk, names, collectLeafNodes, n1, n2]⟩

theorem isCM_of_reps {x y : XNode Nat} {a : Nat} {b : Option Nat} (h : Reps x false a b y) (hx : ∃ c, IsCM x c) :
    ∃ c, IsCM y c := by
  induction h with
  | one => exact hx
  | unary t => exact hx.elim fun _ h => ⟨_, .unary t h⟩
  | seq _ _ _ ih1 ih2 =>
    obtain ⟨c1, h1⟩ := ih1
    obtain ⟨c2, h2⟩ := ih2
    exact ⟨_, .seq h1 h2⟩
  | loop hl _ => cases hl

theorem toCM_convert (s : SNode Nat) (hwf : s.wf = true) (hna : noAll s = true) :
    ∃ c, toCM (convert false s) = some c := by
  suffices h : ∃ c, IsCM (convert false s) c from h.imp fun c hc => (toCM_iff _ c).2 hc
  induction s with
  | leaf a mn mx => exact isCM_of_reps (expand_reps _ mn mx false hwf) ⟨_, .leaf a⟩
  | group1 t f mn mx ih =>
    simp only [SNode.wf, noAll, Bool.and_eq_true] at hwf hna
    exact isCM_of_reps (expand_reps _ mn mx false hwf.1) (ih hwf.2 hna.2)
  | group2 t f g mn mx ihf ihg =>
    simp only [noAll, Bool.and_eq_true, bne_iff_ne, ne_eq] at hna
    obtain ⟨h0, hf, hg⟩ := wf_group2 hna.1.1 hwf
    obtain ⟨c1, h1⟩ := ihf hf hna.1.2
    obtain ⟨c2, h2⟩ := ihg hg hna.2
    refine isCM_of_reps (expand_reps _ mn mx false h0) ?_
    cases t with
    | All => exact absurd rfl hna.1.1
    | Sequence => exact ⟨_, .seq h1 h2⟩
    | Choice => exact ⟨_, .choice h1 h2⟩

end XV.Lemmas.ParticleCount
