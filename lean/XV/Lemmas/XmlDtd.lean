/- Round trip of `<!DOCTYPE …>` (XV.Spec.Xml.Dtd) for the internal subsets that declare internal general entities only
   (plus comments, PIs and white space): the declarations through which an entity reference is resolved inside the
   document.  Attribute defaults and external entities, which `semDecls` examines as well, are outside it.
   `entOnly` is that fragment; on it `lexDeclE` / `lexDoctypeE` say field by field what the Spec's `lexDoctype` says by
   reading the rendering again. -/
import XV.Lemmas.XmlLex
namespace XV.Lemmas.Xml
open XV.Spec.Xml XV.Spec.XmlChar

/-- declarations of the proved fragment -/
def entOnlyDecl : Decl → Bool
  | .ws _ => true
  | .comment _ => true
  | .pi _ _ _ => true
  | .entity _ _ _ (.internal _ _) _ => true
  | _ => false

def entOnly (d : Doctype) : Bool :=
  match d.subset with
  | none => true
  | some (ds, _) => ds.all entOnlyDecl

def nonemptyS (s : Str) : Bool := allS s && !s.isEmpty

def lexDeclE : Decl → Bool
  | .ws c => isSC c
  | .comment s => noEarly ['-', '-'] s
  | .pi t sp d => lexPI t sp d
  | .entity s1 n s2 (.internal q val) s3 =>
    nonemptyS s1 && isName n && nonemptyS s2 && val.all (lexPiece q) && !val.contains (.ch '%') && allS s3
  | _ => false

def lexDoctypeE (d : Doctype) : Bool :=
  nonemptyS d.s1 && isName d.name && allS d.s2 &&
  (match d.subset with
   | none => true
   | some (ds, s3) => ds.all lexDeclE && allS s3)

theorem nonemptyS_iff {s : Str} : nonemptyS s = true ↔ allS s = true ∧ s ≠ [] := by
  simp only [nonemptyS, Bool.and_eq_true, Bool.not_eq_true', List.isEmpty_eq_false_iff]

theorem nonemptyS_headNot {a : Str} (h : nonemptyS a = true) (b : Str) : HeadNot isNameCharC (a ++ b) := by
  obtain ⟨ha, hne⟩ := nonemptyS_iff.mp h
  obtain ⟨x, xs, rfl⟩ := List.exists_cons_of_ne_nil hne
  exact S_notNameChar (Bool.and_eq_true _ _ ▸ ha).1

theorem reqS_iff {s w r : Str} : reqS s = some (w, r) ↔ s = w ++ r ∧ nonemptyS w = true ∧ HeadNot isSC r := by
  constructor
  · fun_cases reqS s
    case case2 he =>
      rintro ⟨⟩
      have sp := spanP_sound isSC s
      exact ⟨sp.1, nonemptyS_iff.mpr ⟨spanP_fst_all isSC s, he⟩, sp.2.2⟩
    all_goals nofun
  · rintro ⟨rfl, h, hr⟩
    rw [nonemptyS_iff] at h
    simp only [reqS, spanP_append h.1 hr, if_neg h.2]

theorem declEndGt_iff {s w r : Str} : declEndGt s = some (w, r) ↔ s = w ++ '>' :: r ∧ allS w = true := by
  constructor
  · fun_cases declEndGt s
    case case1 r' h2 => rintro ⟨⟩; exact ⟨(spanP_snd_cons h2).1, spanP_fst_all isSC s⟩
    all_goals nofun
  · rintro ⟨rfl, h⟩
    simp only [declEndGt, spanP_append h (HeadNot.cons (by decide) : HeadNot isSC ('>' :: r))]

theorem parseEntityDecl_iff {s : Str} {d : Decl} {r : Str} (he : entOnlyDecl d = true) :
    parseEntityDecl s = .ok (d, r) ↔ ∃ s1 n s2 q val s3, d = .entity s1 n s2 (.internal q val) s3 ∧
      s = s1 ++ (n ++ (s2 ++ q.char :: (renderPieces val ++ q.char :: (s3 ++ '>' :: r)))) ∧ lexDeclE d = true := by
  constructor
  · fun_cases parseEntityDecl s
    case case8 s1 r1 a1 n r2 a2 s2 r3 a3 q r4 a4 ps r5 a5 hp s3 r6 a6 =>
      rintro ⟨⟩
      obtain ⟨rfl, b1, -⟩ := reqS_iff.mp a1
      obtain ⟨rfl, b2, -⟩ := parseName_iff.mp a2
      obtain ⟨rfl, b3, -⟩ := reqS_iff.mp a3
      obtain rfl := parseQuote_iff.mp a4
      obtain ⟨rfl, b5⟩ := (parsePieces_iff (Nat.le_refl _)).mp a5
      obtain ⟨rfl, b6⟩ := declEndGt_iff.mp a6
      exact ⟨_, _, _, _, _, _, rfl, rfl,
        by simp only [lexDeclE, b1, b2, b3, b5, b6, Bool.eq_false_iff.mpr hp, Bool.not_false, Bool.and_self]⟩
    -- every other successful leaf returns an `.external_` definition, which `he` excludes
    all_goals (intro h; cases h)
    all_goals cases he
  · rintro ⟨s1, n, s2, q, val, s3, rfl, rfl, h⟩
    simp only [lexDeclE, Bool.and_eq_true, Bool.not_eq_true'] at h
    obtain ⟨⟨⟨⟨⟨h1, hn⟩, h2⟩, hv⟩, hp⟩, h3⟩ := h
    simp only [parseEntityDecl, reqS_iff.mpr ⟨rfl, h1, name_headNotS hn _⟩,
      parseName_iff.mpr ⟨rfl, hn, nonemptyS_headNot h2 _⟩,
      reqS_iff.mpr ⟨rfl, h2, quote_headNotS q _⟩, parseQuote_iff.mpr rfl, (parsePieces_iff (Nat.le_refl _)).mpr ⟨rfl, hv⟩,
      hp, Bool.false_eq_true, if_false, declEndGt_iff.mpr ⟨rfl, h3⟩]

theorem renderDecl_head {d : Decl} (h : lexDeclE d = true) : ∃ c t, renderDecl d = c :: t ∧ c ≠ ']' := by
  cases d with
  | ws c => exact ⟨c, [], rfl, ne_of_class (p := isSC) h (by decide)⟩
  | comment | pi | entity => exact ⟨'<', _, rfl, by decide⟩
  | element | attlist | notation_ => cases h

theorem parseDecl_other {s : Str} {d : Decl} {r : Str}
    (h : parseElementDecl s = .ok (d, r) ∨ parseAttlistDecl s = .ok (d, r) ∨ parseNotationDecl s = .ok (d, r)) :
    entOnlyDecl d = false := by
  rcases h with h | h | h <;> revert h
  · fun_cases parseElementDecl s <;> intro h <;> cases h <;> rfl
  · fun_cases parseAttlistDecl s <;> intro h <;> cases h <;> rfl
  · fun_cases parseNotationDecl s <;> intro h <;> cases h <;> rfl

theorem parseDecl_iff {s : Str} {d : Decl} {r : Str} (he : entOnlyDecl d = true) :
    parseDecl s = .ok (d, r) ↔ s = renderDecl d ++ r ∧ lexDeclE d = true := by
  constructor
  · fun_cases parseDecl s
    case case2 c t hc => rintro ⟨⟩; exact ⟨rfl, hc⟩
    case case5 t n sp dd r1 hp _ _ =>
      rintro ⟨⟩
      obtain ⟨rfl, hl⟩ := parsePI_iff.mp hp
      exact ⟨by simp only [renderDecl, List.cons_append, List.nil_append, List.append_assoc], hl⟩
    case case7 t r1 h1 b r2 h2 _ _ =>
      rintro ⟨⟩
      obtain ⟨rfl, hl⟩ := parseComment_iff.mp h2
      exact ⟨by rw [stripPrefix_iff.mp h1]; simp only [renderDecl, List.cons_append, List.nil_append, List.append_assoc], hl⟩
    case case8 => intro h; rw [parseDecl_other (.inl h)] at he; cases he
    case case9 => intro h; rw [parseDecl_other (.inr (.inl h))] at he; cases he
    case case10 t _ _ _ r1 h1 _ _ =>
      intro h
      obtain ⟨s1, n, s2, q, val, s3, rfl, rfl, hl⟩ := (parseEntityDecl_iff he).mp h
      exact ⟨by rw [stripPrefix_iff.mp h1]; simp only [renderDecl, renderEntityDef, renderQuoted, List.cons_append,
        List.nil_append, List.append_assoc], hl⟩
    case case11 => intro h; rw [parseDecl_other (.inr (.inr h))] at he; cases he
    all_goals nofun
  · rintro ⟨rfl, h⟩
    have n1 : isSC '<' = false := by decide
    have n2 : '<' ≠ '%' := by decide
    cases d with
    | ws c => simp only [renderDecl, List.cons_append, List.nil_append, parseDecl, show isSC c = true from h, if_true]
    | comment s =>
      simp only [renderDecl, List.cons_append, List.nil_append, List.append_assoc, parseDecl, n1, Bool.false_eq_true,
        if_false, if_neg n2, if_true, stripPrefix, parseComment_iff.mpr ⟨rfl, h⟩]
    | pi t sp dd =>
      simp only [renderDecl, List.cons_append, List.nil_append, List.append_assoc, parseDecl, n1, Bool.false_eq_true,
        if_false, if_neg n2, if_true, parsePI_iff.mpr ⟨rfl, h⟩]
    | element | attlist | notation_ => cases h
    | entity s1 n s2 df s3 =>
      cases df with
      | external_ id nd => cases h
      | internal q val =>
        simp only [renderDecl, renderEntityDef, renderQuoted, parseDecl, n1, stripPrefix,
          (parseEntityDecl_iff he).mpr ⟨_, _, _, _, _, _, rfl, rfl, h⟩,
          List.cons_append, List.nil_append, List.append_assoc, reduceIte, Char.reduceEq, Bool.false_eq_true]

theorem parseDecls_iff {fuel : Nat} {s : Str} {ds : List Decl} {r : Str} (hf : s.length < fuel)
    (he : ds.all entOnlyDecl = true) :
    parseDecls fuel s = .ok (ds, r) ↔ s = renderDecls ds ++ ']' :: r ∧ ds.all lexDeclE = true := by
  constructor
  · clear hf
    fun_induction parseDecls fuel s generalizing ds r
    case case3 => rintro ⟨⟩; exact ⟨rfl, rfl⟩
    case case6 f c t _ d r1 h1 ds' r2 h2 ih =>
      rintro ⟨⟩
      rw [List.all_cons, Bool.and_eq_true] at he
      obtain ⟨hs, hl⟩ := (parseDecl_iff he.1).mp h1
      obtain ⟨rfl, hls⟩ := ih he.2 h2
      exact ⟨by rw [hs, renderDecls, List.append_assoc], by rw [List.all_cons, hl, hls]; rfl⟩
    all_goals nofun
  · rintro ⟨rfl, hl⟩
    induction fuel generalizing ds with
    | zero => cases hf
    | succ fuel ih =>
      cases ds with
      | nil => simp only [renderDecls, List.nil_append, parseDecls, if_true]
      | cons d ds =>
        rw [List.all_cons, Bool.and_eq_true] at hl he
        obtain ⟨c, t, hc, hne⟩ := renderDecl_head hl.1
        have p := (parseDecl_iff (r := renderDecls ds ++ ']' :: r) he.1).mpr ⟨rfl, hl.1⟩
        rw [renderDecls, List.append_assoc, hc, List.cons_append, List.length_cons, List.length_append] at hf
        rw [hc, List.cons_append] at p
        simp only [renderDecls, List.append_assoc, hc, List.cons_append, parseDecls, if_neg hne, p,
          ih he.2 hl.2 (by omega)]

/-- the text after `<!DOCTYPE` -/
def doctypeBody (d : Doctype) : Str :=
  d.s1 ++ (d.name ++ (d.s2 ++
    match d.subset with
    | none => ['>']
    | some (ds, s3) => '[' :: (renderDecls ds ++ ']' :: (s3 ++ ['>']))))

theorem renderDoctype_eq (d : Doctype) : renderDoctype d = ['<', '!', 'D', 'O', 'C', 'T', 'Y', 'P', 'E'] ++ doctypeBody d := by
  obtain ⟨s1, n, s2, _ | ⟨ds, s3⟩⟩ := d <;> simp only [renderDoctype, doctypeBody, List.cons_append, List.nil_append,
    List.append_assoc, List.append_nil]

theorem parseDoctype_iff {s : Str} {d : Doctype} {r : Str} (he : entOnly d = true) :
    parseDoctype s = .ok (d, r) ↔ s = doctypeBody d ++ r ∧ lexDoctypeE d = true := by
  constructor
  · fun_cases parseDoctype s
    case case4 s1 r1 a1 n r2 a2 t a3 =>
      rintro ⟨⟩
      obtain ⟨rfl, b1, -⟩ := reqS_iff.mp a1
      obtain ⟨rfl, b2, -⟩ := parseName_iff.mp a2
      obtain ⟨s2, hw, rfl, hl⟩ := spanS_cons a3
      rw [hw]
      exact ⟨by simp only [doctypeBody, List.cons_append, List.nil_append, List.append_assoc], by simp only [lexDoctypeE,
        b1, b2, hl, Bool.and_self]⟩
    case case7 s1 r1 a1 n r2 a2 t ds r3 a4 s3 r4 a5 a3 _ =>
      rintro ⟨⟩
      obtain ⟨rfl, b1, -⟩ := reqS_iff.mp a1
      obtain ⟨rfl, b2, -⟩ := parseName_iff.mp a2
      obtain ⟨s2, hw, rfl, hl⟩ := spanS_cons a3
      obtain ⟨rfl, b4⟩ := (parseDecls_iff (Nat.lt_succ_self _) he).mp a4
      obtain ⟨rfl, b5⟩ := declEndGt_iff.mp a5
      rw [hw]
      exact ⟨by simp only [doctypeBody, List.cons_append, List.nil_append, List.append_assoc], by simp only [lexDoctypeE,
        b1, b2, hl, b4, b5, Bool.and_self]⟩
    all_goals nofun
  · rintro ⟨rfl, h⟩
    obtain ⟨s1, n, s2, sub⟩ := d
    simp only [lexDoctypeE, Bool.and_eq_true] at h
    obtain ⟨⟨⟨h1, hn⟩, h2⟩, h3⟩ := h
    -- the text after the name and S? starts with `>` or `[`
    have key : ∀ (x : Char) (X : Str), isNameCharC x = false → isSC x = false →
        reqS (s1 ++ (n ++ (s2 ++ x :: X))) = some (s1, n ++ (s2 ++ x :: X)) ∧
        parseName (n ++ (s2 ++ x :: X)) = some (n, s2 ++ x :: X) ∧ spanP isSC (s2 ++ x :: X) = (s2, x :: X) :=
      fun x X hx1 hx2 => ⟨reqS_iff.mpr ⟨rfl, h1, name_headNotS hn _⟩,
        parseName_iff.mpr ⟨rfl, hn, headNot_nameChar_S_append h2 (HeadNot.cons hx1)⟩, spanP_append h2 (HeadNot.cons hx2)⟩
    cases sub with
    | none =>
      obtain ⟨k1, k2, k3⟩ := key '>' r (by decide) (by decide)
      simp only [doctypeBody, List.append_assoc, List.cons_append, List.nil_append, parseDoctype, k1, k2, k3, if_true]
    | some p =>
      obtain ⟨ds, s3⟩ := p
      simp only [Bool.and_eq_true] at h3
      obtain ⟨k1, k2, k3⟩ := key '[' (renderDecls ds ++ ']' :: (s3 ++ '>' :: r)) (by decide) (by decide)
      have n1 : '[' ≠ '>' := by decide
      simp only [doctypeBody, List.append_assoc, List.cons_append, List.nil_append, parseDoctype, k1, k2, k3, if_neg n1,
        if_true, (parseDecls_iff (Nat.lt_succ_self _) he).mpr ⟨rfl, h3.1⟩, declEndGt_iff.mpr ⟨rfl, h3.2⟩]

/-- the Spec's definition unfolded; no fragment hypothesis -/
theorem lexDoctype_iff_parse (dt : Doctype) : lexDoctype dt = true ↔ parseDoctype (doctypeBody dt) = .ok (dt, []) := by
  simp only [lexDoctype, renderDoctype_eq, stripPrefix_iff.mpr rfl]
  split
  · next d' hp => rw [hp, beq_iff_eq]; exact ⟨fun h => by rw [h], fun h => by cases h; rfl⟩
  · next hn => exact ⟨nofun, fun h => (hn _ h).elim⟩

theorem lexDoctype_iff {dt : Doctype} (he : entOnly dt = true) : lexDoctype dt = true ↔ lexDoctypeE dt = true := by
  rw [lexDoctype_iff_parse, parseDoctype_iff he, List.append_nil, and_iff_right rfl]

end XV.Lemmas.Xml
