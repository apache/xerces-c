/-
The DOM document arena keeps its sub-allocations apart.  `Valid` is what the environment owes (the system allocator
never returns a block that overlaps one the document still owns), `AInv` the invariant.  `allocate` is one of `single`,
`carve ∘ newBlock`, `carve` (`allocate_eq`), and each of these has its `ainv_` lemma; the one arithmetic step is that a
request bound for a fresh block fits its payload (`le_alignDown`, from `AInv.size`).
-/
import XV.Model.Arena
import XV.Spec.Arena
namespace XV.Lemmas.Arena
open XV.Model.Arena XV.Spec.Arena

def blk (b : Blk) : Block := (b.start, b.size)
def owned (a : Arena) : List Blk := a.blocks ++ a.singles

theorem alignUp_mod (a n : Nat) : alignUp a n % a = 0 := by
  unfold alignUp
  split
  · assumption
  · have h1 := Nat.div_add_mod n a
    have : n + a - n % a = a * (n / a + 1) := by
      rw [Nat.mul_add, Nat.mul_one]; omega
    rw [this]; exact Nat.mul_mod_right a _

theorem alignUp_of_mod {a n : Nat} (h : n % a = 0) : alignUp a n = n := by simp [alignUp, h]

theorem alignDown_le (a n : Nat) : alignDown a n ≤ n := Nat.div_mul_le_self n a

theorem alignDown_mod (a n : Nat) : alignDown a n % a = 0 := Nat.mul_mod_left _ _

theorem le_alignDown {a x M : Nat} (hx : x % a = 0) (hle : x ≤ M) : x ≤ alignDown a M := by
  unfold alignDown
  have h1 : x / a ≤ M / a := Nat.div_le_div_right hle
  have h2 : x / a * a = x := Nat.div_mul_cancel (Nat.dvd_of_mod_eq_zero hx)
  calc x = x / a * a := h2.symm
    _ ≤ M / a * a := Nat.mul_le_mul_right a h1

/-- The relation between the sizes that the pinned `allocate` needs: a fresh block of the initial size holds the
largest request that is still sub-allocated (or nothing but empty requests is sub-allocated at all). -/
def Fits (c : Consts) (P : Params) : Prop :=
  alignDown c.align P.maxSub = 0 ∨ alignDown c.align P.maxSub + c.header ≤ P.initial

/-- Same condition for an arbitrary raw block size; trivially true once `allocate` re-checks the fit. -/
def SizeOk (c : Consts) (P : Params) (sz : Nat) : Prop :=
  c.recheck = true ∨ alignDown c.align P.maxSub = 0 ∨ alignDown c.align P.maxSub + c.header ≤ sz

def noOverlap (a : Arena) : Option Blk → Prop
  | none => True
  | some b => ∀ o ∈ owned a, BDisj (blk b) (blk o)

/-- What the environment must guarantee for one operation: the system allocator returns a block that does not
overlap a block the arena still owns; `setMemoryAllocationBlockSize` is given a usable size. -/
def SysOk (c : Consts) (P : Params) (a : Arena) : Op → Prop
  | .alloc n nb => noOverlap a (takes c P a n nb)
  | .setBlock sz => sz ≤ P.maxSub ∨ SizeOk c P sz
  | .release _ => True

def Valid (c : Consts) (P : Params) : Arena → List Op → Prop
  | _, [] => True
  | a, op :: ops => SysOk c P a op ∧ Valid c P (step c P a op) ops

instance (c : Consts) (P : Params) : Decidable (Fits c P) := by unfold Fits; infer_instance
instance (c : Consts) (P : Params) (sz : Nat) : Decidable (SizeOk c P sz) := by unfold SizeOk; infer_instance
instance (a : Arena) : ∀ ob, Decidable (noOverlap a ob)
  | none => isTrue trivial
  | some b => inferInstanceAs (Decidable (∀ o ∈ owned a, BDisj (blk b) (blk o)))
instance (c : Consts) (P : Params) (a : Arena) : ∀ op, Decidable (SysOk c P a op)
  | .alloc n nb => inferInstanceAs (Decidable (noOverlap a (takes c P a n nb)))
  | .setBlock sz => inferInstanceAs (Decidable (sz ≤ P.maxSub ∨ SizeOk c P sz))
  | .release _ => isTrue trivial
instance decValid (c : Consts) (P : Params) : ∀ a ops, Decidable (Valid c P a ops)
  | _, [] => isTrue trivial
  | a, op :: ops => @instDecidableAnd _ _ _ (decValid c P (step c P a op) ops)

structure AInv (c : Consts) (P : Params) (a : Arena) : Prop where
  inside : ∀ r ∈ a.subs, r.2 > 0 → ∃ b ∈ owned a, Inside c.header (blk b) r
  disj : a.subs.Pairwise RDisj
  cross : ∀ x ∈ a.blocks, ∀ y ∈ a.singles, BDisj (blk x) (blk y)
  cur : a.freeRem = 0 ∨ ∃ b rest, a.blocks = b :: rest ∧ b.start + c.header ≤ a.freePtr ∧
          a.freePtr + a.freeRem ≤ b.start + b.size
  free : ∀ r ∈ a.subs, r.2 = 0 ∨ a.freeRem = 0 ∨ r.1 + r.2 ≤ a.freePtr ∨ a.freePtr + a.freeRem ≤ r.1
  single : ∀ b ∈ a.singles, ∀ r ∈ a.subs, r.2 > 0 → Inside c.header (blk b) r → r.1 = b.start + c.header
  size : SizeOk c P a.heapSize

/- The fields of `AInv`.  Every region handed out lies in the payload of a block the document owns (`inside`) and no two
share a byte (`disj`).  The free area `(freePtr, freeRem)` is empty or lies in the payload of the newest sub-allocation
block (`cur`) and is clear of every region (`free`).  `cross` and `single` are there for `release`, which gives back a
single block and drops the regions that start at its payload: a region that stays keeps its block because a single
block holds no region but the one at its payload start (`single`), and carving keeps that true because no
sub-allocation block overlaps a single block (`cross`).  `size` is `SizeOk` of the current block size. -/

theorem ainv_init (c : Consts) (P : Params) (h : SizeOk c P P.initial) : AInv c P (init P) :=
  ⟨fun _ hr => (nomatch hr), .nil, fun _ hx => (nomatch hx), .inl rfl, fun _ hr => (nomatch hr), fun _ hb => (nomatch hb), h⟩

theorem bdisj_symm {x y : Block} (h : BDisj x y) : BDisj y x := Or.symm h

theorem rdisj_of_bdisj {hdr : Nat} {b o : Block} {x y : Region} (hx : Inside hdr b x) (hy : Inside hdr o y)
    (hd : BDisj b o) : RDisj x y := by
  unfold Inside at hx hy; unfold BDisj at hd; unfold RDisj; omega

theorem not_inside_of_bdisj {hdr : Nat} {b o : Block} {x : Region} (hx : Inside hdr b x) (hpos : x.2 > 0)
    (hd : BDisj b o) : ¬ Inside hdr o x := by
  unfold Inside at *; unfold BDisj at hd; omega

theorem carve_disj {r : Region} {p n am : Nat} (hle : am ≤ n) (h : RDisj r (p, n)) :
    RDisj (p, am) r ∧ RDisj r (p + am, n - am) := by
  unfold RDisj at *; simp only at h ⊢; omega

theorem carve_inside {hdr : Nat} {b : Block} {p n am : Nat} (hle : am ≤ n) (h : Inside hdr b (p, n)) :
    Inside hdr b (p + am, n - am) := by
  unfold Inside at *; simp only at h ⊢; omega

theorem inside_payload (hdr nb am : Nat) : Inside hdr (nb, hdr + am) (nb + hdr, am) := by
  unfold Inside; simp only; omega

/- What `DOMDocumentImpl::allocate` does, as three arena transformers: `newBlock` is its branch "Request doesn't fit in
the current block", `carve` its last step "Subdivide the request off current block", `single` the "largish block" path,
where the new block is linked in behind the head of the singleton chain (`insert2`). -/
def newBlock (c : Consts) (P : Params) (a : Arena) (nb : Nat) : Arena :=
  { a with blocks := ⟨nb, a.heapSize⟩ :: a.blocks, freePtr := nb + c.header, freeRem := a.heapSize - c.header,
           heapSize := if a.heapSize < P.max then a.heapSize * c.grow else a.heapSize }

def carve (a : Arena) (am : Nat) : Arena :=
  { a with freePtr := a.freePtr + am, freeRem := a.freeRem - am, subs := (a.freePtr, am) :: a.subs }

def insert2 (b : Blk) : List Blk → List Blk
  | [] => [b]
  | h :: t => h :: b :: t

def single (c : Consts) (a : Arena) (am nb : Nat) : Arena :=
  { a with singles := insert2 ⟨nb, c.header + am⟩ a.singles, subs := (nb + c.header, am) :: a.subs }

theorem allocate_eq (c : Consts) (P : Params) (a : Arena) (n nb : Nat) :
    (allocate c P a n nb).1 =
      if oversize c P a (alignUp c.align n) then single c a (alignUp c.align n) nb
      else if alignUp c.align n > a.freeRem then carve (newBlock c P a nb) (alignUp c.align n)
      else carve a (alignUp c.align n) := by
  unfold allocate
  simp only
  split
  · simp only [single, insert2]
    cases a.singles <;> rfl
  · split <;> rfl

theorem mem_insert2 {b x : Blk} {l : List Blk} : x ∈ insert2 b l ↔ x = b ∨ x ∈ l := by
  cases l with
  | nil => exact ⟨fun h => .inl (List.mem_singleton.1 h), fun h => h.elim List.mem_singleton.2 fun h => nomatch h⟩
  | cons h t => simp only [insert2, List.mem_cons]; exact or_left_comm

theorem AInv.free_inside {c : Consts} {P : Params} {a : Arena} (w : AInv c P a) {am : Nat} (hle : am ≤ a.freeRem)
    (hpos : 0 < am) : ∃ b ∈ a.blocks, Inside c.header (blk b) (a.freePtr, am) :=
  (w.cur.resolve_left (by omega)).elim fun b ⟨_, hb, h1, h2⟩ =>
    ⟨b, hb ▸ List.mem_cons_self, h1, Nat.le_trans (Nat.add_le_add_left hle _) h2⟩

theorem ainv_carve {c : Consts} {P : Params} {a : Arena} (w : AInv c P a) (am : Nat) (hle : am ≤ a.freeRem) :
    AInv c P (carve a am) :=
  { w with
    inside := List.forall_mem_cons.2
      ⟨fun hpos => (w.free_inside hle hpos).imp fun _ h => ⟨List.mem_append_left _ h.1, h.2⟩, w.inside⟩
    disj := List.pairwise_cons.2 ⟨fun r hr => (carve_disj hle (w.free r hr)).1, w.disj⟩
    cur := w.cur.imp (fun h0 => show a.freeRem - am = 0 by omega)
      fun ⟨b, rest, hb, hin⟩ => ⟨b, rest, hb, carve_inside (hdr := c.header) (b := blk b) hle hin⟩
    free := List.forall_mem_cons.2
      ⟨.inr (.inr (.inl (Nat.le_refl _))), fun r hr => (carve_disj hle (w.free r hr)).2⟩
    -- the new region lies in a sub-allocation block, which no single block overlaps
    single := fun b hb => List.forall_mem_cons.2
      ⟨fun hpos hin => (w.free_inside hle hpos).elim fun b0 h =>
        absurd hin (not_inside_of_bdisj h.2 hpos (w.cross b0 h.1 b hb)), w.single b hb⟩ }

theorem ainv_newBlock {c : Consts} {P : Params} {a : Arena} (w : AInv c P a) (hg : 1 ≤ c.grow) (nb : Nat)
    (hsys : ∀ o ∈ owned a, BDisj (blk ⟨nb, a.heapSize⟩) (blk o)) : AInv c P (newBlock c P a nb) :=
  -- the new free area: empty, or the payload of the new block
  have hfree : a.heapSize - c.header = 0 ∨
      Inside c.header (nb, a.heapSize) (nb + c.header, a.heapSize - c.header) := by
    unfold Inside; simp only; omega
  { w with
    inside := fun r hr hpos => (w.inside r hr hpos).imp fun _ h => ⟨List.mem_cons_of_mem _ h.1, h.2⟩
    cross := List.forall_mem_cons.2 ⟨fun y hy => hsys y (List.mem_append_right _ hy), w.cross⟩
    cur := hfree.imp_right fun h => ⟨_, _, rfl, h⟩
    free := fun r hr => by
      by_cases hz : r.2 = 0
      · exact .inl hz
      · obtain ⟨b, hb, hin⟩ := w.inside r hr (Nat.pos_of_ne_zero hz)
        exact hfree.elim (fun h => .inr (.inl h)) fun h => rdisj_of_bdisj hin h (bdisj_symm (hsys b hb))
    size := w.size.imp_right (Or.imp_right fun h => by
      show _ ≤ if a.heapSize < P.max then a.heapSize * c.grow else a.heapSize
      split
      · exact Nat.le_trans h (Nat.le_mul_of_pos_right _ hg)
      · exact h) }

theorem ainv_single {c : Consts} {P : Params} {a : Arena} (w : AInv c P a) (am nb : Nat)
    (hsys : ∀ o ∈ owned a, BDisj (blk ⟨nb, c.header + am⟩) (blk o)) : AInv c P (single c a am nb) :=
  have hx : Inside c.header (blk ⟨nb, c.header + am⟩) (nb + c.header, am) := inside_payload _ _ _
  -- the new region is clear of whatever lies inside a block the arena owned: every region, the free area
  have hclear (y : Region) (h : y.2 > 0 → ∃ b ∈ owned a, Inside c.header (blk b) y) : RDisj (nb + c.header, am) y := by
    by_cases hz : y.2 = 0
    · exact .inr (.inl hz)
    · obtain ⟨b, hb, hin⟩ := h (Nat.pos_of_ne_zero hz)
      exact rdisj_of_bdisj hx hin (hsys b hb)
  { w with
    inside := List.forall_mem_cons.2
      ⟨fun _ => ⟨_, List.mem_append_right _ (mem_insert2.2 (.inl rfl)), hx⟩,
       fun r hr hpos => (w.inside r hr hpos).imp fun _ h => ⟨(List.mem_append.1 h.1).elim (List.mem_append_left _)
        fun h => List.mem_append_right _ (mem_insert2.2 (.inr h)), h.2⟩⟩
    disj := List.pairwise_cons.2 ⟨fun r hr => hclear r (w.inside r hr), w.disj⟩
    cross := fun x hx' y hy => by
      rcases mem_insert2.1 hy with rfl | hy
      · exact bdisj_symm (hsys x (List.mem_append_left _ hx'))
      · exact w.cross x hx' y hy
    free := List.forall_mem_cons.2 ⟨hclear (a.freePtr, a.freeRem) fun h =>
      (w.free_inside (Nat.le_refl _) h).imp fun _ h => ⟨List.mem_append_left _ h.1, h.2⟩, w.free⟩
    single := fun b hb r hr hpos hin => by
      rcases mem_insert2.1 hb with rfl | hb <;> rcases List.mem_cons.1 hr with rfl | hr
      · rfl
      · obtain ⟨o, ho, hino⟩ := w.inside r hr hpos
        exact absurd hin (not_inside_of_bdisj hino hpos (bdisj_symm (hsys o ho)))
      · exact absurd hin (not_inside_of_bdisj hx hpos (hsys b (List.mem_append_right _ hb)))
      · exact w.single b hb r hr hpos hin }

theorem removeFirst_eq_some {hdr ptr : Nat} : ∀ {l l' : List Blk}, removeFirst hdr ptr l = some l' →
    l' = l.eraseP fun b => b.start + hdr = ptr
  | [], _, h => nomatch h
  | b :: t, l', h => by
    rw [removeFirst] at h
    by_cases hb : b.start + hdr = ptr
    · rw [if_pos hb] at h
      rw [List.eraseP_cons_of_pos (by simpa using hb)]; exact (Option.some.inj h).symm
    · rw [if_neg hb] at h
      obtain ⟨t', ht, rfl⟩ := Option.map_eq_some_iff.1 h
      rw [List.eraseP_cons_of_neg (by simpa using hb), removeFirst_eq_some ht]

theorem ainv_release {c : Consts} {P : Params} {a : Arena} (w : AInv c P a) (ptr : Nat) :
    AInv c P (release c a ptr) := by
  unfold release
  cases hr : removeFirst c.header ptr a.singles with
  | none => exact w
  | some s' =>
    obtain rfl := removeFirst_eq_some hr
    have hsub : ∀ x ∈ a.singles.eraseP fun b => b.start + c.header = ptr, x ∈ a.singles := fun _ => List.mem_of_mem_eraseP
    have hreg : ∀ r ∈ a.subs.filter (fun s => s.1 != ptr), r ∈ a.subs ∧ r.1 ≠ ptr := fun r hr' =>
      ⟨(List.mem_filter.1 hr').1, by simpa using (List.mem_filter.1 hr').2⟩
    exact { w with
      -- a region that stays does not start at `ptr`, so the single block it may lie in is not the one erased
      inside := fun r hr' hpos => by
        obtain ⟨hr', hne⟩ := hreg r hr'
        obtain ⟨b, hb, hin⟩ := w.inside r hr' hpos
        exact ⟨b, (List.mem_append.1 hb).elim (List.mem_append_left _) fun hb => List.mem_append_right _
          ((List.mem_eraseP_of_neg (by simpa using fun e => hne ((w.single b hb r hr' hpos hin).trans e))).2 hb), hin⟩
      disj := w.disj.sublist List.filter_sublist
      cross := fun x hx y hy => w.cross x hx y (hsub y hy)
      free := fun r hr' => w.free r (hreg r hr').1
      single := fun b hb r hr' => w.single b (hsub b hb) r (hreg r hr').1 }

theorem ainv_setBlock {c : Consts} {P : Params} {a : Arena} (w : AInv c P a) (sz : Nat)
    (h : sz ≤ P.maxSub ∨ SizeOk c P sz) : AInv c P (setBlockSize P a sz) := by
  unfold setBlockSize
  split
  · exact { w with size := h.resolve_left (by omega) }
  · exact w

theorem ainv_step {c : Consts} {P : Params} {a : Arena} (hg : 1 ≤ c.grow) (w : AInv c P a)
    (op : Op) (hs : SysOk c P a op) : AInv c P (step c P a op) := by
  cases op with
  | release p => exact ainv_release w p
  | setBlock sz => exact ainv_setBlock w sz hs
  | alloc n nb =>
    simp only [step, allocate_eq]
    simp only [SysOk, takes] at hs
    by_cases ho : oversize c P a (alignUp c.align n) = true
    · rw [if_pos ho] at hs ⊢
      exact ainv_single w _ nb hs
    · rw [if_neg ho] at hs ⊢
      by_cases hgt : alignUp c.align n > a.freeRem
      · rw [if_pos hgt] at hs ⊢
        refine ainv_carve (ainv_newBlock w hg nb hs) _ ?_
        show alignUp c.align n ≤ a.heapSize - c.header
        simp only [oversize, Bool.or_eq_true, Bool.and_eq_true, decide_eq_true_eq, not_or, not_and] at ho
        have hle := le_alignDown (alignUp_mod _ n) (Nat.le_of_not_gt ho.1)
        rcases w.size with hrc | hz | hsz
        · have := ho.2 ⟨hrc, hgt⟩
          omega
        · omega
        · omega
      · rw [if_neg hgt]
        exact ainv_carve w _ (Nat.le_of_not_gt hgt)

theorem ainv_run {c : Consts} {P : Params} (hg : 1 ≤ c.grow) :
    ∀ ops a, AInv c P a → Valid c P a ops → AInv c P (run c P a ops)
  | [], _, w, _ => w
  | op :: ops, _, w, hv => ainv_run hg ops _ (ainv_step hg w op hv.1) hv.2

theorem ainv_ok {c : Consts} {P : Params} {a : Arena} (w : AInv c P a) :
    ArenaOk c.header ((owned a).map blk) a.subs := by
  refine ⟨?_, w.disj⟩
  intro r hr hpos
  obtain ⟨b, hb, hin⟩ := w.inside r hr hpos
  exact ⟨blk b, List.mem_map.mpr ⟨b, hb, rfl⟩, hin⟩

/-- Without the re-check, a document that owns nothing and whose block size `H` is too small for the largest
sub-allocated request carves that request past the end of its first block. -/
theorem overrun (c : Consts) (P : Params) (hr : c.recheck = false) (H : Nat)
    (hA : alignDown c.align P.maxSub ≠ 0) (hB : H < alignDown c.align P.maxSub + c.header) :
    ¬ ArenaOk c.header ((owned (step c P { heapSize := H } (.alloc (alignDown c.align P.maxSub) 0))).map blk)
      (step c P { heapSize := H } (.alloc (alignDown c.align P.maxSub) 0)).subs := by
  have hle := alignDown_le c.align P.maxSub
  have hov : oversize c P { heapSize := H } (alignDown c.align P.maxSub) = false := by
    simp only [oversize, hr, Bool.false_and, Bool.or_false, decide_eq_false_iff_not]; omega
  rw [step, allocate_eq, alignUp_of_mod (alignDown_mod _ _), hov, if_neg Bool.false_ne_true,
    if_pos (Nat.pos_of_ne_zero hA)]
  intro ⟨hin, _⟩
  obtain ⟨b, hb, _, h2⟩ := hin (0 + c.header, alignDown c.align P.maxSub) List.mem_cons_self (Nat.pos_of_ne_zero hA)
  obtain rfl : b = (0, H) := by simpa [carve, newBlock, owned, blk] using hb
  simp only at h2
  omega

theorem pairwiseB_iff {α} (p : α → α → Bool) (l : List α) : pairwiseB p l = true ↔ l.Pairwise (fun x y => p x y = true) := by
  induction l with
  | nil => simp [pairwiseB]
  | cons x xs ih => simp [pairwiseB, ih, List.pairwise_cons]

end XV.Lemmas.Arena
