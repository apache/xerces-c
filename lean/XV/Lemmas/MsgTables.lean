import XV.Gen.SafetyMsgs
import XV.Lemmas.MsgFormat
/-!
Kernel-checked facts about the shipped message tables (`XV.Gen.SafetyMsgs`, regenerated from
XercesMessages_en_US.hpp), in a module of their own, which is re-checked only when the messages change.

The tables hold each message as one base-65536 numeral.  Unpacking a message and walking the list costs the kernel
most of a millisecond per character, so `msgSafe` is decided on the numeral (`packedSafe`): "shorter than `dim`" is
one comparison with a power of 65536, and `scan` reads `tokenThenBare`/`hasBare` off the digits in one pass, on
`Bool`, which the kernel evaluates about twice as fast as the `Decidable` instances of `=` and `≠`.
-/
namespace XV.Lemmas.MsgTables
open XV.Gen.SafetyMsgs XV.Model.MsgFormat XV.Lemmas.MsgFormat

theorem unpack_zero (fuel : Nat) : unpack fuel 0 = [] := by cases fuel <;> simp [unpack]

theorem unpack_succ (fuel : Nat) {n : Nat} (hn : n ≠ 0) :
    unpack (fuel + 1) n = n % 65536 :: unpack fuel (n / 65536) := by simp [unpack, hn]

theorem div_lt_pow {fuel n : Nat} (h : n < 65536 ^ (fuel + 1)) : n / 65536 < 65536 ^ fuel :=
  Nat.div_lt_of_lt_mul (by rwa [Nat.pow_succ, Nat.mul_comm] at h)

/-- With fuel for every digit the recursive call may keep its fuel: `unpack fuel n` is the digits of `n`. -/
theorem unpack_digits : ∀ {fuel n : Nat}, n < 65536 ^ fuel →
    unpack fuel n = if n = 0 then [] else n % 65536 :: unpack fuel (n / 65536)
  | 0, n, h => by
    obtain rfl : n = 0 := by simpa using h
    rfl
  | fuel + 1, n, h => by
    simp only [unpack]
    rw [unpack_digits (div_lt_pow h)]

theorem getD_zero_unpack {fuel n : Nat} (h : n < 65536 ^ fuel) : (unpack fuel n).getD 0 0 = n % 65536 := by
  rw [unpack_digits h]; split <;> simp [*]

theorem getD_one_unpack {fuel n : Nat} (h : n < 65536 ^ fuel) :
    (unpack fuel n).getD 1 0 = n / 65536 % 65536 := by
  rw [unpack_digits h]; split
  · simp [*]
  · simpa using getD_zero_unpack (Nat.div_lt_of_lt h)

theorem drop_two_unpack {fuel n : Nat} (h : n < 65536 ^ fuel) :
    (unpack fuel n).drop 2 = unpack fuel (n / 65536 / 65536) := by
  rw [unpack_digits h]; split
  · simp [*, unpack_zero]
  · rw [List.drop_succ_cons, unpack_digits (Nat.div_lt_of_lt h)]; split <;> simp [*, unpack_zero]

theorem length_unpack_le : ∀ {k : Nat} (fuel : Nat) {n : Nat}, n < 65536 ^ k → (unpack fuel n).length ≤ k
  | 0, fuel, n, h => by
    obtain rfl : n = 0 := by simpa using h
    simp [unpack_zero]
  | k + 1, 0, n, h => by simp [unpack]
  | k + 1, fuel + 1, n, h => by
    by_cases hn : n = 0
    · simp [hn, unpack_zero]
    · rw [unpack_succ _ hn, List.length_cons]
      exact Nat.succ_le_succ (length_unpack_le fuel (div_lt_pow h))

/-- `bareAfter seen` on the digits of `n`.
The pattern `_ + 1` is there for the kernel, which passes arguments on unevaluated: without it the numeral of the
k-th step is a tower of k divisions that every use works off again (four times the work, and more per step the
longer one evaluation runs).  A match makes the numeral a literal once; what follows is arithmetic on a literal. -/
def scan : Nat → Bool → Nat → Bool
  | 0, _, _ => false
  | _, _, 0 => false
  | fuel + 1, seen, n@(_ + 1) =>
    bif (n % 65536).beq cOpen then
      bif isTok (n / 65536 % 65536) (n / 65536 / 65536 % 65536) then scan fuel true (n / 65536 / 65536 / 65536)
      else seen || scan fuel seen (n / 65536)
    else scan fuel seen (n / 65536)

theorem scan_eq : ∀ (fuel : Nat) (seen : Bool) {n : Nat}, n < 65536 ^ fuel →
    scan fuel seen n = bareAfter seen (unpack fuel n)
  | 0, seen, n, _ => by cases seen <;> simp [scan, unpack, bareAfter, hasBare, tokenThenBare]
  | fuel + 1, seen, 0, _ => by cases seen <;> simp [scan, unpack_zero, bareAfter, hasBare, tokenThenBare]
  | fuel + 1, seen, n + 1, h => by
    have hm := div_lt_pow h
    simp only [scan, cond_eq_ite, Nat.beq_eq]
    rw [unpack_succ _ (Nat.succ_ne_zero n), scan_eq fuel seen hm]
    by_cases hc : (n + 1) % 65536 = cOpen
    · rw [if_pos hc, hc, scan_eq fuel true (Nat.div_lt_of_lt (Nat.div_lt_of_lt hm)), bareAfter_cons_open,
        getD_zero_unpack hm, getD_one_unpack hm, drop_two_unpack hm]
    · rw [if_neg hc, bareAfter_cons_ne _ hc]

def packedSafe (dim n : Nat) : Bool := decide (0 < dim) && decide (n < 65536 ^ (dim - 1)) && !scan dim false n

theorem msgSafe_unpack {dim n : Nat} (h : packedSafe dim n = true) : msgSafe dim (unpack dim n) = true := by
  simp only [packedSafe, Bool.and_eq_true, decide_eq_true_eq, Bool.not_eq_true'] at h
  obtain ⟨⟨hd, hlt⟩, hs⟩ := h
  have hlt' : n < 65536 ^ dim := Nat.lt_of_lt_of_le hlt (Nat.pow_le_pow_right (by decide) (Nat.sub_le dim 1))
  have := length_unpack_le dim hlt
  simp only [msgSafe, Bool.and_eq_true, decide_eq_true_eq, Bool.not_eq_true']
  exact ⟨by omega, (scan_eq _ false hlt').symm.trans hs⟩

theorem tableSafe_packed (name : String) (dim size : Nat) (packed : List Nat)
    (h : packed.all (packedSafe dim) = true) : tableSafe (name, dim, size, packed.map (unpack dim)) = true := by
  simp only [tableSafe, List.all_map, List.all_eq_true] at h ⊢
  exact fun n hn => msgSafe_unpack (h n hn)

theorem errArray_safe : tableSafe ("gXMLErrArray", gXMLErrArrayDim, gXMLErrArraySize, gXMLErrArray) = true :=
  tableSafe_packed _ _ _ gXMLErrArrayPacked (by decide +kernel)

theorem validityArray_safe :
    tableSafe ("gXMLValidityArray", gXMLValidityArrayDim, gXMLValidityArraySize, gXMLValidityArray) = true :=
  tableSafe_packed _ _ _ gXMLValidityArrayPacked (by decide +kernel)

theorem exceptArray_safe :
    tableSafe ("gXMLExceptArray", gXMLExceptArrayDim, gXMLExceptArraySize, gXMLExceptArray) = true :=
  tableSafe_packed _ _ _ gXMLExceptArrayPacked (by decide +kernel)

theorem domMsgArray_safe :
    tableSafe ("gXMLDOMMsgArray", gXMLDOMMsgArrayDim, gXMLDOMMsgArraySize, gXMLDOMMsgArray) = true :=
  tableSafe_packed _ _ _ gXMLDOMMsgArrayPacked (by decide +kernel)

/-- every shipped message is shorter than the rows of its table (`t.2.1`, the second dimension of the C++ array),
so a call site that passes at least that many `maxChars` loads it whole, and has no bare brace after a `{k}` token -/
theorem shipped_messages_safe : ∀ t ∈ messageTables, tableSafe t = true := by
  intro t ht
  simp only [messageTables, List.mem_cons, List.not_mem_nil, or_false] at ht
  rcases ht with rfl | rfl | rfl | rfl
  · exact errArray_safe
  · exact validityArray_safe
  · exact exceptArray_safe
  · exact domMsgArray_safe

theorem tables_dim : ∀ t ∈ messageTables, t.2.1 ≤ 128 := by decide +kernel

/-- there *are* shipped messages with a bare brace (so the shape condition is not vacuous) -/
theorem shipped_bare_exists : ∃ t ∈ messageTables, ∃ m ∈ t.2.2.2, hasBare m = true :=
  -- message 110 of the exception table
  ⟨_, List.mem_of_getElem? (i := 2) rfl, _,
    List.mem_map_of_mem (List.mem_of_getElem? (l := gXMLExceptArrayPacked) (i := 110) rfl), by decide +kernel⟩

end XV.Lemmas.MsgTables
