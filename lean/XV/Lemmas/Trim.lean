/-
`takeWhile` / `dropWhile` and the two-sided trim `((l.dropWhile p).reverse.dropWhile p).reverse`: the shape of `XV.Spec.Decimal.trimWs`
(white space around a number) and of what `XMLString::collapseWS` keeps of a string before it chops (no #x20 at either end).
-/
namespace XV.Lemmas.Trim

variable {α : Type} (p : α → Bool)

theorem takeWhile_all (l : List α) : ∀ c ∈ l.takeWhile p, p c = true :=
  List.all_eq_true.mp List.all_takeWhile

theorem head?_dropWhile (l : List α) (c : α) (h : (l.dropWhile p).head? = some c) : p c = false := by
  have := List.head?_dropWhile_not p l
  rw [h] at this; exact this

theorem dropWhile_head (l : List α) (c : α) (r : List α) (h : l.dropWhile p = c :: r) : p c = false :=
  head?_dropWhile p l c (by rw [h]; rfl)

theorem dropWhile_id (l : List α) (h : ∀ c, l.head? = some c → p c = false) : l.dropWhile p = l := by
  cases l with
  | nil => rfl
  | cons a r => exact List.dropWhile_cons_of_neg (by rw [h a rfl]; exact Bool.false_ne_true)

theorem dropWhile_run (a : α) (hp : ∀ c, p c = true ↔ c = a) (l : List α) :
    ∃ k, l = List.replicate k a ++ l.dropWhile p ∧ (l.dropWhile p).head? ≠ some a := by
  refine ⟨(l.takeWhile p).length, ?_, fun e => ?_⟩
  · rw [← List.eq_replicate_iff.mpr ⟨rfl, fun c hc => (hp c).mp (takeWhile_all p l c hc)⟩]
    exact List.takeWhile_append_dropWhile.symm
  · have := head?_dropWhile p l a e
    rw [(hp a).mpr rfl] at this
    cases this

theorem getLast?_tail {a d : α} {l : List α} (h : (d :: l).getLast? ≠ some a) : l.getLast? ≠ some a := by
  cases l with
  | nil => simp
  | cons e r => rwa [List.getLast?_cons_cons] at h

def trim (l : List α) : List α := ((l.dropWhile p).reverse.dropWhile p).reverse

theorem trim_split (l : List α) :
    ∃ pre post, l = pre ++ (trim p l ++ post) ∧ (∀ c ∈ pre, p c = true) ∧ (∀ c ∈ post, p c = true) ∧
      (∀ c, (trim p l).head? = some c → p c = false) ∧ (∀ c, (trim p l).getLast? = some c → p c = false) := by
  have hs : l.dropWhile p = trim p l ++ ((l.dropWhile p).reverse.takeWhile p).reverse := by
    rw [trim, ← List.reverse_append, List.takeWhile_append_dropWhile, List.reverse_reverse]
  refine ⟨l.takeWhile p, ((l.dropWhile p).reverse.takeWhile p).reverse, ?_, takeWhile_all p l,
    fun c hc => takeWhile_all p _ c (List.mem_reverse.mp hc), fun c hc => ?_, fun c hc => ?_⟩
  · rw [← hs, List.takeWhile_append_dropWhile]
  · exact head?_dropWhile p l c (by rw [hs, List.head?_append, hc]; rfl)
  · rw [trim, List.getLast?_reverse] at hc
    exact head?_dropWhile p _ c hc

theorem trim_id (l : List α) (hh : ∀ c, l.head? = some c → p c = false)
    (hl : ∀ c, l.getLast? = some c → p c = false) : trim p l = l := by
  rw [trim, dropWhile_id p l hh, dropWhile_id p l.reverse (by rwa [List.head?_reverse]), List.reverse_reverse]

theorem trim_ne_nil (l : List α) (h : l.dropWhile p ≠ []) : trim p l ≠ [] := by
  obtain ⟨pre, post, hs, hpre, hpost, _⟩ := trim_split p l
  intro e
  -- otherwise `l` consists of `pre` and `post`, and `dropWhile` leaves nothing
  rw [e, List.nil_append] at hs
  apply h
  rw [hs, ← List.append_nil (pre ++ post)]
  exact List.dropWhile_append_of_pos (fun c hc => by
    rcases List.mem_append.mp hc with h1 | h1
    · exact hpre c h1
    · exact hpost c h1)

end XV.Lemmas.Trim
