/- Three results about what the scanner hands over at a start tag.  The DOM nodes built from it are the Spec's (`specElem`).
   The duplicate-detection loops all ask whether the registry keys `(name, uriId)` have a repetition; on the keys `kM` of a
   start tag that is the Spec's pair of checks, on the declared prefixes and on the expanded names (`dup_eq`).  Error
   detection at a start tag, and so over a document, is the Spec's namespace well-formedness.  Everything about the names of
   a start tag goes through `At.builtAttr_spec` / `At.resolve_id` (NsParse): an attribute specification is read as the raw
   attribute the scanner sees, and gets the pool id of its namespace name; `At.nsOf_getId` reads such an id back, for the
   DOM nodes and for comparing keys.  Namespace `XV.Lemmas.NsViews`, shared by NsViews, NsParse, NsDom and NsBuild. -/
import XV.Lemmas.NsParse
import XV.Lemmas.NsDom

namespace XV.Lemmas.NsViews
open XV.Model.ElemStack XV.Model.NsScan XV.Spec.Namespace XV.Lemmas.ElemStack XV.Gen.ElemStackConsts
open XV.Model.DomLookup (DAttr DElem nullIfEmpty leName mkAttr mkElem)

theorem attrNS_ne_some_empty (path : Path) (q : String) : attrNS path q ≠ some "" := by
  unfold attrNS
  split
  · exact fun hc => nomatch hc
  · exact inScope_ne_some_empty _ _

theorem attrNS_xmlns (path : Path) : attrNS path xmlnsString = some xmlnsURI := by
  rw [xmlnsString_eq]; exact inScope_xmlns path

/-- how `AbstractDOMParser::startElement` reads a URI id: the empty namespace id means "no namespace" -/
def nsOf (S : Scan) (id : Nat) : Option String := if id ≠ S.fEmptyNamespaceId then some (uriText S id) else none

/-- the id handed over for an optional namespace name is read back as that name: the empty namespace id is the pool id of
    the empty string, which no namespace name is -/
theorem At.nsOf_getId {S : Scan} {path : Path} (h : At S path) {o : Option String} (ho : o ≠ some "")
    (hm : optS o ∈ S.uriPool) : nsOf S (getId S.uriPool (optS o)) = o := by
  rw [nsOf, h.sE, h.eid.2]
  cases o with
  | none => exact if_neg (fun hh => hh rfl)
  | some u => exact (if_pos fun hh => ho (congrArg some (getId_inj hm h.eid.1 hh))).trans (congrArg some (uriText_getId hm))

/-- **one attribute node**: what `AbstractDOMParser::startElement` creates from the scanner's `XMLAttr` carries the Spec's
    expansion of the written name -/
theorem mkAttr_builtAttr {S : Scan} {path : Path} (h : At S path) (it : Item) (hok : ItemOK it)
    (hb : ∀ p l, it = .attr p l → p ≠ "" → attrNS path p ≠ none) :
    mkAttr S (builtAttr S it) = specAttr path it := by
  obtain ⟨hba, hmem⟩ := h.builtAttr_spec hb
  have hdec := h.nsOf_getId (attrNS_ne_some_empty _ _) hmem
  rw [hba]
  show (⟨nsOf S _, _, _, _, _⟩ : DAttr) = _
  cases it with
  | decl d =>
    by_cases e : d.pre = ""
    · -- plain `xmlns`: the parser itself puts it into the xmlns namespace
      have ht : nsOf S S.fXMLNSNamespaceId = some xmlnsURIName := by
        rw [h.sN, h.nid.2]
        exact h.nsOf_getId (o := some xmlnsURIName) (by simp [xmlnsURIName_eq, xmlnsURI_ne_empty]) h.nid.1
      simp [rawOf, specAttr, e, ht, nullIfEmpty, XV.Model.DomLookup.qn]
    · simp only [rawOf, e, ↓reduceIte, attrNS_xmlns] at hdec
      simp [rawOf, specAttr, e, xmlnsString_ne_empty, attrNS_xmlns, hdec, nullIfEmpty, xmlnsURIName_eq]
  | attr p l =>
    have hl : ¬ (p = "" ∧ l = xmlnsString) := xmlnsString_eq ▸ hok.2
    simp only [rawOf] at hdec
    simp only [rawOf, specAttr, hl, ↓reduceIte]
    congr 1

/-- **the element node of a start tag whose prefixes are bound (`TagBound`)**: the node `AbstractDOMParser::startElement`
    builds from what the scanner hands over (element URI id, prefix, attribute list) is the Spec's node: namespaceURI /
    prefix / localName of the element and of every attribute are the Spec's expansion of the written names -/
theorem mkElem_eq_specElem {S : Scan} {path : Path} (h : At S path) (t : Tag) (hok : ItemsOK t.items)
    (hb : TagBound (path ++ [declsOf t.items]) t) :
    mkElem (startTagNS S t).1 t (startTagNS S t).2.1 (startTagNS S t).2.2.1 = specElem (path ++ [declsOf t.items]) t := by
  have h1 := h.startTag t hok
  obtain ⟨huri, humem⟩ := h.startTagNS_uri t hok hb.1
  have hattrs : (startTagNS S t).2.1.map (mkAttr (startTagNS S t).1) = t.items.map (specAttr (path ++ [declsOf t.items])) := by
    rw [startTagNS_attrs, List.map_map]
    exact List.map_congr_left fun it hit => mkAttr_builtAttr h1 it (hok.mem it hit) (fun p l he => hb.2 p l (he ▸ hit))
  have hns := h1.nsOf_getId (o := elemNS _ t.pre) (inScope_ne_some_empty _ _) humem
  unfold mkElem specElem
  rw [hattrs, huri]
  -- from here on the id matters only through how it is read back
  generalize getId _ _ = i at hns ⊢
  rw [← hns, nsOf]
  split <;> rfl

/-- the chain of element nodes the model of the DOM parser builds on the way down a path of start tags (root first),
    each created by `mkElem` from the scanner's output for that tag -/
def builtChain (S : Scan) (acc : List DElem) : List Tag → List DElem
  | [] => acc
  | t :: ts => builtChain (startTagNS S t).1 (mkElem (startTagNS S t).1 t (startTagNS S t).2.1 (startTagNS S t).2.2.1 :: acc) ts

/-- every tag on the way down is described faithfully and has its prefixes bound (less than namespace-well-formed);
    `rts` = the tags already open, innermost first -/
def PathBound : List Tag → List Tag → Prop
  | _, [] => True
  | rts, t :: ts => ItemsOK t.items ∧ TagBound (pathOf (t :: rts)) t ∧ PathBound (t :: rts) ts

theorem builtChain_eq (ts : List Tag) : ∀ (S : Scan) (rts : List Tag),
    At S (pathOf rts) → PathBound rts ts → builtChain S (chainOf rts) ts = chainOf (ts.reverse ++ rts) := by
  induction ts with
  | nil => intro S rts _ _; rfl
  | cons t ts ih =>
    intro S rts h hb
    obtain ⟨hok, htb, hrest⟩ := hb
    rw [pathOf_cons] at htb
    have := ih (startTagNS S t).1 (t :: rts) (pathOf_cons t rts ▸ h.startTag t hok) hrest
    rw [builtChain, mkElem_eq_specElem h t hok htb, ← pathOf_cons]
    simpa [chainOf] using this

/-- the quadratic loop finds nothing iff no two attributes share a registry key -/
theorem dupExpanded_false_iff (l : List XMLAttr) :
    dupExpanded l = false ↔ (l.map fun a => (a.name, a.uriId)).Nodup := by
  induction l with
  | nil => simp [dupExpanded]
  | cons a r ih =>
    simp only [dupExpanded, Bool.or_eq_false_iff, ih, List.map_cons, List.nodup_cons, List.mem_map, not_exists, not_and,
      List.any_eq_false, Bool.and_eq_true, beq_iff_eq, Prod.mk.injEq]
    exact and_congr_left' ⟨fun h b hb e1 e2 => h b hb e2 e1, fun h b hb e1 e2 => h b hb e2 e1⟩

/-- the registry loop finds nothing iff no two attributes share a key and none has a key seen before -/
theorem dupRegistry_false_iff (l : List XMLAttr) : ∀ seen : List (String × Nat),
    dupRegistry seen l = false ↔ (l.map fun a => (a.name, a.uriId)).Nodup ∧ ∀ a ∈ l, (a.name, a.uriId) ∉ seen := by
  induction l with
  | nil => intro seen; simp [dupRegistry]
  | cons a r ih =>
    intro seen
    simp only [dupRegistry, Bool.or_eq_false_iff, ih, List.contains_eq_mem, decide_eq_false_iff_not, List.mem_cons, not_or,
      List.map_cons, List.nodup_cons, List.mem_map, not_exists, not_and, forall_eq_or_imp]
    constructor
    · rintro ⟨h1, h2, h3⟩
      exact ⟨⟨fun b hb e => (h3 b hb).1 e, h2⟩, h1, fun b hb => (h3 b hb).2⟩
    · rintro ⟨⟨h1, h2⟩, h3, h4⟩
      exact ⟨h3, h2, fun b hb => ⟨h1 b hb, h4 b hb⟩⟩

theorem bool_eq_of_false_iff {a b : Bool} (h : a = false ↔ b = false) : a = b := by
  cases a <;> cases b <;> simp_all

theorem dupRegistry_nil_eq (attrs : List XMLAttr) : dupRegistry [] attrs = dupExpanded attrs :=
  bool_eq_of_false_iff (by rw [dupRegistry_false_iff, dupExpanded_false_iff]; simp)

/-- **below and above the hash threshold the same attributes are found to collide**: the registry loop (abstract set of
    (name, uriId) keys) and the quadratic loop both look for a repeated key -/
theorem dupCheck_eq (attrs : List XMLAttr) : dupCheck attrs = dupExpanded attrs := by
  unfold dupCheck
  split
  · exact dupRegistry_nil_eq attrs
  · rfl

theorem hasDup_false_iff {α : Type} [DecidableEq α] (l : List α) : hasDup l = false ↔ l.Nodup := by
  induction l with
  | nil => simp [hasDup]
  | cons a r ih => simp [hasDup, ih, List.nodup_cons]

theorem inScope_xmlnsURI_decl (path : Path) (p : String) (hp : p ≠ "xmlns") (h : inScope path p = some xmlnsURI) :
    ∃ l ∈ path, ∃ d ∈ l, d.uri = xmlnsURI := by
  by_cases e : p = "xml"
  · simp [e, inScope, inScopeG, xmlURI, xmlnsURI] at h
  · obtain ⟨l, hl, hd⟩ := inScope_some_decl e hp h
    exact ⟨l, hl, _, hd, rfl⟩

/-- the key under which the scanners register an attribute for duplicate detection -/
def kM (S : Scan) (it : Item) : String × Nat := ((builtAttr S it).name, (builtAttr S it).uriId)

/-- under the side conditions of a namespace-well-formed context, two attribute specifications get the same registry key
    iff they are declarations of the same prefix or ordinary attributes with the same expanded name -/
theorem kM_ne_iff {S : Scan} {path : Path} (h : At S path) (items : List Item)
    (hok : ∀ it ∈ items, ItemOK it)
    (hb : ∀ p l, Item.attr p l ∈ items → p ≠ "" → attrNS path p ≠ none)
    (hk1 : ∀ l ∈ path, ∀ d ∈ l, d.uri ≠ xmlnsURI)
    (x : Item) (hx : x ∈ items) (y : Item) (hy : y ∈ items) :
    (kM S x ≠ kM S y) ↔
      (∀ dx, declOf? x = some dx → ∀ dy, declOf? y = some dy → dx.pre ≠ dy.pre) ∧
      (∀ ax, attrOf? x = some ax → ∀ ay, attrOf? y = some ay → (attrNS path ax.1, ax.2) ≠ (attrNS path ay.1, ay.2)) := by
  -- the keys agree iff the raw attributes have the same (namespace name, local name): an id is read back as its name
  have hkey : ∀ z ∈ items, kM S z = ((rawOf z).loc, getId S.uriPool (optS (attrNS path (rawOf z).pre))) ∧
      optS (attrNS path (rawOf z).pre) ∈ S.uriPool := fun z hz => by
    obtain ⟨hba, hmem⟩ := h.builtAttr_spec fun p l e => hb p l (e ▸ hz)
    exact ⟨by rw [kM, hba], hmem⟩
  have hid : getId S.uriPool (optS (attrNS path (rawOf x).pre)) = getId S.uriPool (optS (attrNS path (rawOf y).pre)) ↔
      attrNS path (rawOf x).pre = attrNS path (rawOf y).pre :=
    ⟨fun e => by
      rw [← h.nsOf_getId (attrNS_ne_some_empty _ _) (hkey x hx).2, e, h.nsOf_getId (attrNS_ne_some_empty _ _) (hkey y hy).2],
     fun e => by rw [e]⟩
  rw [(hkey x hx).1, (hkey y hy).1, Ne, Prod.mk.injEq, hid, and_comm]
  -- a declaration reads `(none, xmlns)` or `(xmlns namespace, prefix)`; no ordinary attribute of the tag reads like that
  have hdecl : ∀ d : Decl, (attrNS path (rawOf (.decl d)).pre, (rawOf (.decl d)).loc) =
      if d.pre = "" then (none, xmlnsString) else (some xmlnsURI, d.pre) := fun d => by
    by_cases e : d.pre = ""
    · simp [rawOf, e, attrNS]
    · simp [rawOf, e, attrNS_xmlns]
  have hcls : ∀ d p l, Item.attr p l ∈ items →
      (attrNS path (rawOf (.decl d)).pre, (rawOf (.decl d)).loc) ≠ (attrNS path p, l) := by
    intro d p l hm hc
    rw [hdecl] at hc
    split at hc
    · -- `(none, xmlns)`: an unprefixed attribute is not called `xmlns`, a prefixed one is bound
      obtain ⟨hn, hl⟩ := Prod.mk.inj hc
      by_cases e : p = ""
      · exact (hok _ hm).2 ⟨e, xmlnsString_eq ▸ hl.symm⟩
      · exact hb p l hm e hn.symm
    · -- the xmlns namespace name: only the prefix `xmlns` is bound to it, nothing above declares it
      have hc := (Prod.mk.inj hc).1.symm
      have hp : p ≠ "" := fun e => by simp [attrNS, e] at hc
      rw [attrNS, if_neg hp] at hc
      obtain ⟨l', hl', d', hd', hdu⟩ := inScope_xmlnsURI_decl path p (hok _ hm).1 hc
      exact hk1 l' hl' d' hd' hdu
  cases x with
  | decl dx =>
    cases y with
    | decl dy =>
      simp only [attrOf?, declOf?, reduceCtorEq, false_implies, implies_true, and_true, Option.some.injEq, forall_eq',
        ← Prod.mk.injEq, hdecl]
      by_cases e1 : dx.pre = "" <;> by_cases e2 : dy.pre = "" <;> simp [e1, e2]
    | attr p l =>
      simp only [attrOf?, declOf?, reduceCtorEq, false_implies, implies_true, and_true, iff_true, ← Prod.mk.injEq]
      exact hcls dx p l hy
  | attr p l =>
    cases y with
    | decl dy =>
      simp only [attrOf?, declOf?, reduceCtorEq, false_implies, implies_true, and_true, iff_true, ← Prod.mk.injEq]
      exact (hcls dy p l hx).symm
    | attr q m =>
      simp only [attrOf?, declOf?, reduceCtorEq, false_implies, implies_true, true_and, Option.some.injEq, forall_eq', rawOf,
        ne_eq, Prod.mk.injEq]

theorem declPrefixes_nodup_iff (items : List Item) : ((declsOf items).map (·.pre)).Nodup ↔
    items.Pairwise (fun x y => ∀ dx, declOf? x = some dx → ∀ dy, declOf? y = some dy → dx.pre ≠ dy.pre) := by
  rw [declsOf_eq_filterMap, List.nodup_iff_pairwise_ne, List.pairwise_map, List.pairwise_filterMap]

theorem keys_nodup_iff (S : Scan) (items : List Item) :
    ((items.map (builtAttr S)).map fun a => (a.name, a.uriId)).Nodup ↔ items.Pairwise (fun x y => kM S x ≠ kM S y) := by
  rw [List.map_map, List.nodup_iff_pairwise_ne, List.pairwise_map]; rfl

/-- **the collision check on registry keys = the Spec's two checks**, on the declared prefixes and on the expanded names of
    the ordinary attributes, for a tag whose prefixes are all bound, in a context where nothing is bound to the xmlns
    namespace name.  The declaration attributes are registered like any other: two declarations of one prefix collide, a
    declaration and an ordinary attribute never do -/
theorem dup_eq {S : Scan} {path : Path} (h : At S path) (items : List Item)
    (hok : ∀ it ∈ items, ItemOK it)
    (hb : ∀ p l, Item.attr p l ∈ items → p ≠ "" → attrNS path p ≠ none)
    (hk1 : ∀ l ∈ path, ∀ d ∈ l, d.uri ≠ xmlnsURI) :
    dupExpanded (items.map (builtAttr S)) =
      (hasDup ((declsOf items).map (·.pre)) || hasDup (expandedAttrs path (attrsOf items))) := by
  apply bool_eq_of_false_iff
  have e2 : (expandedAttrs path (attrsOf items)).Nodup ↔ items.Pairwise (fun x y =>
      ∀ ax, attrOf? x = some ax → ∀ ay, attrOf? y = some ay → (attrNS path ax.1, ax.2) ≠ (attrNS path ay.1, ay.2)) := by
    unfold expandedAttrs
    rw [attrsOf_eq_filterMap, List.nodup_iff_pairwise_ne, List.pairwise_map, List.pairwise_filterMap]
  rw [dupExpanded_false_iff, Bool.or_eq_false_iff, hasDup_false_iff, hasDup_false_iff, keys_nodup_iff,
    declPrefixes_nodup_iff, e2, ← List.pairwise_and_iff]
  exact List.Pairwise.iff_of_mem fun hx hy => kM_ne_iff h items hok hb hk1 _ hx _ hy

/-- `updateNSMap` tests the conditions one after the other (`else if`), the Spec lists them independently -/
theorem tests_absorb : ∀ (A B C D E V : Bool),
    (A || (!A && B && !C) || (E && !V) || D || (!D && C && !B)) = (A || (B && !C) || (!B && C) || D || (E && !V)) := by
  decide +kernel

theorem updateNSMap_eq_declErrors (s : Scan) (d : Decl) :
    updateNSMapErrors s (if d.pre = "" then ⟨"", xmlnsString, d.uri⟩ else ⟨xmlnsString, d.pre, d.uri⟩)
      = !(declErrors s.xml11 d).isEmpty := by
  unfold updateNSMapErrors declErrors
  simp only [nonempty_append, nonempty_ite, Bool.decide_and, decide_not, Bool.decide_eq_true]
  rw [xmlString_eq, xmlnsString_eq, xmlURIName_eq, xmlnsURIName_eq]
  -- with the constructed attribute's fields put in, both sides are the same tests on `d.pre`, `d.uri` and the version
  by_cases p0 : d.pre = ""
  · simp only [p0, ↓reduceIte]
    exact tests_absorb false false _ _ false false
  · simp only [p0, ↓reduceIte]
    exact tests_absorb _ _ _ _ _ _

/-- the first pass reports an error iff some declaration of the tag violates a reserved-name constraint -/
theorem declErr_eq (s : Scan) (items : List Item) (hok : ItemsOK items) :
    (rawOfItems items).any (fun a => a.isNSDecl && updateNSMapErrors s a)
      = (declsOf items).any (fun d => !(declErrors s.xml11 d).isEmpty) := by
  induction items with
  | nil => rfl
  | cons it r ih =>
    cases it with
    | decl d =>
      have hdecl : (if d.pre = "" then (⟨"", xmlnsString, d.uri⟩ : RawAttr) else ⟨xmlnsString, d.pre, d.uri⟩).isNSDecl = true := by
        by_cases e : d.pre = "" <;> simp [e, RawAttr.isNSDecl]
      simp only [rawOfItems, List.any_cons, declsOf, ih hok, hdecl, Bool.true_and, updateNSMap_eq_declErrors]
    | attr p l =>
      have hn : (RawAttr.isNSDecl ⟨p, l, "v"⟩) = false := by
        have h1 : p ≠ xmlnsString := xmlnsString_eq ▸ hok.1
        have h2 : ¬ (p = "" ∧ l = xmlnsString) := xmlnsString_eq ▸ hok.2.1
        simpa [RawAttr.isNSDecl, h1] using h2
      simp only [rawOfItems, List.any_cons, hn, Bool.false_and, Bool.false_or, declsOf, ih hok.2.2]

/-- no in-scope declaration un-declares a prefix in XML 1.0 (such a declaration is itself reported as an error) -/
def NoEmptyPrefixed (v11 : Bool) (path : Path) : Prop :=
  v11 = false → ∀ l ∈ path, ∀ d ∈ l, d.pre ≠ "" → d.uri ≠ ""

/-- whether `resolvePrefix` emits UnknownPrefix -/
theorem At.resolve_err {S : Scan} {path : Path} (h : At S path) (hk : NoEmptyPrefixed S.xml11 path)
    (q : String) (mode : MapModes) (hm : mode = .attribute → q ≠ "") :
    (S.resolvePrefix q mode).2 = (decide (q ≠ "") && (inScope path q).isNone) := by
  rw [resolvePrefix_eq h q mode hm, inScope_eq_bound]
  dsimp only
  cases hbd : bound [] path.reverse q with
  | none => by_cases e : q = "" <;> simp [e]
  | some u =>
    by_cases e : u = ""
    · -- `xmlns:q=""` in scope: an error in XML 1.1; in XML 1.0 the declaration itself was one
      by_cases e0 : q = ""
      · simp [e, e0]
      · have hv : S.xml11 = true := by
          cases hv : S.xml11 with
          | true => rfl
          | false =>
            rcases bound_some (e ▸ hbd) with c | c | ⟨l, hl, hd⟩
            · exact absurd c.symm xmlURI_ne_empty
            · exact absurd c.symm xmlnsURI_ne_empty
            · rcases List.mem_append.mp hl with h1 | h1
              · exact absurd rfl (hk hv l (List.mem_reverse.mp h1) _ hd e0)
              · cases List.mem_singleton.mp h1; cases hd
        simp [e, e0, hv]
    · simp [e]

theorem At.itemErr_eq {S : Scan} {path : Path} (h : At S path) (hk : NoEmptyPrefixed S.xml11 path)
    (it : Item) : itemErr S it = (attrOf? it).any (fun x => decide (x.1 ≠ "" ∧ attrNS path x.1 = none)) := by
  cases it with
  | decl d =>
    by_cases e : d.pre = ""
    · simp [itemErr, rawErr, rawOf, e, attrOf?]
    · simp only [itemErr, rawErr, rawOf, e, ↓reduceIte, h.resolve_err hk xmlnsString .attribute (fun _ => xmlnsString_ne_empty)]
      simp [attrOf?, xmlnsString_eq, inScope_xmlns]
  | attr p l =>
    by_cases e : p = ""
    · simp [itemErr, rawErr, rawOf, e, attrOf?]
    · simp [itemErr, rawErr, rawOf, e, attrOf?, attrNS, h.resolve_err hk p .attribute (fun _ => e)]
      cases inScope path p <;> rfl

theorem declErrors_nil {v11 : Bool} {d : Decl} (h : declErrors v11 d = []) :
    d.uri ≠ xmlnsURI ∧ (v11 = false → d.pre ≠ "" → d.uri ≠ "") := by
  unfold declErrors at h
  simp only [List.append_eq_nil_iff] at h
  obtain ⟨⟨⟨⟨_, _⟩, _⟩, h4⟩, h5⟩ := h
  constructor
  · intro hc; simp [hc] at h4
  · intro hv hp hu; simp [hp, hu, hv] at h5

/-- **error detection at one start tag = the Spec's namespace constraints for that tag.**  The two-pass start tag
    (declarations first with their checks, then `resolvePrefix` for every name, then the duplicate check — quadratic loop
    or registry, whichever the attribute count selects) emits an error iff the Spec lists a violated constraint, given
    that the declarations of the enclosing elements passed their own checks (else the parse has already stopped).  A tag
    that repeats a declaration is an error on both sides: the Spec lists it, the duplicate check catches it (`dup_eq`). -/
theorem At.startTag_error_iff {S : Scan} {path : Path} (h : At S path) (t : Tag) (hok : ItemsOK t.items)
    (hanc : ∀ l ∈ path, ∀ d ∈ l, declErrors S.xml11 d = []) :
    (startTagNS S t).2.2.2 = !(tagErrors S.xml11 (path ++ [declsOf t.items]) t).isEmpty := by
  have h1 := h.startTag t hok
  have hv : (startTagNS S t).1.xml11 = S.xml11 := (startTagNS_ext S t).1
  have herr : (startTagNS S t).2.2.2 =
      ((rawOfItems t.items).any (fun a => a.isNSDecl && updateNSMapErrors S a) || t.items.any (itemErr (startTagNS S t).1) ||
       ((startTagNS S t).1.resolvePrefix t.pre .element).2 || dupCheck (t.items.map (builtAttr (startTagNS S t).1))) := by
    simp only [startTagNS, buildAttList_items]
  rw [herr, declErr_eq S t.items hok, dupCheck_eq, tagErrors_nonempty]
  -- a declaration of the tag in error: both sides say so
  cases hD : (declsOf t.items).any (fun d => !(declErrors S.xml11 d).isEmpty) with
  | true => rfl
  | false =>
    -- otherwise every declaration in scope has passed its checks, so none un-declares a prefix or binds the xmlns name
    have hall : ∀ l ∈ path ++ [declsOf t.items], ∀ d ∈ l, declErrors S.xml11 d = [] := by
      intro l hl d hd
      rcases List.mem_append.mp hl with h2 | h2
      · exact hanc l h2 d hd
      · simpa using List.any_eq_false.mp hD d (List.mem_singleton.mp h2 ▸ hd)
    have hk : NoEmptyPrefixed (startTagNS S t).1.xml11 (path ++ [declsOf t.items]) := fun hvf l hl d hd =>
      (declErrors_nil (hall l hl d hd)).2 (hv ▸ hvf)
    have hAttr : t.items.any (itemErr (startTagNS S t).1) =
        (attrsOf t.items).any (fun x => decide (x.1 ≠ "" ∧ attrNS (path ++ [declsOf t.items]) x.1 = none)) := by
      rw [attrsOf_eq_filterMap, List.any_filterMap]
      exact congrArg _ (funext fun it => h1.itemErr_eq hk it)
    rw [hAttr, h1.resolve_err hk t.pre .element (fun hc => nomatch hc)]
    -- an unbound attribute prefix: both sides say so; otherwise the collision checks agree
    cases hU : (attrsOf t.items).any (fun x => decide (x.1 ≠ "" ∧ attrNS (path ++ [declsOf t.items]) x.1 = none)) with
    | true => simp
    | false =>
      have hb : ∀ p l, Item.attr p l ∈ t.items → p ≠ "" → attrNS (path ++ [declsOf t.items]) p ≠ none :=
        fun p l hm hp hn => by simpa [hp, hn] using List.any_eq_false.mp hU (p, l) (mem_attrsOf hm)
      rw [dup_eq h1 t.items hok.mem hb (fun l hl d hd => (declErrors_nil (hall l hl d hd)).1)]
      simp [elemNS, Bool.or_comm, Bool.or_left_comm]

mutual
  /-- no start tag repeats a namespace declaration (that would be a duplicate attribute: plain XML well-formedness) -/
  def NoDupDecl : Node → Prop
    | .elem t kids => ((declsOf t.items).map (·.pre)).Nodup ∧ NoDupDeclL kids
    | _ => True
  def NoDupDeclL : List Node → Prop
    | [] => True
    | n :: ns => NoDupDecl n ∧ NoDupDeclL ns
end

theorem scanErrors_eq (v11 : Bool) : ∀ (n : Node), TreeOK n → ∀ (S : Scan) (path : Path),
    At S path → S.xml11 = v11 → (∀ l ∈ path, ∀ d ∈ l, declErrors v11 d = []) →
    scanErrorsNode S n = !(nodeErrors v11 path n).isEmpty := by
  intro n
  induction n using Node.rec (motive_2 := fun ns => TreesOK ns → ∀ (S : Scan) (path : Path),
      At S path → S.xml11 = v11 → (∀ l ∈ path, ∀ d ∈ l, declErrors v11 d = []) →
      scanErrorsList S ns = !(nodesErrors v11 path ns).isEmpty) with
  | elem t kids ih =>
    intro hok S path h hv hanc
    have htag := h.startTag_error_iff t hok.1 (hv ▸ hanc)
    rw [hv] at htag
    have hunf : scanErrorsNode S (.elem t kids) = ((startTagNS S t).2.2.2 || scanErrorsList (startTagNS S t).1 kids) := by
      simp [scanErrorsNode]
    rw [hunf, htag]
    simp only [nodeErrors, nonempty_append]
    cases hte : (tagErrors v11 (path ++ [declsOf t.items]) t).isEmpty with
    | false => rfl
    | true =>
      -- no error at the tag: the scan goes on into the children, below declarations that have passed their checks
      have hanc1 : ∀ l ∈ path ++ [declsOf t.items], ∀ d ∈ l, declErrors v11 d = [] := by
        intro l hl d hd
        rcases List.mem_append.mp hl with h1 | h1
        · exact hanc l h1 d hd
        · exact (tagErrors_nil (List.isEmpty_iff.mp hte)).1 d (List.mem_singleton.mp h1 ▸ hd)
      rw [ih hok.2 _ _ (h.startTag t hok.1) ((startTagNS_ext S t).1.trans hv) hanc1]
  | text | comment | pi | cdata => intro _ S path _ _ _; simp [scanErrorsNode, nodeErrors]
  | nil => simp [scanErrorsList, nodesErrors]
  | cons n ns ih1 ih2 =>
    rename_i hok S path h hv hanc
    simp only [scanErrorsList, nodesErrors, nonempty_append]
    rw [ih1 hok.1 S path h hv hanc, ih2 hok.2 S path h hv hanc]

end XV.Lemmas.NsViews
