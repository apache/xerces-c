/-
The synchronized string pool as one list.  `all p` lists the strings of the const pool and then of the overflow pool, in
the order of their ids (`idOf` is core's `List.idxOf` counted from 1); `getId`, `addOrFind` and `getValueForId` answer as a
plain `XMLStringPool` over `all p` would, and `all p` only ever grows at its end, which leaves the first position of a
string where it is: that is why an id keeps its meaning, whether or not a string occurs twice.  Linearizability of the
two-phase concurrent system is the invariant `LInv`: replaying the log of completed operations one at a time from the
start pool gives the present pool and the logged results.
-/
import XV.Model.SyncPool
namespace XV.Lemmas.SyncPool
open XV.Model.SyncPool

theorem idOf_eq (l : List String) (s : String) : idOf l s = if s ∈ l then l.idxOf s + 1 else 0 := by
  induction l with
  | nil => rfl
  | cons x xs ih =>
    rw [idOf, ih, List.idxOf_cons]
    by_cases hx : x = s
    · simp [hx]
    · simp only [if_neg hx, List.mem_cons, Ne.symm hx, false_or, beq_eq_false_iff_ne.2 hx, cond_false]
      by_cases hm : s ∈ xs <;> simp only [hm, if_true, if_false]

theorem idOf_eq_zero_iff (l : List String) (s : String) : idOf l s = 0 ↔ s ∉ l := by
  rw [idOf_eq]; split <;> simp [*]

theorem idOf_of_mem {l : List String} {s : String} (h : s ∈ l) : idOf l s = l.idxOf s + 1 := by
  rw [idOf_eq, if_pos h]

theorem mem_of_idOf {l : List String} {s : String} (h : idOf l s ≠ 0) : s ∈ l :=
  Decidable.not_not.1 (mt (idOf_eq_zero_iff l s).2 h)

theorem idOf_get (l : List String) (s : String) (h : idOf l s ≠ 0) : l[idOf l s - 1]? = some s := by
  have hm := mem_of_idOf h
  rw [idOf_of_mem hm, Nat.add_sub_cancel, List.getElem?_eq_getElem (List.idxOf_lt_length_iff.2 hm), List.getElem_idxOf]

/-- The shape of the C++ look-up in two pools: first pool, else second pool shifted by the first one's count. -/
theorem idOf_append (a b : List String) (s : String) :
    idOf (a ++ b) s = if idOf a s ≠ 0 then idOf a s else if idOf b s = 0 then 0 else idOf b s + a.length := by
  simp only [idOf_eq, List.mem_append, List.idxOf_append]
  by_cases ha : s ∈ a <;> by_cases hb : s ∈ b <;> simp [ha, hb, Nat.add_right_comm]

theorem idOf_append_left (l m : List String) (s : String) (h : idOf l s ≠ 0) : idOf (l ++ m) s = idOf l s := by
  rw [idOf_append, if_pos h]

theorem idOf_append_new (l : List String) (s : String) (h : s ∉ l) : idOf (l ++ [s]) s = l.length + 1 := by
  rw [idOf_append, if_neg (not_not_intro ((idOf_eq_zero_iff l s).2 h))]; simp [idOf, Nat.add_comm]

-- Assumed by `XV.Props.C17.ids_stable`; no lemma below needs it.
def WF (p : SSP) : Prop :=
  p.const.strs.Nodup ∧ p.over.strs.Nodup ∧ ∀ s, s ∈ p.const.strs → s ∉ p.over.strs

/-- The strings of both pools in the order of their ids: id `k + 1` denotes `(all p)[k]`.  The first `const.count`
entries are frozen. -/
def all (p : SSP) : List String := p.const.strs ++ p.over.strs

theorem all_snoc (p : SSP) (s : String) : all ⟨p.const, ⟨p.over.strs ++ [s]⟩⟩ = all p ++ [s] :=
  (List.append_assoc ..).symm

theorem valueOf_succ (p : SSP) (k : Nat) : valueOf p (k + 1) = (all p)[k]? := by
  unfold valueOf all Pool.count
  rw [if_neg (Nat.succ_ne_zero k)]
  split
  · exact (List.getElem?_append_left (by omega)).symm
  · rw [List.getElem?_append_right (by omega)]; congr 1; omega

theorem valueOf_idOf {p : SSP} {s : String} (h : idOf (all p) s ≠ 0) : valueOf p (idOf (all p) s) = some s := by
  rw [← Nat.sub_add_cancel (Nat.pos_of_ne_zero h), valueOf_succ]; exact idOf_get _ s h

theorem atomic_valueForId_eq (p : SSP) (id : Nat) : atomic p (.valueForId id) = (p, resOfValue (valueOf p id)) := by
  unfold atomic valueOf
  simp only [phase1, phase2, Pool.valueForId]
  by_cases h1 : id ≤ p.const.count
  · by_cases h0 : id = 0 <;> simp [h1, h0]
  · have h0 : ¬ id = 0 := by omega
    have h2 : ¬ id - p.const.count = 0 := by omega
    simp [h1, h0, h2]

theorem atomic_getId_eq (p : SSP) (s : String) : atomic p (.getId s) = (p, .id (idOf (all p) s)) := by
  unfold atomic all
  rw [idOf_append]
  by_cases hc : idOf p.const.strs s ≠ 0
  · rw [show phase1 p.const (.getId s) = some (.id (idOf p.const.strs s)) from if_pos hc, if_pos hc]
  · rw [show phase1 p.const (.getId s) = none from if_neg hc, if_neg hc]; rfl

theorem atomic_addOrFind_eq (p : SSP) (s : String) :
    atomic p (.addOrFind s) = if idOf (all p) s ≠ 0 then (p, .id (idOf (all p) s))
      else (⟨p.const, ⟨p.over.strs ++ [s]⟩⟩, .id ((all p).length + 1)) := by
  unfold atomic all
  rw [idOf_append]
  by_cases hc : idOf p.const.strs s ≠ 0
  · rw [show phase1 p.const (.addOrFind s) = some (.id (idOf p.const.strs s)) from if_pos hc, if_pos hc, if_pos hc]
  · rw [show phase1 p.const (.addOrFind s) = none from if_neg hc, if_neg hc]
    show ({ p with over := (p.over.addOrFind s).1 }, Res.id ((p.over.addOrFind s).2 + p.const.count)) = _
    by_cases ho : idOf p.over.strs s = 0
    · rw [show p.over.addOrFind s = (⟨p.over.strs ++ [s]⟩, p.over.strs.length + 1) from if_pos ho, if_pos ho,
        if_neg (Ne.irrefl), List.length_append, Nat.add_right_comm, Nat.add_comm p.const.strs.length]; rfl
    · rw [show p.over.addOrFind s = (p.over, idOf p.over.strs s) from if_neg ho, if_neg ho, if_pos (by omega)]; rfl

theorem atomic_addOrFind_id (p : SSP) (s : String) :
    (atomic p (.addOrFind s)).2 = .id (idOf (all (atomic p (.addOrFind s)).1) s) ∧
      idOf (all (atomic p (.addOrFind s)).1) s ≠ 0 := by
  rw [atomic_addOrFind_eq]
  split
  · exact ⟨rfl, ‹_›⟩
  · rw [all_snoc, idOf_append_new _ _ ((idOf_eq_zero_iff _ _).1 (Decidable.not_not.1 ‹_›))]
    exact ⟨rfl, Nat.succ_ne_zero _⟩

theorem atomic_prefix (p : SSP) (op : Op) : all p <+: all (atomic p op).1 := by
  cases op with
  | addOrFind s =>
    rw [atomic_addOrFind_eq]
    split
    · exact List.prefix_refl _
    · exact all_snoc p s ▸ List.prefix_append _ _
  | _ => unfold atomic; split <;> exact List.prefix_refl _

theorem runAtomic_prefix (p : SSP) (ops : List Op) : all p <+: all (runAtomic p ops).1 := by
  induction ops generalizing p with
  | nil => exact List.prefix_refl _
  | cons op ops ih => exact (atomic_prefix p op).trans (ih _)

theorem idOf_runAtomic {p : SSP} {s : String} (h : idOf (all p) s ≠ 0) (ops : List Op) :
    idOf (all (runAtomic p ops).1) s = idOf (all p) s := by
  obtain ⟨t, ht⟩ := runAtomic_prefix p ops
  rw [← ht, idOf_append_left _ t s h]

theorem runAtomic_append (p : SSP) (a : List Op) (op : Op) :
    runAtomic p (a ++ [op]) =
      ((atomic (runAtomic p a).1 op).1, (runAtomic p a).2 ++ [(atomic (runAtomic p a).1 op).2]) := by
  induction a generalizing p with
  | nil => simp [runAtomic]
  | cons x xs ih => simp [runAtomic, ih]

/-- `pend` is what makes the locked phase of a pending operation equal to `atomic` on the pool of the moment, whenever it
runs: its unlocked phase did not settle it, and never would, since no step changes the const pool. -/
structure LInv (p0 : SSP) (prog0 : Thread → List Op) (s : Sys) : Prop where
  lin : runAtomic p0 (s.log.map (·.2.1)) = (s.pool, s.log.map (·.2.2))
  pend : ∀ t op, s.pending t = some op → phase1 s.pool.const op = none
  order : ∀ t, ((s.log.filter (·.1 == t)).map (·.2.1)) ++ (s.pending t).toList ++ s.prog t = prog0 t

theorem linv_init (p0 : SSP) (prog0 : Thread → List Op) : LInv p0 prog0 (Sys.init p0 prog0) := by
  constructor <;> simp [Sys.init, runAtomic]

theorem log_snoc (log : List (Thread × Op × Res)) (t t' : Thread) (op : Op) (r : Res) :
    ((log ++ [(t, op, r)]).filter (·.1 == t')).map (·.2.1) =
      (log.filter (·.1 == t')).map (·.2.1) ++ if t' = t then [op] else [] := by
  rw [List.filter_append, List.map_append]
  by_cases h : t' = t
  · simp [h]
  · have : (t == t') = false := beq_false_of_ne (Ne.symm h)
    simp [List.filter, h, this]

theorem lin_snoc {p0 : SSP} {s : Sys} (h : runAtomic p0 (s.log.map (·.2.1)) = (s.pool, s.log.map (·.2.2)))
    (t : Thread) {op : Op} {q : SSP} {r : Res} (hat : atomic s.pool op = (q, r)) :
    runAtomic p0 ((s.log ++ [(t, op, r)]).map (·.2.1)) = (q, (s.log ++ [(t, op, r)]).map (·.2.2)) := by
  simp only [List.map_append, List.map_cons, List.map_nil]
  rw [runAtomic_append, h, hat]

theorem updF_same {α : Type} (f : Thread → α) (t : Thread) (a : α) : updF f t a t = a := if_pos rfl
theorem updF_other {α : Type} (f : Thread → α) {t t' : Thread} (a : α) (h : t' ≠ t) : updF f t a t' = f t' := if_neg h

theorem linv_step (p0 : SSP) (prog0 : Thread → List Op) (s : Sys) (t : Thread) (hi : LInv p0 prog0 s) :
    LInv p0 prog0 (s.step t) := by
  have hord := hi.order
  unfold Sys.step
  cases hp : s.pending t with
  | some op =>
    refine ⟨lin_snoc hi.lin t (by unfold atomic; rw [hi.pend t op hp]), fun t' op' => ?_, fun t' => ?_⟩
    · by_cases h : t' = t
      · rw [h]; simp only [updF_same]; exact nofun
      · simp only [updF_other _ _ h]; exact hi.pend t' op'
    · rw [← hord t', log_snoc]
      by_cases h : t' = t
      · subst h; simp [updF_same, hp]
      · simp [updF_other _ _ h, h]
  | none =>
    cases hpr : s.prog t with
    | nil => exact hi
    | cons op rest =>
      simp only
      cases hph : phase1 s.pool.const op with
      | some r =>
        refine ⟨lin_snoc hi.lin t (by unfold atomic; rw [hph]), hi.pend, fun t' => ?_⟩
        rw [← hord t', log_snoc]
        by_cases h : t' = t
        · subst h; simp [updF_same, hp, hpr]
        · simp [updF_other _ _ h, h]
      | none =>
        refine ⟨hi.lin, fun t' op' => ?_, fun t' => ?_⟩
        · by_cases h : t' = t
          · rw [h]; simp only [updF_same]; intro e; cases e; exact hph
          · simp only [updF_other _ _ h]; exact hi.pend t' op'
        · rw [← hord t']
          by_cases h : t' = t
          · subst h; simp [updF_same, hp, hpr]
          · simp [updF_other _ _ h]

theorem linv_run (p0 : SSP) (prog0 : Thread → List Op) (sched : List Thread) (s : Sys) (hi : LInv p0 prog0 s) :
    LInv p0 prog0 (s.run sched) :=
  List.foldlRecOn sched _ hi fun s hs t _ => linv_step p0 prog0 s t hs

end XV.Lemmas.SyncPool
