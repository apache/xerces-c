/-
The fixed-width transcoders of XV.Model.ByteCodec (XMLUTF16Transcoder, XMLUCS4Transcoder, both byte orders): reading
undoes writing item by item, hence on a whole `flatMap`; each UCS-4 loop is walked along a scalar string by one lemma
for an item and one induction.
-/
import XV.Lemmas.ByteCodec
import XV.Lemmas.Utf8
namespace XV.Lemmas.ByteCodec
open XV.Model.ByteCodec XV.Spec.Utf8 XV.Lemmas.Utf8

theorem units16_bytes16 (be : Bool) (u : Nat) (h : u < 65536) :
    units16 be (bytes16 be u ++ rest) = u :: units16 be rest := by
  cases be <;> simp [bytes16, units16, unit16] <;> omega

theorem units16_flatMap (be : Bool) : ∀ us : List Nat, (∀ u ∈ us, u < 65536) →
    units16 be (us.flatMap (bytes16 be)) = us
  | [], _ => by simp [units16]
  | u :: t, h => by
    rw [List.flatMap_cons, units16_bytes16 be u (h u (by simp)), units16_flatMap be t (fun x hx => h x (by simp [hx]))]

theorem bytes16_length (be : Bool) (u : Nat) : (bytes16 be u).length = 2 := by cases be <;> simp [bytes16]

theorem flatMap_bytes16_length (be : Bool) : ∀ us : List Nat, (us.flatMap (bytes16 be)).length = 2 * us.length := by
  intro us; induction us with
  | nil => rfl
  | cons u t ih => simp [List.flatMap_cons, bytes16_length, ih]; omega

theorem vals32_bytes32 (be : Bool) (v : Nat) (h : v < 4294967296) :
    vals32 be (bytes32 be v ++ rest) = v :: vals32 be rest := by
  cases be <;> simp [bytes32, vals32, val32] <;> omega

theorem vals32_flatMap (be : Bool) : ∀ vs : List Nat, (∀ v ∈ vs, v < 4294967296) →
    vals32 be (vs.flatMap (bytes32 be)) = vs
  | [], _ => by simp [vals32]
  | v :: t, h => by
    rw [List.flatMap_cons, vals32_bytes32 be v (h v (by simp)), vals32_flatMap be t (fun x hx => h x (by simp [hx]))]

/-- Only `s ≤ 10FFFF` is asked: the loop does not test for surrogate values (neither does XMLUCS4Transcoder::transcodeFrom)
and hands one on as the single unit that `utf16` makes of it. -/
theorem ucs4FromLoop_scalar {s : Nat} (hs : s < 0x110000) (t : List Nat) {room : Nat} (hr : (utf16 s).length ≤ room)
    (out sizes : List Nat) (eaten : Nat) :
    ∃ sz, ucs4FromLoop (s :: t) room out sizes eaten =
      ucs4FromLoop t (room - (utf16 s).length) (out ++ utf16 s) sz (eaten + 4) := by
  rw [ucs4FromLoop]
  by_cases hb : s < 65536
  · rw [utf16_bmp hb] at hr ⊢
    have hr : 0 < room := hr
    exact ⟨_, by rw [if_neg (Nat.ne_of_gt hr), if_neg (Nat.not_le.2 hb)]; rfl⟩
  · rw [utf16_pair hb] at hr ⊢
    have hr : 1 < room := hr
    refine ⟨sizes ++ [4, 0], ?_⟩
    rw [if_neg (by omega), if_pos (Nat.le_of_not_lt hb), if_neg (by omega), if_neg (Nat.ne_of_gt hr),
      show (0xD800 - 64 + s / 1024) % 65536 = (s - 0x10000) / 1024 + 0xD800 by omega,
      show (0xDC00 + s % 1024) % 65536 = (s - 0x10000) % 1024 + 0xDC00 by omega]
    rfl

theorem ucs4FromLoop_scalars : ∀ (ss : List Nat) (room : Nat) (out sizes : List Nat) (eaten : Nat),
    (∀ s ∈ ss, s < 0x110000) → (utf16All ss).length ≤ room →
    ∃ sz, ucs4FromLoop ss room out sizes eaten = .ok (out ++ utf16All ss) sz (eaten + 4 * ss.length)
  | [], _, out, sizes, _, _, _ => ⟨sizes, by rw [ucs4FromLoop]; exact congrArg (CRes.ok · sizes _) (List.append_nil out).symm⟩
  | s :: t, room, out, sizes, eaten, hs, hr => by
    rw [utf16All_cons, List.length_append] at hr
    obtain ⟨hs0, hst⟩ := List.forall_mem_cons.1 hs
    obtain ⟨sz, h⟩ := ucs4FromLoop_scalar hs0 t (Nat.le_of_add_right_le hr) out sizes eaten
    obtain ⟨sz', h'⟩ := ucs4FromLoop_scalars t (room - (utf16 s).length) (out ++ utf16 s) sz (eaten + 4) hst
      (Nat.le_sub_of_add_le' hr)
    exact ⟨sz', by rw [h, h', utf16All_cons, List.append_assoc, List.length_cons, Nat.mul_succ, Nat.add_assoc,
      Nat.add_comm 4]⟩

theorem ucs4ToLoop_scalar (be : Bool) (fuel : Nat) {s : Nat} (hs : isScalar s) (t : List Nat) {slots : Nat} (hsl : slots ≠ 0)
    (out : List Nat) (eaten : Nat) :
    ucs4ToLoop be (fuel + 1) (utf16 s ++ t) slots out eaten =
      ucs4ToLoop be fuel t (slots - 1) (out ++ bytes32 be s) (eaten + (utf16 s).length) := by
  by_cases hb : s < 65536
  · rw [utf16_bmp hb, List.singleton_append, ucs4ToLoop.eq_def]
    simp only []
    rw [if_neg hsl, if_neg (fun h => hs.2 ⟨h.1, by omega⟩)]
    rfl
  · have h1 := hs.1
    rw [utf16_pair hb, List.cons_append, List.cons_append, List.nil_append, ucs4ToLoop.eq_def]
    simp only []
    rw [if_neg hsl, if_pos (by omega), if_neg (Classical.not_not.2 (by omega)),
      show ((s - 0x10000) / 1024 + 0xD800 - 0xD800) * 1024 + ((s - 0x10000) % 1024 + 0xDC00 - 0xDC00) + 0x10000 = s by omega]
    rfl

theorem ucs4ToLoop_scalars (be : Bool) : ∀ (ss : List Nat) (fuel slots : Nat) (out : List Nat) (eaten : Nat),
    Scalars ss → (utf16All ss).length ≤ fuel → ss.length ≤ slots →
    ucs4ToLoop be fuel (utf16All ss) slots out eaten
      = .ok (out ++ ss.flatMap (bytes32 be)) [] (eaten + (utf16All ss).length)
  | [], fuel, _, out, _, _, _, _ => by
    rw [show utf16All [] = [] from rfl, List.flatMap_nil, List.append_nil]
    cases fuel <;> rfl
  | s :: t, fuel, slots, out, eaten, hs, hf, hsl => by
    rw [utf16All_cons, List.length_append] at hf ⊢
    obtain ⟨hs0, hst⟩ := scalars_cons.1 hs
    have hu := (utf16_len s).1
    obtain ⟨f, rfl⟩ : ∃ f, fuel = f + 1 := ⟨fuel - 1, by omega⟩
    rw [ucs4ToLoop_scalar be f hs0 _ (Nat.ne_of_gt (Nat.lt_of_lt_of_le (Nat.succ_pos _) hsl)),
      ucs4ToLoop_scalars be t f _ _ _ hst (by omega) (Nat.le_sub_one_of_lt hsl), List.flatMap_cons, List.append_assoc,
      Nat.add_assoc]

end XV.Lemmas.ByteCodec
