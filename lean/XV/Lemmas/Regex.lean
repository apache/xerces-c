/-
C11 — the regex language `Matches` (XV.Spec.Regex) over the operations of XV.Lemmas.Lang: the derivative matcher
`derivMatch` decides it, `simp` preserves it, and the desugared quantifier `rep r n m` denotes `Rep n m`.
Core Lean only.
-/
import XV.Spec.Regex
import XV.Lemmas.Lang
namespace XV.Lemmas.Regex
open XV.Spec.Regex XV.Lemmas.Lang
open XV.Spec.Particle (rangeOk)

theorem matches_empty_false {s : List Int} : ¬ Matches .empty s := fun h => nomatch h

theorem matches_eps {s : List Int} : Matches .eps s ↔ s = [] :=
  ⟨fun h => by cases h; rfl, fun h => h ▸ .eps⟩

theorem matches_cls_cons {rs neg c} {s : List Int} : Matches (.cls rs neg) (c :: s) ↔ inCls c rs neg = true ∧ s = [] :=
  ⟨fun h => by cases h with | cls hc => exact ⟨hc, rfl⟩, fun ⟨hc, h⟩ => h ▸ .cls hc⟩

theorem matches_cat {a b} {s : List Int} : Matches (.cat a b) s ↔ Cat (Matches a) (Matches b) s :=
  ⟨fun h => by cases h with | cat h1 h2 => exact ⟨_, _, rfl, h1, h2⟩, fun ⟨_, _, h, h1, h2⟩ => h ▸ .cat h1 h2⟩

theorem matches_alt {a b} {s : List Int} : Matches (.alt a b) s ↔ Matches a s ∨ Matches b s :=
  ⟨fun h => by cases h with | altL h => exact .inl h | altR h => exact .inr h, fun h => h.elim .altL .altR⟩

theorem matches_star {a} {s : List Int} : Matches (.star a) s ↔ Rep 0 none (Matches a) s := by
  constructor
  · intro h
    generalize hr : Re.star a = r at h
    induction h with
    | starNil => exact star_nil
    | starCons h1 _ _ ih => cases hr; exact star_append h1 (ih rfl)
    | _ => cases hr
  · exact star_elim .starNil fun _ _ => .starCons

theorem nullable_iff (r : Re) : nullable r = true ↔ Matches r [] := by
  induction r with
  | empty => exact iff_of_false Bool.false_ne_true matches_empty_false
  | eps => exact iff_of_true rfl .eps
  | cls rs neg => exact iff_of_false Bool.false_ne_true fun h => nomatch h
  | cat a b iha ihb =>
    rw [nullable, Bool.and_eq_true, iha, ihb, matches_cat, cat_nil]
  | alt a b iha ihb => rw [nullable, Bool.or_eq_true, iha, ihb, matches_alt]
  | star a _ => exact iff_of_true rfl .starNil

theorem deriv_iff (c : Int) (r : Re) : ∀ s, Matches (deriv c r) s ↔ Matches r (c :: s) := by
  induction r with
  | empty => exact fun s => iff_of_false matches_empty_false matches_empty_false
  | eps => exact fun s => iff_of_false matches_empty_false fun h => nomatch h
  | cls rs neg =>
    intro s
    rw [deriv, matches_cls_cons]
    split
    · next h => exact matches_eps.trans (and_iff_right h).symm
    · next h => exact iff_of_false matches_empty_false fun h' => h h'.1
  | cat a b iha ihb =>
    intro s
    rw [matches_cat, cat_cons, ← nullable_iff, ← ihb, ← cat_congr iha fun _ => Iff.rfl, deriv]
    split
    · next hn => simp only [hn, matches_alt, matches_cat, true_and, or_comm]
    · next hn => simp only [hn, matches_cat, Bool.false_eq_true, false_and, false_or]
  | alt a b iha ihb => exact fun s => by rw [deriv, matches_alt, matches_alt, iha, ihb]
  | star a iha =>
    exact fun s => by rw [matches_star, star_cons, ← cat_congr iha fun _ => matches_star, deriv, matches_cat]

theorem derivMatch_iff : ∀ (s : List Int) (r : Re), derivMatch r s = true ↔ Matches r s := by
  intro s
  induction s with
  | nil => exact nullable_iff
  | cons c s ih => exact fun r => (ih (deriv c r)).trans (deriv_iff c r s)

theorem matches_mkAlt (l : List Re) (s : List Int) : Matches (mkAlt l) s ↔ ∃ q ∈ l, Matches q s := by
  fun_induction mkAlt l with
  | case1 => exact iff_of_false matches_empty_false fun ⟨_, h, _⟩ => nomatch h
  | case2 r => simp only [List.mem_singleton, exists_eq_left]
  | case3 r t _ ih =>
    simp only [matches_alt, ih, List.mem_cons (a := _) (b := r), or_and_right, exists_or, exists_eq_left]

theorem altList_iff (r : Re) (s : List Int) : (∃ q ∈ altList r, Matches q s) ↔ Matches r s := by
  fun_induction altList r with
  | case1 a b iha ihb => simp only [List.mem_append, or_and_right, exists_or, iha, ihb, matches_alt]
  | case2 => exact iff_of_false (fun ⟨_, h, _⟩ => nomatch h) matches_empty_false
  | case3 => simp only [List.mem_singleton, exists_eq_left]

theorem mem_dedup (q : Re) (l : List Re) : q ∈ dedup l ↔ q ∈ l := by
  fun_induction dedup l with
  | case1 => exact Iff.rfl
  | case2 x t h ih => rw [ih, List.mem_cons, or_iff_right_of_imp fun e => e ▸ h]
  | case3 x t h ih => rw [List.mem_cons, List.mem_cons, ih]

theorem star_congr {a b : Re} (h : ∀ s, Matches a s ↔ Matches b s) (s : List Int) :
    Matches (.star a) s ↔ Matches (.star b) s :=
  matches_star.trans ((rep_congr 0 none h s).trans matches_star.symm)

theorem star_eps_like {a : Re} (h : ∀ s, Matches a s → s = []) (s : List Int) : Matches (.star a) s ↔ Matches .eps s :=
  ⟨fun hs => matches_eps.2 (star_elim (S := (· = [])) rfl (fun u _ h1 ih => by rw [h u h1, ih]; rfl) (matches_star.1 hs)),
   fun hs => matches_eps.1 hs ▸ .starNil⟩

theorem simp_iff (r : Re) : ∀ s, Matches (simp r) s ↔ Matches r s := by
  induction r with
  | cat a b iha ihb =>
    intro s
    rw [simp, matches_cat, ← cat_congr iha ihb]
    generalize simp a = a', simp b = b'
    split
    · exact iff_of_false matches_empty_false fun ⟨_, _, _, h1, _⟩ => matches_empty_false h1
    · exact iff_of_false matches_empty_false fun ⟨_, _, _, _, h2⟩ => matches_empty_false h2
    · exact ((cat_congr (fun _ => matches_eps) (fun _ => .rfl) s).trans eps_cat).symm
    · exact ((cat_congr (fun _ => .rfl) (fun _ => matches_eps) s).trans cat_eps).symm
    · exact matches_cat
  | alt a b iha ihb =>
    intro s
    simp only [simp, matches_mkAlt, mem_dedup, List.mem_append, or_and_right, exists_or, altList_iff, iha, ihb,
      matches_alt]
  | star a iha =>
    intro s
    rw [simp, ← star_congr iha]
    generalize simp a = a'
    split
    · exact (star_eps_like (fun _ h => (matches_empty_false h).elim) s).symm
    · exact (star_eps_like (fun _ h => matches_eps.1 h) s).symm
    · rfl
  | _ => exact fun _ => Iff.rfl

/-- `s ∈ L(r)^k` -/
inductive Pow (r : Re) : Nat → List Int → Prop
  | zero : Pow r 0 []
  | succ {k s t} : Matches r s → Pow r k t → Pow r (k + 1) (s ++ t)

theorem pow_zero_iff {r : Re} {w : List Int} : Pow r 0 w ↔ w = [] :=
  ⟨fun h => by cases h; rfl, fun h => h ▸ .zero⟩

theorem pow_succ_iff {r : Re} {k : Nat} {w : List Int} : Pow r (k + 1) w ↔ Cat (Matches r) (Pow r k) w :=
  ⟨fun h => by cases h with | succ h1 h2 => exact ⟨_, _, rfl, h1, h2⟩, fun ⟨_, _, h, h1, h2⟩ => h ▸ .succ h1 h2⟩

theorem pow_rep (r : Re) : ∀ k s, Pow r k s ↔ Rep k (some k) (Matches r) s
  | 0, _ => pow_zero_iff.trans rep_zero.symm
  | k + 1, s => pow_succ_iff.trans ((cat_congr (fun _ => .rfl) (pow_rep r k) s).trans rep_succ.symm)

theorem pow_iff (r : Re) : ∀ n s, Matches (pow r n) s ↔ Rep n (some n) (Matches r) s
  | 0, s => matches_eps.trans rep_zero.symm
  | n + 1, s => by rw [pow, matches_cat, cat_congr (fun _ => .rfl) (pow_iff r n), rep_succ]

theorem upto_iff (r : Re) : ∀ k s, Matches (upto r k) s ↔ Rep 0 (some k) (Matches r) s
  | 0, s => matches_eps.trans rep_zero.symm
  | k + 1, s => by
    rw [upto, opt, matches_alt, matches_cat, matches_eps, cat_congr (fun _ => .rfl) (upto_iff r k), rep_unfold, or_comm]
    exact or_congr (and_iff_right rfl).symm (and_iff_right nofun).symm

/-- the desugared `r{n,m}` is `rⁿ r*` resp. `rⁿ` and then up to `m - n` copies; `L{a,b} L{c,d} = L{a+c,b+d}` -/
theorem rep_iff (r : Re) (n : Nat) (m : Option Nat) (hm : ∀ m', m = some m' → n ≤ m') (s : List Int) :
    Matches (rep r n m) s ↔ Rep n m (Matches r) s := by
  have hn : rangeOk n (some n) = true := decide_eq_true (Nat.le_refl n)
  cases m with
  | none => rw [rep, matches_cat, cat_congr (pow_iff r n) fun _ => matches_star, cat_rep_rep hn rfl]; rfl
  | some m' =>
    rw [rep, matches_cat, cat_congr (pow_iff r n) (upto_iff r _), cat_rep_rep hn rfl]
    show Rep (n + 0) (some (n + (m' - n))) _ s ↔ _
    rw [Nat.add_sub_cancel' (hm m' rfl)]; rfl

/-- XSD quantifier semantics: `r{n,m}` matches exactly the concatenations of k copies, n ≤ k ≤ m -/
theorem rep_semantics (r : Re) (n : Nat) (m : Option Nat) (hm : ∀ m', m = some m' → n ≤ m') (s : List Int) :
    Matches (rep r n m) s ↔ ∃ k, n ≤ k ∧ (∀ m', m = some m' → k ≤ m') ∧ Pow r k s := by
  simp only [rep_iff r n m hm, rep_exact (a := n), pow_rep]

end XV.Lemmas.Regex
