/-
Lemmas for C16 about the buffers of the `XSerializeEngine` model. The store buffer is described by what each operation appends
to its stream (`Wrote`), the load buffer by how much of its remaining input each operation consumes (`Read`); `Sync` says that
a load buffer stands where a store buffer stands and what it has left to read, and `RT` is the round trip of one store
operation and the load operation that reads it back: the loader has left what the storer is about to write and then `t`, and
is left with `t`. The alignment argument runs on `DescOK` (what the extracted operator descriptors satisfy), `minBuf` (the
least block size) and `gap` (the bytes skipped before a primitive, a function of the cursor modulo the block size).
-/
import XV.Model.SerEngine
namespace XV.Lemmas.SerEngine
open XV.Model.SerEngine XV.Gen.SerConsts

theorem toLE_length (n v : Nat) : (toLE n v).length = n := by
  induction n generalizing v with
  | zero => rfl
  | succ n ih => simp [toLE, ih]

theorem fromLE_toLE (n v : Nat) (h : v < 256 ^ n) : fromLE (toLE n v) = v := by
  induction n generalizing v with
  | zero => simp [toLE, fromLE] at *; omega
  | succ n ih =>
    simp only [toLE, fromLE]
    have h2 : v / 256 < 256 ^ n := by
      rw [Nat.pow_succ] at h
      exact Nat.div_lt_of_lt_mul (by rw [Nat.mul_comm]; exact h)
    rw [ih _ h2]; omega

theorem toLE_bytes (n v : Nat) : ∀ b ∈ toLE n v, b < 256 := by
  induction n generalizing v with
  | zero => simp [toLE]
  | succ n ih =>
    intro b hb
    simp only [toLE, List.mem_cons] at hb
    rcases hb with rfl | hb
    · omega
    · exact ih _ b hb

theorem zeros_length (n : Nat) : (zeros n).length = n := List.length_replicate

theorem zeros_add (m n : Nat) : zeros (m + n) = zeros m ++ zeros n := List.replicate_append_replicate.symm

/-- smallest buffer that can hold any primitive right after a flush, for a buffer starting at address `base` -/
def minBuf (base : Nat) : Nat := alignAdjust base 8 + 8

/-- a well-formed primitive-operator descriptor (what the extracted tables must satisfy) -/
structure DescOK (d : PrimDesc) : Prop where
  xfer : d.xfer = d.adv
  chk : d.chk = d.adv
  size : d.adv = 1 ∨ d.adv = 2 ∨ d.adv = 4 ∨ d.adv = 8
  al : (d.chkAligned = true ∧ d.align = d.adv) ∨ (d.chkAligned = false ∧ d.align = 0)

theorem alignAdjust_eq (a n : Nat) (hn : 0 < n) : alignAdjust a n = (n - a % n) % n := by
  unfold alignAdjust
  have := Nat.mod_lt a hn
  by_cases h : a % n = 0
  · simp [h]
  · rw [Nat.mod_eq_of_lt (a := n - a % n) (by omega)]; simp [h]

theorem alignAdjust_spec (a n : Nat) (hn : 0 < n) : (a + alignAdjust a n) % n = 0 := by
  rw [alignAdjust_eq a n hn, Nat.add_mod_mod, ← Nat.mod_add_mod a n, Nat.add_sub_cancel' (Nat.le_of_lt (Nat.mod_lt a hn)),
    Nat.mod_self]

theorem adv_dvd {d : PrimDesc} (hd : DescOK d) : d.adv ∣ 8 := by
  rcases hd.size with e | e | e | e <;> rw [e] <;> decide

theorem adv_pos {d : PrimDesc} (hd : DescOK d) : 0 < d.adv := Nat.pos_of_dvd_of_pos (adv_dvd hd) (Nat.succ_pos 7)

theorem padOf_eq {d : PrimDesc} (hd : DescOK d) (a : Nat) :
    padOf d a = if d.chkAligned then (d.adv - a % d.adv) % d.adv else 0 := by
  have hpos := adv_pos hd
  unfold padOf
  rcases hd.al with ⟨h1, h2⟩ | ⟨h1, h2⟩
  · rw [h1, h2, alignAdjust_eq a _ hpos]; simp; omega
  · simp [h1, h2]

theorem need_eq {d : PrimDesc} (hd : DescOK d) (a : Nat) : needOf d a = padOf d a + d.adv := by
  unfold needOf padOf
  rcases hd.al with ⟨h1, h2⟩ | ⟨h1, h2⟩
  · have : d.adv ≠ 0 := Nat.ne_of_gt (adv_pos hd)
    simp [h1, hd.chk, h2, this]
  · simp [h1, hd.chk, h2]

theorem pad_lt {d : PrimDesc} (hd : DescOK d) (a : Nat) : padOf d a < d.adv := by
  have hpos := adv_pos hd
  rw [padOf_eq hd]
  split
  · exact Nat.mod_lt _ hpos
  · exact hpos

theorem pad_after_flush {d : PrimDesc} (hd : DescOK d) (base : Nat) : padOf d base + d.adv ≤ minBuf base := by
  -- below 8 bytes, padding and primitive together stay below 8; for 8 bytes the padding is the one `minBuf` allows for
  have small : d.adv + d.adv ≤ 8 → padOf d base + d.adv ≤ minBuf base := fun h =>
    Nat.le_trans (Nat.add_le_add_right (Nat.le_of_lt (pad_lt hd base)) _) (Nat.le_trans h (Nat.le_add_left 8 _))
  rcases hd.size with e | e | e | e
  · exact small (by rw [e]; decide)
  · exact small (by rw [e]; decide)
  · exact small (by rw [e]; decide)
  · rw [padOf_eq hd, minBuf, alignAdjust_eq base 8 (Nat.succ_pos 7), e]
    split
    · exact Nat.le_refl _
    · exact Nat.le_add_left 8 _

/-- padding depends on the address modulo 8 only: every primitive size divides 8 -/
theorem pad_congr {d : PrimDesc} (hd : DescOK d) {a b : Nat} (h : a % 8 = b % 8) : padOf d a = padOf d b := by
  rw [padOf_eq hd, padOf_eq hd, ← Nat.mod_mod_of_dvd a (adv_dvd hd), h, Nat.mod_mod_of_dvd b (adv_dvd hd)]

theorem minBuf_pos (b : Nat) : 0 < minBuf b := Nat.lt_of_lt_of_le (Nat.succ_pos 7) (Nat.le_add_left 8 _)

theorem minBuf_congr {a b : Nat} (h : a % 8 = b % 8) : minBuf a = minBuf b := by
  rw [minBuf, minBuf, alignAdjust_eq a 8 (Nat.succ_pos 7), alignAdjust_eq b 8 (Nat.succ_pos 7), h]

theorem bytes_of {d : PrimDesc} (hd : DescOK d) (v : Nat) :
    (toLE d.xfer v ++ zeros (d.adv - d.xfer)).take d.adv = toLE d.adv v := by
  rw [hd.xfer, List.take_left' (toLE_length _ _)]

/-- The number of bytes skipped before a primitive when the cursor stands at offset `c` of a block of `B` bytes: alignment
padding, or the rest of the block and the padding at the start of the next one. -/
def gap (d : PrimDesc) (base B c : Nat) : Nat :=
  if c + (padOf d (base + c) + d.adv) ≤ B then padOf d (base + c) else B - c + padOf d base

theorem gap_congr {d : PrimDesc} (hd : DescOK d) {b1 b2 : Nat} (h : b1 % 8 = b2 % 8) (B c : Nat) :
    gap d b1 B c = gap d b2 B c := by
  unfold gap
  rw [pad_congr hd (a := b1 + c) (b := b2 + c) (by rw [Nat.add_mod, h, ← Nat.add_mod]), pad_congr hd h]

/-- the gap depends on the cursor through its residue only: offset `B` of one block is offset 0 of the next -/
theorem gap_mod {d : PrimDesc} (hd : DescOK d) {base B c : Nat} (h : minBuf base ≤ B) (hc : c ≤ B) :
    gap d base B c = gap d base B (c % B) := by
  rcases Nat.eq_or_lt_of_le hc with rfl | hlt
  · unfold gap
    rw [Nat.mod_self, if_neg (Nat.not_le.2 (Nat.lt_add_of_pos_right (Nat.add_pos_right _ (adv_pos hd)))),
      if_pos (show 0 + (padOf d (base + 0) + d.adv) ≤ c from (Nat.zero_add _).symm ▸ Nat.le_trans (pad_after_flush hd base) h)]
    simp
  · rw [Nat.mod_eq_of_lt hlt]

/-- the cursor is inside the block, the block can take any primitive after a flush, and what has been flushed is a whole
number of blocks -/
structure WF (s : SBuf) : Prop where
  fits : s.buf.length ≤ s.bufSize
  min : minBuf s.base ≤ s.bufSize
  blocks : s.out.length % s.bufSize = 0

theorem WF.pos {s : SBuf} (h : WF s) : 0 < s.bufSize := Nat.lt_of_lt_of_le (minBuf_pos _) h.min

/-- `s'` is `s` after more store operations on the same buffer; `w` is what they appended to the stream -/
structure Wrote (s s' : SBuf) (w : List Nat) : Prop where
  base : s'.base = s.base
  bufSize : s'.bufSize = s.bufSize
  wf : WF s'
  stream : s'.stream = s.stream ++ w

theorem Wrote.refl {s : SBuf} (h : WF s) : Wrote s s [] := ⟨rfl, rfl, h, (List.append_nil _).symm⟩

theorem Wrote.trans {a b c : SBuf} {w w' : List Nat} (h1 : Wrote a b w) (h2 : Wrote b c w') : Wrote a c (w ++ w') :=
  ⟨h2.base.trans h1.base, h2.bufSize.trans h1.bufSize, h2.wf, by rw [h2.stream, h1.stream, List.append_assoc]⟩

theorem flush_wrote {s : SBuf} (h : WF s) : Wrote s s.flush (zeros (s.bufSize - s.buf.length)) := by
  have := h.fits
  refine ⟨rfl, rfl, ⟨Nat.zero_le _, h.min, ?_⟩, by simp [SBuf.flush, SBuf.stream]⟩
  show (s.out ++ s.buf ++ zeros (s.bufSize - s.buf.length)).length % s.bufSize = 0
  rw [List.length_append, List.length_append, zeros_length, Nat.add_assoc, Nat.add_sub_cancel' h.fits, Nat.add_comm,
    Nat.add_mod_left, h.blocks]

theorem append_wrote {s : SBuf} (h : WF s) (w : List Nat) (hfit : s.buf.length + w.length ≤ s.bufSize) :
    Wrote s { s with buf := s.buf ++ w } w :=
  ⟨rfl, rfl, ⟨by simpa using hfit, h.min, h.blocks⟩, by simp [SBuf.stream]⟩

theorem putPrim_noflush (s : SBuf) (d : PrimDesc) (v : Nat) (h : DescOK d)
    (hfit : s.buf.length + (padOf d (s.base + s.buf.length) + d.adv) ≤ s.bufSize) :
    s.putPrim d v = { s with buf := s.buf ++ zeros (padOf d (s.base + s.buf.length)) ++ toLE d.adv v } := by
  simp only [SBuf.putPrim, SBuf.checkAndFlush, need_eq h, bytes_of h]
  rw [if_neg (Nat.not_lt.2 hfit)]

theorem putPrim_flush (s : SBuf) (d : PrimDesc) (v : Nat) (h : DescOK d)
    (hfit : s.buf.length + (padOf d (s.base + s.buf.length) + d.adv) > s.bufSize) :
    s.putPrim d v = { s with out := s.out ++ s.buf ++ zeros (s.bufSize - s.buf.length),
                             buf := zeros (padOf d s.base) ++ toLE d.adv v } := by
  simp only [SBuf.putPrim, SBuf.checkAndFlush, need_eq h, bytes_of h]
  rw [if_pos hfit]
  simp only [SBuf.flush, List.length_nil, Nat.add_zero, List.nil_append]

theorem putPrim_wrote {s : SBuf} (hwf : WF s) {d : PrimDesc} (hd : DescOK d) (v : Nat) :
    Wrote s (s.putPrim d v) (zeros (gap d s.base s.bufSize s.buf.length) ++ toLE d.adv v) := by
  have hp := pad_after_flush hd s.base
  have hmin := hwf.min
  fun_cases gap d s.base s.bufSize s.buf.length with
  | case1 hfit =>
    rw [putPrim_noflush s d v hd hfit]
    simpa only [List.append_assoc] using append_wrote hwf (zeros (padOf d (s.base + s.buf.length)) ++ toLE d.adv v)
      (by simpa only [List.length_append, zeros_length, toLE_length] using hfit)
  | case2 hfit =>
    rw [putPrim_flush s d v hd (Nat.lt_of_not_le hfit)]
    have hf := flush_wrote hwf
    simpa only [SBuf.flush, List.nil_append, zeros_add, List.append_assoc] using
      hf.trans (append_wrote hf.wf (zeros (padOf d s.base) ++ toLE d.adv v)
        (by simpa only [SBuf.flush, List.length_append, zeros_length, toLE_length, List.length_nil, Nat.zero_add]
          using Nat.le_trans hp hmin))

theorem fill_flush_wrote {s : SBuf} (hwf : WF s) (w : List Nat) (h : s.buf.length + w.length = s.bufSize) :
    Wrote s ({ s with buf := s.buf ++ w } : SBuf).flush w := by
  have h1 := append_wrote hwf w (Nat.le_of_eq h)
  have h2 := flush_wrote h1.wf
  rw [show s.bufSize - (s.buf ++ w).length = 0 from Nat.sub_eq_zero_of_le (Nat.le_of_eq (by rw [List.length_append, h]))]
    at h2
  simpa only [zeros, List.replicate_zero, List.append_nil] using h1.trans h2

theorem putChunks_wrote (f : Nat) {s : SBuf} (bs : List Nat) (hwf : WF s) (hnil : s.buf = []) (hf : bs.length < f) :
    Wrote s (s.putChunks f bs) bs := by
  fun_induction SBuf.putChunks f s bs with
  | case1 => exact absurd hf (Nat.not_lt_zero _)
  | case2 f s bs hge ih =>
    have hw := fill_flush_wrote hwf (bs.take s.bufSize) (by
      rw [hnil, List.length_nil, Nat.zero_add, List.length_take_of_le hge])
    rw [hnil, List.nil_append] at hw
    simpa only [List.take_append_drop] using hw.trans (ih hw.wf rfl (by
      rw [List.length_drop]
      exact Nat.lt_of_lt_of_le (Nat.sub_lt (Nat.lt_of_lt_of_le hwf.pos hge) hwf.pos) (Nat.le_of_lt_succ hf)))
  | case3 f s bs hlt =>
    have := append_wrote hwf bs (by rw [hnil, List.length_nil, Nat.zero_add]; exact Nat.le_of_lt (Nat.lt_of_not_le hlt))
    rwa [hnil, List.nil_append] at this

theorem putRaw_nil (s : SBuf) : s.putRaw [] = s := rfl

theorem putRaw_direct (s : SBuf) (bs : List Nat) (h : bs.length ≤ s.bufSize - s.buf.length) :
    s.putRaw bs = { s with buf := s.buf ++ bs } := by
  simp only [SBuf.putRaw]
  split
  · rename_i h0; rw [List.length_eq_zero_iff.1 (beq_iff_eq.1 h0), List.append_nil]
  · rfl

theorem putRaw_split (s : SBuf) (bs : List Nat) (h : ¬ bs.length ≤ s.bufSize - s.buf.length) :
    s.putRaw bs = (({ s with buf := s.buf ++ bs.take (s.bufSize - s.buf.length) } : SBuf).flush).putChunks
      (bs.length + 1) (bs.drop (s.bufSize - s.buf.length)) := by
  simp only [SBuf.putRaw]
  rw [if_neg fun e => h (by rw [beq_iff_eq.1 e]; exact Nat.zero_le _), if_neg h]

theorem putRaw_wrote {s : SBuf} (hwf : WF s) (bs : List Nat) : Wrote s (s.putRaw bs) bs := by
  by_cases h : bs.length ≤ s.bufSize - s.buf.length
  · rw [putRaw_direct s bs h]; exact append_wrote hwf bs (Nat.add_le_of_le_sub' hwf.fits h)
  · -- fill the block, flush, continue with whole blocks
    rw [putRaw_split s bs h]
    have hw := fill_flush_wrote hwf (bs.take (s.bufSize - s.buf.length)) (by
      rw [List.length_take_of_le (Nat.le_of_lt (Nat.lt_of_not_le h)), Nat.add_sub_cancel' hwf.fits])
    have h3 := putChunks_wrote (bs.length + 1) (bs.drop (s.bufSize - s.buf.length)) hw.wf rfl (by
      rw [List.length_drop]; exact Nat.lt_succ_of_le (Nat.sub_le _ _))
    simpa only [List.take_append_drop] using hw.trans h3

/-- what the load buffer has not consumed yet -/
def unread (l : LBuf) : List Nat := l.buf.drop l.cur ++ l.inp

/-- the block is full, the cursor inside it, and what has not been fetched yet is a whole number of blocks -/
structure LWF (l : LBuf) : Prop where
  full : l.buf.length = l.bufSize
  cur : l.cur ≤ l.bufSize
  min : minBuf l.base ≤ l.bufSize
  blocks : l.inp.length % l.bufSize = 0

theorem LWF.pos {l : LBuf} (h : LWF l) : 0 < l.bufSize := Nat.lt_of_lt_of_le (minBuf_pos _) h.min

/-- `l'` is `l` after more load operations on the same buffer, which consumed `n` bytes -/
structure Read (l l' : LBuf) (n : Nat) : Prop where
  base : l'.base = l.base
  bufSize : l'.bufSize = l.bufSize
  wf : LWF l'
  rest : unread l' = (unread l).drop n

theorem Read.refl {l : LBuf} (h : LWF l) : Read l l 0 := ⟨rfl, rfl, h, rfl⟩

theorem Read.trans {a b c : LBuf} {m n : Nat} (h1 : Read a b m) (h2 : Read b c n) : Read a c (m + n) :=
  ⟨h2.base.trans h1.base, h2.bufSize.trans h1.bufSize, h2.wf, by rw [h2.rest, h1.rest, List.drop_drop]⟩

theorem LWF.avail {l : LBuf} (h : LWF l) (p : Nat) : (l.buf.drop (l.cur + p)).length = l.bufSize - (l.cur + p) := by
  rw [List.length_drop, h.full]

theorem skip_read {l : LBuf} (h : LWF l) (n : Nat) (hn : l.cur + n ≤ l.bufSize) :
    Read l { l with cur := l.cur + n } n := by
  refine ⟨rfl, rfl, ⟨h.full, hn, h.min, h.blocks⟩, ?_⟩
  show _ = List.drop n (l.buf.drop l.cur ++ l.inp)
  rw [List.drop_append_of_le_length (h.avail 0 ▸ Nat.le_sub_of_add_le' hn), List.drop_drop]; rfl

theorem fill_ok (l : LBuf) (h : l.bufSize ≤ l.inp.length) :
    l.fill = .ok { l with buf := l.inp.take l.bufSize, inp := l.inp.drop l.bufSize, cur := 0 } := by
  unfold LBuf.fill; rw [if_neg (Nat.not_lt.2 h)]

theorem fill_read {l : LBuf} (hmin : minBuf l.base ≤ l.bufSize)
    (hb : l.inp.length % l.bufSize = 0) (hin : l.inp ≠ []) :
    l.fill = .ok { l with buf := l.inp.take l.bufSize, inp := l.inp.drop l.bufSize, cur := 0 } ∧
    Read l { l with buf := l.inp.take l.bufSize, inp := l.inp.drop l.bufSize, cur := 0 } (l.buf.length - l.cur) := by
  have hle : l.bufSize ≤ l.inp.length := Nat.le_of_dvd (List.length_pos_iff.2 hin) (Nat.dvd_of_mod_eq_zero hb)
  refine ⟨fill_ok l hle, rfl, rfl,
    ⟨List.length_take_of_le hle, Nat.zero_le _, hmin, ?_⟩, ?_⟩
  · simp only [List.length_drop]
    rw [← Nat.add_mod_left l.bufSize, Nat.add_sub_cancel' hle, hb]
  · simp only [unread, List.drop_zero, List.take_append_drop]
    rw [List.drop_left' (by rw [List.length_drop])]

theorem LWF.fill {l : LBuf} (h : LWF l) (hin : l.inp ≠ []) :
    l.fill = .ok { l with buf := l.inp.take l.bufSize, inp := l.inp.drop l.bufSize, cur := 0 } ∧
    Read l { l with buf := l.inp.take l.bufSize, inp := l.inp.drop l.bufSize, cur := 0 } (l.bufSize - l.cur) := by
  have := fill_read h.min h.blocks hin
  rwa [h.full] at this

theorem peek {l : LBuf} (h : LWF l) (p n : Nat) (hn : l.cur + p + n ≤ l.bufSize) :
    (l.buf.drop (l.cur + p)).take n = ((unread l).drop p).take n := by
  show _ = ((l.buf.drop l.cur ++ l.inp).drop p).take n
  rw [List.drop_append_of_le_length (h.avail 0 ▸ Nat.le_sub_of_add_le' (Nat.le_trans (Nat.le_add_right _ n) hn)),
    List.drop_drop, List.take_append_of_le_length (h.avail p ▸ Nat.le_sub_of_add_le' hn)]

theorem getPrim_nofill (l : LBuf) (d : PrimDesc) (h : DescOK d)
    (hfit : l.cur + (padOf d (l.base + l.cur) + d.adv) ≤ l.buf.length) :
    l.getPrim d = .ok (fromLE ((l.buf.drop (l.cur + padOf d (l.base + l.cur))).take d.adv),
                       { l with cur := l.cur + padOf d (l.base + l.cur) + d.adv }) := by
  simp only [LBuf.getPrim, LBuf.checkAndFill, need_eq h, h.xfer]
  rw [if_neg (Nat.not_lt.2 hfit)]; rfl

theorem getPrim_fill (l : LBuf) (d : PrimDesc) (h : DescOK d)
    (hfit : l.cur + (padOf d (l.base + l.cur) + d.adv) > l.buf.length) (hin : l.bufSize ≤ l.inp.length) :
    l.getPrim d = .ok (fromLE (((l.inp.take l.bufSize).drop (padOf d l.base)).take d.adv),
                       { l with buf := l.inp.take l.bufSize, inp := l.inp.drop l.bufSize,
                                cur := padOf d l.base + d.adv }) := by
  simp only [LBuf.getPrim, LBuf.checkAndFill, need_eq h, h.xfer]
  rw [if_pos hfit, fill_ok l hin]
  simp only [bind, Except.bind, Nat.zero_add, Nat.add_zero]

theorem getPrim_read {l : LBuf} (h : LWF l) {d : PrimDesc} (hd : DescOK d)
    (hin : gap d l.base l.bufSize l.cur + d.adv ≤ (unread l).length) :
    ∃ l', l.getPrim d = .ok (fromLE (((unread l).drop (gap d l.base l.bufSize l.cur)).take d.adv), l') ∧
      Read l l' (gap d l.base l.bufSize l.cur + d.adv) := by
  revert hin
  fun_cases gap d l.base l.bufSize l.cur with
  | case1 hfit =>
    intro _
    rw [getPrim_nofill l d hd (h.full.symm ▸ hfit), peek h _ _ (Nat.add_assoc _ _ _ ▸ hfit)]
    exact ⟨_, rfl, by simpa only [Nat.add_assoc] using skip_read h (padOf d (l.base + l.cur) + d.adv) hfit⟩
  | case2 hfit =>
    -- the primitive does not fit: the next block is fetched, and it does fit at its start
    intro hin
    have hfit0 : padOf d l.base + d.adv ≤ l.bufSize := Nat.le_trans (pad_after_flush hd l.base) h.min
    have hinp : 0 < l.inp.length := by
      rw [unread, List.length_append, List.length_drop, h.full] at hin
      simp only [Nat.add_assoc] at hin
      exact Nat.lt_of_lt_of_le (adv_pos hd) (Nat.le_trans (Nat.le_add_left _ _) (Nat.le_of_add_le_add_left hin))
    obtain ⟨_, hr⟩ := h.fill (List.ne_nil_of_length_pos hinp)
    have hpk := peek hr.wf (padOf d l.base) d.adv ((Nat.zero_add (padOf d l.base)).symm ▸ hfit0)
    have hsk := skip_read hr.wf (padOf d l.base + d.adv) ((Nat.zero_add _).symm ▸ hfit0)
    simp only [Nat.zero_add, hr.rest, List.drop_drop] at hpk hsk
    rw [getPrim_fill l d hd (h.full.symm ▸ Nat.lt_of_not_le hfit)
      (Nat.le_of_dvd hinp (Nat.dvd_of_mod_eq_zero h.blocks)), hpk]
    exact ⟨_, rfl, by simpa only [Nat.add_assoc] using hr.trans hsk⟩

/-- the chunk loop of `read` fetches whole blocks: it does not look at the cursor -/
theorem getChunks_cur (f : Nat) (l : LBuf) (n : Nat) (acc : List Nat) (hn : 0 < n) (hf : n < f) (c : Nat) :
    l.getChunks f n acc = ({ l with cur := c } : LBuf).getChunks f n acc := by
  cases f with
  | zero => exact absurd hf (Nat.not_lt_zero _)
  | succ f => unfold LBuf.getChunks; rw [if_pos hn, if_pos hn]; rfl

theorem getChunks_read : ∀ (f : Nat) {l : LBuf} (n : Nat) (acc : List Nat), LWF l → l.cur = l.bufSize → n < f →
    n ≤ (unread l).length → ∃ l', l.getChunks f n acc = .ok (acc ++ (unread l).take n, l') ∧ Read l l' n
  | 0, _, _, _, _, _, h, _ => absurd h (Nat.not_lt_zero _)
  | f + 1, l, n, acc, hl, hc, hf, hn => by
    have hpos := hl.pos
    have hrest : unread l = l.inp := by rw [unread, List.drop_of_length_le (by rw [hl.full, hc]; exact Nat.le_refl _)]; rfl
    rw [hrest] at hn ⊢
    unfold LBuf.getChunks
    by_cases h0 : n = 0
    · rw [h0, if_neg (Nat.not_le.2 hpos), if_neg (Nat.lt_irrefl 0)]
      exact ⟨l, by rw [List.take_zero, List.append_nil], .refl hl⟩
    have hn0 := Nat.pos_of_ne_zero h0
    -- fetch the next block; `hr` is what that consumes (nothing: the old block was used up)
    obtain ⟨hfill, hr⟩ := hl.fill (List.ne_nil_of_length_pos (Nat.lt_of_lt_of_le hn0 hn))
    rw [hc, Nat.sub_self] at hr
    rw [hfill]
    split
    · rename_i hge
      have hsk := hr.trans (skip_read hr.wf l.bufSize (Nat.le_of_eq (Nat.zero_add _)))
      simp only [Nat.zero_add] at hsk
      obtain ⟨l', hg, hr'⟩ := getChunks_read f (n - l.bufSize) (acc ++ (l.inp.take l.bufSize).take l.bufSize)
        hsk.wf rfl (Nat.lt_of_lt_of_le (Nat.sub_lt hn0 hpos) (Nat.le_of_lt_succ hf))
        (by rw [hsk.rest, hrest, List.length_drop]; exact Nat.sub_le_sub_right hn _)
      refine ⟨l', hg.trans ?_, by simpa only [Nat.add_sub_cancel' hge] using hsk.trans hr'⟩
      rw [hsk.rest, hrest, List.take_take, Nat.min_self, List.append_assoc, ← List.take_add,
        Nat.add_sub_cancel' hge]
    · rename_i hlt
      have hle : n ≤ l.bufSize := Nat.le_of_lt (Nat.lt_of_not_le hlt)
      refine ⟨_, ?_, by simpa only [Nat.zero_add] using hr.trans (skip_read hr.wf n ((Nat.zero_add n).symm ▸ hle))⟩
      show Except.ok (acc ++ (l.inp.take l.bufSize).take n, _) = _
      rw [List.take_take, Nat.min_eq_left hle]

theorem getRaw_zero (l : LBuf) : l.getRaw 0 = .ok ([], l) := rfl

theorem getRaw_direct (l : LBuf) (n : Nat) (h : n ≤ l.buf.length - l.cur) :
    l.getRaw n = .ok ((l.buf.drop l.cur).take n, { l with cur := l.cur + n }) := by
  simp only [LBuf.getRaw]
  split
  · rename_i h0; rw [beq_iff_eq.1 h0]; rfl
  · rfl

theorem getRaw_split (l : LBuf) (n : Nat) (h : ¬ n ≤ l.buf.length - l.cur) :
    l.getRaw n = l.getChunks (n + 1) (n - (l.buf.length - l.cur)) (l.buf.drop l.cur) := by
  simp only [LBuf.getRaw]
  rw [if_neg fun e => h (by rw [beq_iff_eq.1 e]; exact Nat.zero_le _), if_neg h]

theorem getRaw_read {l : LBuf} (hl : LWF l) (n : Nat) (hn : n ≤ (unread l).length) :
    ∃ l', l.getRaw n = .ok ((unread l).take n, l') ∧ Read l l' n := by
  have hav : (l.buf.drop l.cur).length = l.buf.length - l.cur := List.length_drop
  by_cases h : n ≤ l.buf.length - l.cur
  · rw [getRaw_direct l n h, unread, List.take_append_of_le_length (hav ▸ h)]
    exact ⟨_, rfl, skip_read hl n (Nat.add_le_of_le_sub' hl.cur (hl.full ▸ h))⟩
  · -- the rest of the block, then whole blocks
    have hlt : l.buf.length - l.cur < n := Nat.lt_of_not_le h
    have hsk := skip_read hl (l.bufSize - l.cur) (Nat.le_of_eq (Nat.add_sub_cancel' hl.cur))
    rw [Nat.add_sub_cancel' hl.cur] at hsk
    have hrest : unread _ = l.inp := hsk.rest.trans (List.drop_left' (hav.trans (by rw [hl.full])))
    rw [getRaw_split l n h, getChunks_cur _ l _ _ (Nat.sub_pos_of_lt hlt) (Nat.lt_succ_of_le (Nat.sub_le _ _)) l.bufSize]
    obtain ⟨l', hg, hr⟩ := getChunks_read (n + 1) (n - (l.buf.length - l.cur)) (l.buf.drop l.cur) hsk.wf rfl
      (Nat.lt_succ_of_le (Nat.sub_le _ _))
      (by rw [hrest, Nat.sub_le_iff_le_add, ← hav, Nat.add_comm, ← List.length_append]; exact hn)
    refine ⟨l', hg.trans ?_, by simpa only [hl.full, Nat.add_sub_cancel' (hl.full ▸ Nat.le_of_lt hlt)] using hsk.trans hr⟩
    rw [hrest, unread, List.take_append, hav, List.take_of_length_le (l := l.buf.drop l.cur) (hav ▸ Nat.le_of_lt hlt)]

/-- The load buffer `l` is in step with the store buffer `s` and has `r` left to read: same block size, congruent
addresses, and the bytes written so far and the bytes left make a whole number of blocks. -/
structure Sync (s : SBuf) (l : LBuf) (r : List Nat) : Prop where
  bufSize : l.bufSize = s.bufSize
  base : l.base % 8 = s.base % 8
  wf : LWF l
  rest : unread l = r
  whole : (s.stream.length + r.length) % s.bufSize = 0

theorem residue {B a c : Nat} (hc : c ≤ B) (h : (a + (B - c)) % B = 0) : c % B = a % B := by
  have e : (c + (a + (B - c))) % B = (a + B) % B := congrArg (· % B) (by omega)
  rw [Nat.add_mod_right, Nat.add_mod, h, Nat.add_zero, Nat.mod_mod] at e
  exact e

/-- both cursors are the position in the stream modulo the block size -/
theorem Sync.cur {s : SBuf} {l : LBuf} {r : List Nat} (hwf : WF s) (hs : Sync s l r) :
    l.cur % s.bufSize = s.buf.length % s.bufSize := by
  have hB := hs.bufSize
  refine residue (hB ▸ hs.wf.cur) ?_
  have h := hs.whole
  rw [← hs.rest] at h
  simp only [SBuf.stream, unread, List.length_append, List.length_drop, hs.wf.full, hB] at h
  rwa [show s.out.length + s.buf.length + (s.bufSize - l.cur + l.inp.length)
    = s.out.length + (l.inp.length + (s.buf.length + (s.bufSize - l.cur))) by omega, Nat.add_mod, hwf.blocks, Nat.zero_add,
    Nat.mod_mod, Nat.add_mod, show l.inp.length % s.bufSize = 0 from hB ▸ hs.wf.blocks, Nat.zero_add, Nat.mod_mod] at h

theorem Sync.gap {s : SBuf} {l : LBuf} {r : List Nat} (hwf : WF s) (hs : Sync s l r) {d : PrimDesc} (hd : DescOK d) :
    gap d l.base l.bufSize l.cur = gap d s.base s.bufSize s.buf.length := by
  rw [gap_congr hd hs.base, hs.bufSize, gap_mod hd hwf.min (hs.bufSize ▸ hs.wf.cur), gap_mod hd hwf.min hwf.fits, hs.cur hwf]

theorem Sync.step {s s' : SBuf} {l l' : LBuf} {w t : List Nat} (hs : Sync s l (w ++ t)) (hw : Wrote s s' w)
    (hr : Read l l' w.length) : Sync s' l' t :=
  ⟨by rw [hr.bufSize, hw.bufSize, hs.bufSize], by rw [hr.base, hw.base, hs.base], hr.wf,
    by rw [hr.rest, hs.rest, List.drop_left],
    by rw [hw.bufSize, hw.stream, List.length_append, Nat.add_assoc, ← List.length_append]; exact hs.whole⟩

/-- The round trip of one store operation, as the law of a codec.  `put` appends some `w` to the stream, whatever it is
given to write; if `P` holds (what the values written must satisfy to be read back), a load buffer in step that has `w ++ t`
left to read can make a move `G`, after which it is in step again and has `t` left.  `G l l'` is usually
`get l = .ok (a, l')`. -/
def RT (put : SBuf → SBuf) (P : Prop) (G : LBuf → LBuf → Prop) : Prop :=
  ∀ s, WF s → ∃ w, Wrote s (put s) w ∧ (P → ∀ l t, Sync s l (w ++ t) → ∃ l', G l l' ∧ Sync (put s) l' t)

theorem RT.seq {p1 p2 : SBuf → SBuf} {P1 P2 : Prop} {G1 G2 : LBuf → LBuf → Prop} (h1 : RT p1 P1 G1) (h2 : RT p2 P2 G2) :
    RT (fun s => p2 (p1 s)) (P1 ∧ P2) (fun l l' => ∃ l1, G1 l l1 ∧ G2 l1 l') := by
  intro s hwf
  obtain ⟨w1, hw1, r1⟩ := h1 s hwf
  obtain ⟨w2, hw2, r2⟩ := h2 _ hw1.wf
  refine ⟨w1 ++ w2, hw1.trans hw2, fun hp l t hs => ?_⟩
  obtain ⟨l1, hg1, hs1⟩ := r1 hp.1 l (w2 ++ t) (List.append_assoc .. ▸ hs)
  obtain ⟨l2, hg2, hs2⟩ := r2 hp.2 l1 t hs1
  exact ⟨l2, ⟨l1, hg1, hg2⟩, hs2⟩

theorem RT.map {p : SBuf → SBuf} {P Q : Prop} {G G' : LBuf → LBuf → Prop} (h : RT p P G) (hp : Q → P)
    (hg : Q → ∀ l l', G l l' → G' l l') : RT p Q G' :=
  fun s hwf => have ⟨w, hw, r⟩ := h s hwf
    ⟨w, hw, fun q l t hs => have ⟨l', hg', hs'⟩ := r (hp q) l t hs; ⟨l', hg q _ _ hg', hs'⟩⟩

theorem rt_prim {d : PrimDesc} (hd : DescOK d) (v : Nat) :
    RT (fun s => s.putPrim d v) (v < 256 ^ d.adv) (fun l l' => l.getPrim d = .ok (v, l')) := by
  intro s hwf
  have hw := putPrim_wrote hwf hd v
  refine ⟨_, hw, fun hv l t hs => ?_⟩
  rw [← hs.gap hwf hd] at hw hs
  have hr := hs.rest
  obtain ⟨l', hg, hr'⟩ := getPrim_read hs.wf hd (by
    rw [hr]; simp only [List.length_append, zeros_length, toLE_length]; exact Nat.le_add_right _ _)
  refine ⟨l', hg.trans ?_, hs.step hw (by simpa only [List.length_append, zeros_length, toLE_length] using hr')⟩
  rw [hr, List.append_assoc, List.drop_left' (zeros_length _), List.take_left' (toLE_length _ _), fromLE_toLE _ _ hv]

theorem rt_raw (bs : List Nat) : RT (fun s => s.putRaw bs) True (fun l l' => l.getRaw bs.length = .ok (bs, l')) := by
  intro s hwf
  have hw := putRaw_wrote hwf bs
  refine ⟨bs, hw, fun _ l t hs => ?_⟩
  obtain ⟨l', hg, hr⟩ := getRaw_read hs.wf bs.length (by rw [hs.rest, List.length_append]; exact Nat.le_add_right _ _)
  exact ⟨l', hg.trans (by rw [hs.rest, List.take_left]), hs.step hw hr⟩

instance (d : PrimDesc) : Decidable (DescOK d) :=
  decidable_of_iff (d.xfer = d.adv ∧ d.chk = d.adv ∧ (d.adv = 1 ∨ d.adv = 2 ∨ d.adv = 4 ∨ d.adv = 8) ∧
      ((d.chkAligned = true ∧ d.align = d.adv) ∨ (d.chkAligned = false ∧ d.align = 0)))
    ⟨fun ⟨a, b, c, e⟩ => ⟨a, b, c, e⟩, fun h => ⟨h.xfer, h.chk, h.size, h.al⟩⟩

theorem desc_tables : ∀ t : Ty, DescOK t.w ∧ t.r = t.w := by
  intro t
  cases t <;> decide

/-- a primitive of type `t`: the store operator against the load operator of the extracted tables -/
theorem rt_ty (t : Ty) (v : Nat) :
    RT (fun s => s.putPrim t.w v) (v < 256 ^ t.w.xfer) (fun l l' => l.getPrim t.r = .ok (v, l')) :=
  (rt_prim (desc_tables t).1 v).map (fun hv => (desc_tables t).1.xfer ▸ hv) fun _ _ _ h => (desc_tables t).2 ▸ h

theorem sz_xmlch_pos : 0 < sz_xmlch := by decide
theorem sz_byte_one : sz_byte = 1 := by decide
theorem ulong_bound : 256 ^ Ty.ulong.w.xfer = noDataFollowed + 1 := by decide

theorem unitsToBytes_length (us : List Nat) : (unitsToBytes us).length = us.length * sz_xmlch := by
  induction us with
  | nil => simp [unitsToBytes]
  | cons u us ih => simp only [unitsToBytes, List.length_append, toLE_length, ih, List.length_cons]; rw [Nat.add_mul]; omega

theorem bytesToUnits_unitsToBytes (us : List Nat) (h : ∀ u ∈ us, u < 256 ^ sz_xmlch) :
    bytesToUnits us.length (unitsToBytes us) = us := by
  induction us with
  | nil => simp [bytesToUnits]
  | cons u us ih =>
    simp only [unitsToBytes, List.length_cons, bytesToUnits]
    rw [List.take_left' (toLE_length _ _), List.drop_left' (toLE_length _ _), fromLE_toLE _ _ (h u (by simp)),
      ih (fun x hx => h x (by simp [hx]))]

theorem rt_ul (v : Nat) : RT (fun s => s.putUL v) (v ≤ noDataFollowed) (fun l l' => l.getUL = .ok (v, l')) :=
  (rt_ty .ulong v).map (fun hv => by rw [ulong_bound]; omega) fun _ _ _ h => h

/-- a null string: the single word `noDataFollowed` -/
theorem rt_null (withLen : Bool) (unit : Nat) :
    RT (fun s => s.putUL noDataFollowed) True (fun l l' => l.getStr withLen unit = .ok (none, l')) :=
  (rt_ul noDataFollowed).map (fun _ => Nat.le_refl _) fun _ l l' h => by simp [LBuf.getStr, h, bind, Except.bind]

/-- `writeString` without buffer length: the count, then the data -/
theorem rt_str_plain (bs : List Nat) (cnt unit : Nat) :
    RT (fun s => (s.putUL cnt).putRaw bs) (cnt < noDataFollowed ∧ bs.length = cnt * unit)
      (fun l l' => l.getStr false unit = .ok (some (bs, cnt + 1), l')) :=
  ((rt_ul cnt).seq (rt_raw bs)).map (fun h => ⟨Nat.le_of_lt h.1, trivial⟩) fun ⟨hcnt, hlen⟩ l l' ⟨l1, h1, h2⟩ => by
    have : (cnt == noDataFollowed) = false := by simp; omega
    rw [hlen] at h2
    simp [LBuf.getStr, h1, h2, this, bind, Except.bind]

/-- `writeString` with buffer length: the buffer length, the count, then the data -/
theorem rt_str_len (bs : List Nat) (cnt bl unit : Nat) :
    RT (fun s => ((s.putUL bl).putUL cnt).putRaw bs) (cnt < bl ∧ bl < noDataFollowed ∧ bs.length = cnt * unit)
      (fun l l' => l.getStr true unit = .ok (some (bs, bl), l')) :=
  (((rt_ul bl).seq (rt_ul cnt)).seq (rt_raw bs)).map (fun h => ⟨⟨by omega, by omega⟩, trivial⟩)
    fun ⟨hcnt, hbl, hlen⟩ l l' ⟨l2, ⟨l1, h1, h2⟩, h3⟩ => by
      have e1 : (bl == noDataFollowed) = false := by simp; omega
      have e2 : ¬ (cnt ≥ bl) := by omega
      rw [hlen] at h3
      simp [LBuf.getStr, h1, h2, h3, e1, e2, bind, Except.bind]

theorem rt_val : ∀ v : Val, RT (fun s => s.putVal v) v.ok (fun l l' => l.getVal v.shape = .ok (v, l'))
  | .prim t x =>
    (rt_ty t x).map id fun _ l l' h => by simp only [Val.shape, LBuf.getVal, h, bind, Except.bind]
  | .raw bs => (rt_raw bs).map (fun _ => trivial) fun _ l l' h => by simp only [Val.shape, LBuf.getVal, h, bind, Except.bind]
  | .str none =>
    (rt_null false sz_xmlch).map id fun _ l l' h => by simp only [Val.shape, LBuf.getVal, h, bind, Except.bind, Option.map]
  | .bstr none =>
    (rt_null false sz_byte).map id fun _ l l' h => by simp only [Val.shape, LBuf.getVal, h, bind, Except.bind, Option.map]
  | .strL none =>
    (rt_null true sz_xmlch).map id fun _ l l' h => by simp only [Val.shape, LBuf.getVal, h, bind, Except.bind, Option.map]
  | .bstrL none =>
    (rt_null true sz_byte).map id fun _ l l' h => by simp only [Val.shape, LBuf.getVal, h, bind, Except.bind, Option.map]
  | .str (some us) =>
    (rt_str_plain (unitsToBytes us) us.length sz_xmlch).map (fun hv => ⟨hv.2, unitsToBytes_length us⟩) fun hv l l' h => by
      simp only [Val.shape, LBuf.getVal, h, bind, Except.bind, Option.map, unitsToBytes_length,
        Nat.mul_div_cancel _ sz_xmlch_pos, bytesToUnits_unitsToBytes us fun u hu => (hv.1 u hu).2]
  | .bstr (some bs) =>
    (rt_str_plain bs bs.length sz_byte).map (fun hv => ⟨hv.2, by rw [sz_byte_one, Nat.mul_one]⟩) fun _ l l' h => by
      simp only [Val.shape, LBuf.getVal, h, bind, Except.bind, Option.map]
  | .strL (some (us, bl)) =>
    (rt_str_len (unitsToBytes us) us.length bl sz_xmlch).map (fun hv => ⟨hv.2.1, hv.2.2, unitsToBytes_length us⟩)
      fun hv l l' h => by
        simp only [Val.shape, LBuf.getVal, h, bind, Except.bind, Option.map, unitsToBytes_length,
          Nat.mul_div_cancel _ sz_xmlch_pos, bytesToUnits_unitsToBytes us fun u hu => (hv.1 u hu).2]
  | .bstrL (some (bs, bl)) =>
    (rt_str_len bs bs.length bl sz_byte).map (fun hv => ⟨hv.2.1, hv.2.2, by rw [sz_byte_one, Nat.mul_one]⟩)
      fun _ l l' h => by simp only [Val.shape, LBuf.getVal, h, bind, Except.bind, Option.map]

theorem rt_vals : ∀ vs : List Val,
    RT (fun s => s.putVals vs) (∀ v ∈ vs, v.ok) (fun l l' => l.getVals (vs.map Val.shape) = .ok (vs, l'))
  | [] => fun s hwf => ⟨[], .refl hwf, fun _ l _ hs => ⟨l, rfl, hs⟩⟩
  | v :: vs =>
    ((rt_val v).seq (rt_vals vs)).map (fun hok => ⟨hok v (by simp), fun x hx => hok x (by simp [hx])⟩)
      fun _ l l' ⟨l1, h1, h2⟩ => by simp only [List.map_cons, LBuf.getVals, h1, h2, bind, Except.bind]

theorem wf_init (base B : Nat) (h : minBuf base ≤ B) : WF (SBuf.init base B) := ⟨Nat.zero_le _, h, Nat.zero_mod _⟩

/-- A fresh loading engine, given all that a fresh storing engine has put out by the time it is destroyed (what it wrote and
the zero fill of the last block, a whole number of blocks), starts in step with the fresh storing engine. -/
theorem fresh_sync {baseS baseL B : Nat} (hB : minBuf baseS ≤ B) (hbase : baseL % 8 = baseS % 8) {s : SBuf} {w : List Nat}
    (hw : Wrote (SBuf.init baseS B) s w) :
    ∃ l pad, LBuf.init baseL B s.finish = .ok l ∧ Sync (SBuf.init baseS B) l (w ++ zeros pad) := by
  have hf := flush_wrote hw.wf
  have e : s.finish = w ++ zeros (s.bufSize - s.buf.length) := congrArg (· ++ _) hw.stream
  have hF : s.finish.length % B = 0 := (show s.flush.bufSize = B from hw.bufSize) ▸ hf.wf.blocks
  have hne : s.finish ≠ [] := fun h0 => by
    have := hw.wf.fits
    have := hw.wf.pos
    have := congrArg List.length h0
    simp only [SBuf.finish, SBuf.flush, List.length_append, zeros_length, List.length_nil] at this
    omega
  obtain ⟨hfill, hr⟩ := fill_read (l := ⟨baseL, B, s.finish, [], 0⟩) (by rw [minBuf_congr hbase]; exact hB) hF hne
  exact ⟨_, _, hfill, rfl, hbase, hr.wf, hr.rest.trans e, (Nat.zero_add _).symm ▸ e ▸ hF⟩

end XV.Lemmas.SerEngine
