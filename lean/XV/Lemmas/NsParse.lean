/- The scanner in the course of a document.  `At S path`: the stack of `S` represents the declarations of the open
   elements `path`, and there are no global bindings; start and end tags move it along the path.  There `resolvePrefix` and
   `buildAttList` hand over, for every bound prefix, the pool id of the Spec's namespace name, and an id stays readable
   while the pool grows (`Ext`).  Hence `evs_full`: below `BoundN` (every prefix used is bound) the events delivered are the
   Spec's, names and attribute lists included.  The Spec's `tagErrors` read as a disjunction of tests gives `BoundN` for a
   namespace-well-formed tree.  Namespace `XV.Lemmas.NsViews`, shared by NsViews, NsParse, NsDom and NsBuild. -/
import XV.Lemmas.NsViews
namespace XV.Lemmas.NsViews
open XV.Model.ElemStack XV.Model.NsScan XV.Model.Sax2Prefix XV.Spec.Namespace XV.Lemmas.ElemStack

theorem uriText_getId {S : Scan} {u : String} (hu : u ∈ S.uriPool) : uriText S (getId S.uriPool u) = u := by
  simp [uriText, valueForId_getId hu]

theorem uriText_mono {S S' : Scan} (hx : Ext S S') {u : String} (hu : u ∈ S.uriPool) :
    uriText S' (getId S.uriPool u) = u := by
  obtain ⟨l, hp⟩ := hx.2
  rw [← getId_append hu, hp]
  exact uriText_getId (hp ▸ List.mem_append_left _ hu)

theorem inScope_xmlns (path : Path) : inScope path "xmlns" = some xmlnsURI := by
  simp [inScope, inScopeG]

/-- the scanner stands at the end of `path`: its stack represents the declarations of the open elements (root first),
    and the application has supplied no bindings -/
def At (S : Scan) (path : Path) : Prop := Rep S ⟨[], path.reverse⟩

theorem At.of_rep {S : Scan} {a : Abs} (h : Rep S a) (hg : a.g = []) : At S a.path := by
  cases a with | mk g st =>
  cases hg
  rwa [At, Abs.path, List.reverse_reverse]

theorem At.init (v : Bool) : At (Scan.init v) [] := init_rep v

theorem At.startTag {S : Scan} {path : Path} (h : At S path) (t : Tag) (hok : ItemsOK t.items) :
    At (startTagNS S t).1 (path ++ [declsOf t.items]) := by
  have := rep_startTag h (rawOfItems t.items)
  rw [declsOfRaw_rawOfItems t.items hok] at this
  rw [At, List.reverse_append]; exact this

theorem At.endTag {S : Scan} {path : Path} {l : Level} (h : At S (path ++ [l])) : At (endTagNS S) path := by
  have := rep_step h .popTop
  rwa [List.reverse_append] at this

theorem startTagNS_ext (S : Scan) (t : Tag) : Ext S (startTagNS S t).1 := by
  rw [show (startTagNS S t).1 = S.run _ from startTag_eq_run S _]; exact run_ext _ S

theorem startTagNS_attrs (S : Scan) (t : Tag) : (startTagNS S t).2.1 = t.items.map (builtAttr (startTagNS S t).1) := by
  simp only [startTagNS, buildAttList_items]

/-- the id `resolvePrefix` hands over for a bound prefix, and for the absent prefix of an element: the pool id of the
    Spec's namespace name (of the empty string when there is none) -/
theorem At.resolve_id {S : Scan} {path : Path} (h : At S path) (q : String) (mode : MapModes)
    (hm : mode = .attribute → q ≠ "") (hb : q ≠ "" → inScope path q ≠ none) :
    (S.resolvePrefix q mode).1 = getId S.uriPool (optS (inScope path q)) ∧ optS (inScope path q) ∈ S.uriPool := by
  rw [resolvePrefix_eq h q mode hm]
  rw [inScope_eq_bound] at hb ⊢
  dsimp only
  cases hbd : bound [] path.reverse q with
  | none =>
    have q0 : q = "" := Classical.byContradiction (fun hne => hb hne (by rw [hbd]))
    simp only [q0, ↓reduceIte, optS, h.sE, h.eid.2, true_and]
    exact h.eid.1
  | some u =>
    -- bound to the empty name, or to none: `optS` reads the same
    have hu : optS (if u = "" then none else some u) = u := by split <;> simp [optS, *]
    exact hu.symm ▸ ⟨rfl, h.bound_mem hbd⟩

/-- **one attribute through `buildAttList`**: its URI id is the pool id of the namespace name the Spec gives the
    written prefix (of the empty string when it has none) -/
theorem At.builtAttr_spec {S : Scan} {path : Path} (h : At S path) {it : Item}
    (hb : ∀ p l, it = .attr p l → p ≠ "" → attrNS path p ≠ none) :
    builtAttr S it =
      ⟨getId S.uriPool (optS (attrNS path (rawOf it).pre)), (rawOf it).pre, (rawOf it).loc, (rawOf it).value⟩ ∧
    optS (attrNS path (rawOf it).pre) ∈ S.uriPool := by
  -- the prefix under which the scanner sees the attribute is bound: a declaration is written with `xmlns` or with none
  have hb' : (rawOf it).pre ≠ "" → attrNS path (rawOf it).pre ≠ none := by
    cases it with
    | decl d => by_cases e : d.pre = "" <;> simp [rawOf, e, xmlnsString_eq, attrNS, inScope_xmlns]
    | attr p l => exact hb p l rfl
  rw [builtAttr, builtRaw]
  unfold attrNS at hb' ⊢
  by_cases e : (rawOf it).pre = ""
  · rw [if_pos e, if_pos e, h.sE, h.eid.2]; exact ⟨rfl, h.eid.1⟩
  · rw [if_neg e] at hb'
    obtain ⟨hr, hmem⟩ := h.resolve_id _ .attribute (fun _ => e) hb'
    rw [if_neg e, if_neg e, hr]; exact ⟨rfl, hmem⟩

/-- reported names in a common normal form: (namespace name as text, local name, qualified name) -/
abbrev N3 := String × String × String

inductive NEv where
  | spm (p u : String) | epm (p : String) | se (n : N3) (attrs : List N3) | ee (n : N3)
deriving DecidableEq, Repr

def normM : Event → NEv
  | .startPrefixMapping p u => .spm p u
  | .endPrefixMapping p => .epm p
  | .startElement u l q as => .se (u, l, q) (as.map (fun a => (a.uri, a.local_, a.qname)))
  | .endElement u l q => .ee (u, l, q)

def normS : Ev → NEv
  | .startPrefixMapping p u => .spm p u
  | .endPrefixMapping p => .epm p
  | .startElement ns p l as => .se (optS ns, l, qname p l) (as.map (fun a => (optS a.ns, a.loc, qname a.pre a.loc)))
  | .endElement ns p l => .ee (optS ns, l, qname p l)

/-- every prefix used by the tag is bound (`path'` includes the tag's own declarations) -/
def TagBound (path' : Path) (t : Tag) : Prop :=
  (t.pre ≠ "" → elemNS path' t.pre ≠ none) ∧
  ∀ p l, Item.attr p l ∈ t.items → p ≠ "" → attrNS path' p ≠ none

mutual
  def BoundN (path : Path) : Node → Prop
    | .elem t kids => TagBound (path ++ [declsOf t.items]) t ∧ BoundL (path ++ [declsOf t.items]) kids
    | _ => True
  def BoundL (path : Path) : List Node → Prop
    | [] => True
    | n :: ns => BoundN path n ∧ BoundL path ns
end

/-- the Spec's attribute list, one attribute specification at a time: a declaration is shown only with
    namespace-prefixes on, and then as the attribute the scanner sees -/
theorem sax2Attrs_eq (b : Bool) (path : Path) (items : List Item) :
    sax2Attrs b path items = (items.filter (fun it => b || (declOf? it).isNone)).map
      (fun it => ⟨attrNS path (rawOf it).pre, (rawOf it).pre, (rawOf it).loc⟩) := by
  induction items with
  | nil => rfl
  | cons it r ih =>
    cases it with
    | decl d => cases b <;> by_cases e : d.pre = "" <;> simp [sax2Attrs, ih, rawOf, declOf?, e, xmlnsString_eq]
    | attr p l => simp [sax2Attrs, ih, rawOf, declOf?]

/-- the attribute list handed to the ContentHandler is the Spec's, names and namespace names alike -/
theorem At.attrs_eq_spec {S : Scan} {path : Path} (h : At S path) (b : Bool) (items : List Item)
    (hok : ItemsOK items) (hb : ∀ p l, Item.attr p l ∈ items → p ≠ "" → attrNS path p ≠ none) :
    ((items.map (builtAttr S)).filter (fun a => b || (nsDeclOf a).isNone)).map
        (fun a => (uriText S a.uriId, a.name, qn a.pre a.name))
    = (sax2Attrs b path items).map (fun x => (optS x.ns, x.loc, qname x.pre x.loc)) := by
  -- both lists are images of the attribute specifications that are shown
  have hshown : ∀ it ∈ items, ((fun a => b || (nsDeclOf a).isNone) ∘ builtAttr S) it = (b || (declOf? it).isNone) :=
    fun it hit => by simp [nsDeclOf_builtAttr S (hok.mem it hit)]
  rw [List.filter_map, List.filter_congr hshown, sax2Attrs_eq, List.map_map, List.map_map]
  refine List.map_congr_left fun it hit => ?_
  obtain ⟨hba, hmem⟩ := h.builtAttr_spec fun p l e => hb p l (e ▸ (List.mem_filter.mp hit).1)
  simp only [Function.comp, hba, uriText_getId hmem, qn_eq_qname]

/-- what the start tag hands over as the element's URI id when the element's prefix is bound: the pool id of its
    namespace name (of the empty string when it has none) -/
theorem At.startTagNS_uri {S : Scan} {path : Path} (h : At S path) (t : Tag) (hok : ItemsOK t.items)
    (hb : t.pre ≠ "" → elemNS (path ++ [declsOf t.items]) t.pre ≠ none) :
    (startTagNS S t).2.2.1 = getId (startTagNS S t).1.uriPool (optS (elemNS (path ++ [declsOf t.items]) t.pre)) ∧
    optS (elemNS (path ++ [declsOf t.items]) t.pre) ∈ (startTagNS S t).1.uriPool :=
  (h.startTag t hok).resolve_id t.pre .element (fun hc => nomatch hc) hb

theorem elemEvents_norm (b : Bool) (uriOf uriOf' : Nat → String) (uriId : Nat) (pre loc : String) (attrs : List XMLAttr)
    (inner : List Event) :
    (elemEvents b uriOf uriOf' uriId pre loc attrs inner).map normM =
      (attrs.filterMap nsDeclOf).map (fun d => NEv.spm d.1 d.2) ++
      [NEv.se (uriOf uriId, loc, qn pre loc) ((attrs.filter (fun a => b || (nsDeclOf a).isNone)).map
        (fun a => (uriOf a.uriId, a.name, qn a.pre a.name)))] ++ inner.map normM ++
      [NEv.ee (uriOf' uriId, loc, qn pre loc)] ++ ((attrs.filterMap nsDeclOf).map (·.1)).reverse.map NEv.epm := by
  cases b <;> simp [elemEvents, normM, toSax, Function.comp_def, List.filter_eq_self.mpr]

/-- **the SAX2 events of a subtree whose prefixes are all bound (`BoundN`; less than namespace-well-formed) are the
    Spec's**, names, namespace names and attribute lists included; the scanner ends where it started, with a URI pool that
    has only grown -/
theorem evs_full (b : Bool) : ∀ (n : Node), TreeOK n → ∀ (S : Scan) (path : Path), At S path → BoundN path n →
    (evs b S n).2.map normM = (sax2Events b path n).map normS ∧ At (evs b S n).1 path ∧ Ext S (evs b S n).1 := by
  intro n
  induction n using Node.rec (motive_2 := fun ns => TreesOK ns → ∀ (S : Scan) (path : Path), At S path → BoundL path ns →
      (evsL b S ns).2.map normM = (sax2EventsL b path ns).map normS ∧ At (evsL b S ns).1 path ∧ Ext S (evsL b S ns).1) with
  | elem t kids ih =>
    intro hok S path h hbound
    have h1 := h.startTag t hok.1
    obtain ⟨huri, humem⟩ := h.startTagNS_uri t hok.1 hbound.1.1
    obtain ⟨hes, h2, hx2⟩ := ih hok.2 _ _ h1 hbound.2
    have hD : (t.items.map (builtAttr (startTagNS S t).1)).filterMap nsDeclOf = (declsOf t.items).map (fun d => (d.pre, d.uri)) :=
      startTagNS_attrs S t ▸ nsDecls_buildAttList _ t.items hok.1
    refine ⟨?_, h2.endTag, (startTagNS_ext S t).trans (hx2.trans (step_ext _ .popTop))⟩
    -- the end tag reads the element's URI id in a pool that has grown since the start tag
    simp only [evs, elemEvents_norm, startTagNS_attrs, hD, hes, huri, uriText_mono hx2 humem, uriText_getId humem,
      h1.attrs_eq_spec b t.items hok.1 hbound.1.2]
    simp [sax2Events, normS, qn_eq_qname, List.map_reverse, Function.comp_def]
  | text | comment | pi | cdata => intro _ S path h _; exact ⟨rfl, h, Ext.refl S⟩
  | nil => rename_i S path h _; exact ⟨rfl, h, Ext.refl S⟩
  | cons n ns ih1 ih2 =>
    rename_i hok S path h hbound
    obtain ⟨e1, a1, x1⟩ := ih1 hok.1 S path h hbound.1
    obtain ⟨e2, a2, x2⟩ := ih2 hok.2 _ path a1 hbound.2
    exact ⟨by simp [evsL, sax2EventsL, e1, e2], a2, x1.trans x2⟩

theorem mem_attrsOf {items : List Item} {p l : String} (hm : Item.attr p l ∈ items) : (p, l) ∈ attrsOf items := by
  rw [attrsOf_eq_filterMap]
  exact List.mem_filterMap.mpr ⟨_, hm, rfl⟩

theorem nonempty_append {α : Type} (a b : List α) : (!(a ++ b).isEmpty) = (!a.isEmpty || !b.isEmpty) := by
  cases a <;> simp

theorem nonempty_ite {α : Type} (c : Prop) [Decidable c] (x : α) : (!(if c then [x] else []).isEmpty) = decide c := by
  by_cases h : c <;> simp [h]

theorem tagErrors_nonempty (v11 : Bool) (path' : Path) (t : Tag) :
    (!(tagErrors v11 path' t).isEmpty) =
      ((declsOf t.items).any (fun d => !(declErrors v11 d).isEmpty) ||
       hasDup ((declsOf t.items).map (·.pre)) ||
       (decide (t.pre ≠ "") && (elemNS path' t.pre).isNone) ||
       (attrsOf t.items).any (fun x => decide (x.1 ≠ "" ∧ attrNS path' x.1 = none)) ||
       hasDup (expandedAttrs path' (attrsOf t.items))) := by
  have hfl : ∀ ds : List Decl, (!((ds.map (declErrors v11)).flatten).isEmpty) = ds.any (fun d => !(declErrors v11 d).isEmpty) := by
    intro ds
    induction ds with
    | nil => rfl
    | cons d r ih =>
      simp only [List.map_cons, List.flatten_cons, List.any_cons, nonempty_append, ih]
  have hdn : decide (t.pre ≠ "" ∧ elemNS path' t.pre = none) = (decide (t.pre ≠ "") && (elemNS path' t.pre).isNone) := by
    cases h : elemNS path' t.pre <;> by_cases e : t.pre = "" <;> simp [e]
  unfold tagErrors
  simp only [nonempty_append, nonempty_ite, hfl, Bool.decide_eq_true, hdn]

theorem tagErrors_nil {v11 : Bool} {path' : Path} {t : Tag} (h : tagErrors v11 path' t = []) :
    (∀ d ∈ declsOf t.items, declErrors v11 d = []) ∧ TagBound path' t := by
  have hb := tagErrors_nonempty v11 path' t
  rw [h] at hb
  simp only [List.isEmpty_nil, Bool.not_true, Bool.false_eq, Bool.or_eq_false_iff, List.any_eq_false,
    Bool.not_eq_eq_eq_not, decide_eq_true_eq, Bool.not_eq_false, List.isEmpty_iff] at hb
  obtain ⟨⟨⟨⟨h1, _⟩, h3⟩, h4⟩, _⟩ := hb
  refine ⟨h1, fun hp hn => ?_, fun p l hm hp hn => h4 (p, l) (mem_attrsOf hm) ⟨hp, hn⟩⟩
  simp [hp, hn] at h3

theorem bound_of_wellFormed (v11 : Bool) : ∀ (n : Node) (path : Path), nodeErrors v11 path n = [] → BoundN path n := by
  intro n
  induction n using Node.rec (motive_2 := fun ns => ∀ path : Path, nodesErrors v11 path ns = [] → BoundL path ns) with
  | elem t kids ih =>
    intro path h
    simp only [nodeErrors, List.append_eq_nil_iff] at h
    exact ⟨(tagErrors_nil h.1).2, ih _ h.2⟩
  | text | comment | pi | cdata => intro _ _; trivial
  | nil => trivial
  | cons n ns ih1 ih2 =>
    rename_i path h
    simp only [nodesErrors, List.append_eq_nil_iff] at h
    exact ⟨ih1 path h.1, ih2 path h.2⟩

end XV.Lemmas.NsViews
