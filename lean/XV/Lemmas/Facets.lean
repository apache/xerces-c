/-
C09, facet part: a facet check splits into parts (upper bounds, lower bounds, digits, enumeration, length); under the
order laws `compareValues` must satisfy (`OrderLaws`), each part of the inherited set is the conjunction of the base's
and the step's, hence so is the whole check, along a chain of any length.  The orders of the integers and of the decimal
values satisfy the laws.
-/
import XV.Model.Facets
import XV.Lemmas.Decimal
namespace XV.Lemmas.Facets
open XV.Spec.Facets XV.Model.Facets

variable {V : Type} (cmp : V → V → Int) (dg : V → Nat × Nat) (len : V → Nat)

/-- what the facet theorems need of `compareValues`: results -1, 0, 1, the transitivity laws of a total order, and
compatibility with its own equality (neither reflexivity nor antisymmetry) -/
structure OrderLaws (cmp : V → V → Int) : Prop where
  total : ∀ a b, cmp a b = -1 ∨ cmp a b = 0 ∨ cmp a b = 1
  le_trans : ∀ a b c, cmp a b ≠ 1 → cmp b c ≠ 1 → cmp a c ≠ 1
  lt_of_le_of_lt : ∀ a b c, cmp a b ≠ 1 → cmp b c = -1 → cmp a c = -1
  lt_of_lt_of_le : ∀ a b c, cmp a b = -1 → cmp b c ≠ 1 → cmp a c = -1
  ge_trans : ∀ a b c, cmp a b ≠ -1 → cmp b c ≠ -1 → cmp a c ≠ -1
  gt_of_ge_of_gt : ∀ a b c, cmp a b ≠ -1 → cmp b c = 1 → cmp a c = 1
  gt_of_gt_of_ge : ∀ a b c, cmp a b = 1 → cmp b c ≠ -1 → cmp a c = 1
  congr : ∀ a b c, cmp a b = 0 → cmp a c = cmp b c

theorem OrderLaws.le_chain {cmp : V → V → Int} (L : OrderLaws cmp) (a b c : V) (h1 : cmp a b ≤ 0) (h2 : cmp b c ≤ 0) :
    cmp a c ≤ 0 ∧ (cmp a b < 0 ∨ cmp b c < 0 → cmp a c < 0) := by
  have t1 := L.total a b
  have t2 := L.total b c
  have t3 := L.total a c
  have l1 := L.le_trans a b c
  have l2 := L.lt_of_le_of_lt a b c
  have l3 := L.lt_of_lt_of_le a b c
  omega

/-- The step's value of a facet replaces the base's.  The conjunction of the two checks is unchanged by that, provided
the step's value implies the base's. -/
theorem all_override {α : Type} (P : α → Bool) (b t : Option α)
    (h : ∀ l x, t = some l → b = some x → P l = true → P x = true) :
    Option.all P (if b.isSome && !t.isSome then b else t) = (Option.all P b && Option.all P t) := by
  cases b with
  | none => cases t <;> rfl
  | some x =>
    cases t with
    | none => exact (Bool.and_true _).symm
    | some l =>
      have := h l x rfl rfl
      show P l = (P x && P l)
      cases hl : P l with
      | false => exact (Bool.and_false _).symm
      | true => rw [this hl]; rfl

/-- Both base bounds of a pair are dropped as soon as the step has either bound of the pair.  The conjunction is
unchanged, provided the step's bounds imply the base's. -/
theorem pair_override {α : Type} (PE PI : α → Bool) (bE bI tE tI : Option α)
    (h : (tE.isSome || tI.isSome) = true → (Option.all PE tE && Option.all PI tI) = true →
      (Option.all PE bE && Option.all PI bI) = true) :
    (Option.all PE (if bE.isSome && !tE.isSome && !tI.isSome then bE else tE) &&
      Option.all PI (if bI.isSome && !tE.isSome && !tI.isSome then bI else tI)) =
      ((Option.all PE bE && Option.all PI bI) && (Option.all PE tE && Option.all PI tI)) := by
  by_cases ht : (tE.isSome || tI.isSome) = true
  · have e : ∀ b : Option α, (if b.isSome && !tE.isSome && !tI.isSome then b else tE) = tE ∧
        (if b.isSome && !tE.isSome && !tI.isSome then b else tI) = tI := by
      intro b; cases tE <;> cases tI <;> cases b <;> simp at ht ⊢
    rw [(e bE).1, (e bI).2]
    cases hT : (Option.all PE tE && Option.all PI tI) with
    | false => exact (Bool.and_false _).symm
    | true => rw [h ht hT]; rfl
  · have e1 : tE = none := by cases tE <;> simp at ht ⊢
    have e2 : tI = none := by cases tI <;> simp at ht ⊢
    subst e1; subst e2
    cases bE <;> cases bI <;> simp [Option.all]

def maxPart (f : Step V) (v : V) : Bool :=
  Option.all (fun m => cmp v m == -1) f.maxExcl && Option.all (fun m => cmp v m != 1) f.maxIncl

def minPart (f : Step V) (v : V) : Bool :=
  Option.all (fun m => cmp v m == 1) f.minExcl && Option.all (fun m => cmp v m != -1) f.minIncl

def enumPart (f : Step V) (v : V) : Bool := Option.all (fun es => es.any (fun e => cmp v e == 0)) f.enumeration

def digitsPart (f : Step V) (v : V) : Bool :=
  Option.all (fun n => !((dg v).2 > n)) f.fractionDigits && Option.all (fun n => !((dg v).1 > n)) f.totalDigits

theorem checkNumeric_parts (f : Step V) (v : V) :
    checkNumeric cmp dg f v = (enumPart cmp f v && (maxPart cmp f v && minPart cmp f v) && digitsPart dg f v) := by
  have hb : boundsCheck cmp f v = (maxPart cmp f v && minPart cmp f v) := by
    unfold boundsCheck maxPart minPart
    cases f.maxExcl <;> cases f.maxIncl <;> cases f.minIncl <;> cases f.minExcl <;>
      simp only [Option.all, Bool.and_comm, Bool.and_left_comm, Bool.true_and, Bool.and_true]
  unfold checkNumeric enumPart digitsPart
  rw [hb]
  cases f.enumeration <;> cases f.fractionDigits <;> cases f.totalDigits <;>
    simp only [Option.all, Bool.and_assoc, Bool.true_and, Bool.and_true]

theorem inspect_parts (b t : Step V) (h2 : inspectFacetBase cmp dg b t = true) :
    inspMaxIncl cmp b t = true ∧ inspMaxExcl cmp dg b t = true ∧ inspMinExcl cmp dg b t = true ∧
    inspMinIncl cmp b t = true ∧ inspDigits b t = true ∧ inspEnum cmp dg b t = true := by
  unfold inspectFacetBase at h2
  simp only [Bool.and_eq_true] at h2
  exact ⟨h2.1.1.1.1.1.1, h2.1.1.1.1.1.2, h2.1.1.1.1.2, h2.1.1.1.2, h2.1.1.2, h2.1.2⟩

/-- One pair of bounds, `s` the sign of "strictly within" (`-1` for upper bounds, `1` for lower ones) and `g` the
opposite sign: a value within the step's bounds is within the base's, if every bound of the step is. -/
theorem bound_imp (s g : Int) (hsg : s ≠ g)
    (strict_weak : ∀ a b c, cmp a b = s → cmp b c ≠ g → cmp a c = s)
    (weak_strict : ∀ a b c, cmp a b ≠ g → cmp b c = s → cmp a c = s)
    (weak_weak : ∀ a b c, cmp a b ≠ g → cmp b c ≠ g → cmp a c ≠ g) (bE bI tE tI : Option V) (v : V)
    (fE : ∀ m, tE = some m → (∀ x, bE = some x → cmp m x ≠ g) ∧ (∀ x, bI = some x → cmp m x ≠ g))
    (fI : ∀ m, tI = some m → (∀ x, bE = some x → cmp m x = s) ∧ (∀ x, bI = some x → cmp m x ≠ g))
    (ht : (tE.isSome || tI.isSome) = true)
    (hT : (Option.all (fun m => cmp v m == s) tE && Option.all (fun m => cmp v m != g) tI) = true) :
    (Option.all (fun m => cmp v m == s) bE && Option.all (fun m => cmp v m != g) bI) = true := by
  rw [Bool.and_eq_true, Option.all_eq_true, Option.all_eq_true] at hT ⊢
  cases tE with
  | some m =>
    have hv : cmp v m = s := beq_iff_eq.mp (hT.1 m rfl)
    exact ⟨fun x hx => beq_iff_eq.mpr (strict_weak v m x hv ((fE m rfl).1 x hx)),
      fun x hx => bne_iff_ne.mpr (by rw [strict_weak v m x hv ((fE m rfl).2 x hx)]; exact hsg)⟩
  | none =>
    cases tI with
    | none => cases ht
    | some m =>
      have hv : cmp v m ≠ g := bne_iff_ne.mp (hT.2 m rfl)
      exact ⟨fun x hx => beq_iff_eq.mpr (weak_strict v m x hv ((fI m rfl).1 x hx)),
        fun x hx => bne_iff_ne.mpr (weak_weak v m x hv ((fI m rfl).2 x hx))⟩

theorem maxPart_inherit (L : OrderLaws cmp) (b t : Step V) (v : V) (h2 : inspectFacetBase cmp dg b t = true) :
    maxPart cmp (inheritFacet b t) v = (maxPart cmp b v && maxPart cmp t v) := by
  obtain ⟨a1, a2, _⟩ := inspect_parts cmp dg b t h2
  unfold inspMaxIncl at a1
  unfold inspMaxExcl at a2
  -- what `inspectFacetBase` checks of an upper bound of the step against the upper bounds in force; its tests against
  -- the lower bounds, the `fromBase` half of the first test of block 4.3.8.c3 and `inspFromBase` are not needed
  refine pair_override _ _ _ _ _ _ (bound_imp cmp (-1) 1 (by decide) L.lt_of_lt_of_le L.lt_of_le_of_lt L.le_trans
    b.maxExcl b.maxIncl t.maxExcl t.maxIncl v (fun m hm => ?_) (fun m hm => ?_))
  · -- the step's maxExclusive `m`: the first two tests of block 4.3.8.c3, against the base's maxExclusive and maxInclusive
    rw [hm] at a2
    simp only [Bool.and_eq_true] at a2
    exact ⟨fun x hx => by have := a2.1.1.1; rw [hx] at this; simp at this; exact this.1.1,
      fun x hx => by have := a2.1.1.2; rw [hx] at this; simp at this; exact this.1⟩
  · -- the step's maxInclusive `m`: the second and the first test of block 4.3.7.c2, against the same two
    rw [hm] at a1
    simp only [Bool.and_eq_true] at a1
    exact ⟨fun x hx => by have := a1.1.1.2; rw [hx] at this; simpa using this,
      fun x hx => by have := a1.1.1.1; rw [hx] at this; simp at this; exact this.1⟩

theorem minPart_inherit (L : OrderLaws cmp) (b t : Step V) (v : V) (h2 : inspectFacetBase cmp dg b t = true) :
    minPart cmp (inheritFacet b t) v = (minPart cmp b v && minPart cmp t v) := by
  obtain ⟨_, _, a2, a1, _⟩ := inspect_parts cmp dg b t h2
  unfold inspMinIncl at a1
  unfold inspMinExcl at a2
  refine pair_override _ _ _ _ _ _ (bound_imp cmp 1 (-1) (by decide) L.gt_of_gt_of_ge L.gt_of_ge_of_gt L.ge_trans
    b.minExcl b.minIncl t.minExcl t.minIncl v (fun m hm => ?_) (fun m hm => ?_))
  · -- the step's minExclusive `m`: the first and the third test of block 4.3.9.c3, against the base's minExclusive and
    -- minInclusive
    rw [hm] at a2
    simp only [Bool.and_eq_true] at a2
    exact ⟨fun x hx => by have := a2.1.1.1; rw [hx] at this; simp at this; exact this.1.1,
      fun x hx => by have := a2.1.2; rw [hx] at this; simp at this; exact this.1⟩
  · -- the step's minInclusive `m`: the third and the first test of block 4.3.10.c2, against the same two
    rw [hm] at a1
    simp only [Bool.and_eq_true] at a1
    exact ⟨fun x hx => by have := a1.1.2; rw [hx] at this; simpa using this,
      fun x hx => by have := a1.1.1.1; rw [hx] at this; simp at this; exact this.1⟩

theorem digitsPart_inherit (b t : Step V) (v : V) (h2 : inspectFacetBase cmp dg b t = true) :
    digitsPart dg (inheritFacet b t) v = (digitsPart dg b v && digitsPart dg t v) := by
  obtain ⟨_, _, _, _, h, _⟩ := inspect_parts cmp dg b t h2
  unfold inspDigits at h
  simp only [Bool.and_eq_true] at h
  unfold digitsPart
  dsimp only [inheritFacet]
  rw [all_override _ b.fractionDigits _ fun l x hl hx hv => by
        have := h.1.2; rw [hl, hx] at this; simp at this hv ⊢; omega,
      all_override _ b.totalDigits _ fun l x hl hx hv => by
        have := h.1.1; rw [hl, hx] at this; simp at this hv ⊢; omega]
  simp only [Bool.and_assoc, Bool.and_left_comm]

/-- The enumeration of a set `f` that inherits it from `b` and `t`.  Of the base's check of the members of the step's
enumeration only its enumeration part is needed, and of `cmp` only that it does not tell equal values apart. -/
theorem enumPart_override (hcmp : ∀ a e c, cmp a e = 0 → cmp a c = cmp e c) (b t f : Step V) (v : V)
    (hf : f.enumeration = if b.enumeration.isSome && !t.enumeration.isSome then b.enumeration else t.enumeration)
    (h : ∀ es, t.enumeration = some es → ∀ e ∈ es, enumPart cmp b e = true) :
    enumPart cmp f v = (enumPart cmp b v && enumPart cmp t v) := by
  unfold enumPart at h ⊢
  rw [hf]
  refine all_override _ _ _ fun es xs hes hxs hv => ?_
  -- `v` equals a member `e` of the step's enumeration, and `e` a member of the base's
  obtain ⟨e, hmem, hce⟩ := List.any_eq_true.mp hv
  have := h es hes e hmem
  rw [hxs] at this
  simpa only [Option.all, hcmp v e _ (beq_iff_eq.mp hce)] using this

theorem enumPart_inherit (L : OrderLaws cmp) (b t : Step V) (v : V) (h2 : inspectFacetBase cmp dg b t = true) :
    enumPart cmp (inheritFacet b t) v = (enumPart cmp b v && enumPart cmp t v) := by
  refine enumPart_override cmp L.congr b t _ v rfl fun es hes e hmem => ?_
  have h := (inspect_parts cmp dg b t h2).2.2.2.2.2
  unfold inspEnum at h
  rw [hes] at h
  have hb : checkNumeric cmp dg b e = true := List.all_eq_true.mp h e hmem
  rw [checkNumeric_parts] at hb
  simp only [Bool.and_eq_true] at hb
  exact hb.1.1

theorem step_conj (L : OrderLaws cmp) (b t : Step V) (v : V) (h2 : inspectFacetBase cmp dg b t = true) :
    checkNumeric cmp dg (inheritFacet b t) v = (checkNumeric cmp dg b v && checkNumeric cmp dg t v) := by
  rw [checkNumeric_parts, checkNumeric_parts cmp dg b, checkNumeric_parts cmp dg t, enumPart_inherit cmp dg L b t v h2,
    maxPart_inherit cmp dg L b t v h2, minPart_inherit cmp dg L b t v h2, digitsPart_inherit cmp dg b t v h2]
  simp only [Bool.and_assoc, Bool.and_left_comm, Bool.and_comm]

theorem chain_conj (L : OrderLaws cmp) (steps : List (Step V)) :
    ∀ base : Step V, validFrom cmp dg base steps = true → ∀ v,
      checkNumeric cmp dg (effective base steps) v =
        (checkNumeric cmp dg base v && steps.all (fun s => checkNumeric cmp dg s v)) := by
  induction steps with
  | nil => intro base _ v; simp [effective]
  | cons t r ih =>
    intro base hv v
    unfold validFrom at hv
    simp only [Bool.and_eq_true] at hv
    unfold effective at ih ⊢
    rw [List.foldl_cons, ih (inheritFacet base t) hv.2 v, step_conj cmp dg L base t v hv.1.2, List.all_cons,
      Bool.and_assoc]

theorem validFrom_append (base : Step V) (xs ys : List (Step V)) :
    validFrom cmp dg base (xs ++ ys) = (validFrom cmp dg base xs && validFrom cmp dg (effective base xs) ys) := by
  induction xs generalizing base with
  | nil => rfl
  | cons a r ih =>
    unfold effective at ih ⊢
    rw [List.cons_append, validFrom, validFrom, ih, List.foldl_cons]
    simp only [Bool.and_assoc]

/-- At most one upper and one lower bound: what `inspectFacet` demands of a step and `inheritFacet` keeps.
The chain theorems of this file do not need it. -/
def WF (f : Step V) : Prop := ¬ (f.maxIncl.isSome ∧ f.maxExcl.isSome) ∧ ¬ (f.minIncl.isSome ∧ f.minExcl.isSome)

theorem pair_wf {α : Type} (bE bI tE tI : Option α) (hb : ¬ (bI.isSome ∧ bE.isSome))
    (ht : (tE.isSome && tI.isSome) = false) :
    ¬ ((if bI.isSome && !tE.isSome && !tI.isSome then bI else tI).isSome ∧
       (if bE.isSome && !tE.isSome && !tI.isSome then bE else tE).isSome) := by
  cases bE <;> cases bI <;> cases tE <;> cases tI <;> simp at hb ht ⊢

theorem wf_inherit (b t : Step V) (hwf : WF b) (h1 : inspectFacet cmp t = true) : WF (inheritFacet b t) := by
  unfold inspectFacet at h1
  simp only [Bool.and_eq_true, Bool.not_eq_true'] at h1
  exact ⟨pair_wf _ _ _ _ hwf.1 h1.1.1.1.1.1.1, pair_wf _ _ _ _ hwf.2 h1.1.1.1.1.1.2⟩

def lenPart (f : Step V) (v : V) : Bool :=
  Option.all (fun n => !(len v > n)) f.maxLength && Option.all (fun n => !(len v < n)) f.minLength &&
    Option.all (fun n => len v == n) f.length

theorem checkString_parts (f : Step V) (v : V) : checkString cmp len f v = (lenPart len f v && enumPart cmp f v) := by
  unfold checkString lenPart enumPart
  cases f.maxLength <;> cases f.minLength <;> cases f.length <;> cases f.enumeration <;> rfl

theorem lenPart_inherit (b t : Step V) (v : V) (h2 : inspectFacetBaseS cmp len b t = true) :
    lenPart len (inheritFacetS b t) v = (lenPart len b v && lenPart len t v) := by
  unfold inspectFacetBaseS at h2
  simp only [Bool.and_eq_true] at h2
  unfold lenPart
  dsimp only [inheritFacetS]
  rw [all_override _ b.maxLength _ fun l x hl hx hv => by
        have := h2.1.2; rw [hl, hx] at this; simp at this hv ⊢; omega,
      all_override _ b.minLength _ fun l x hl hx hv => by
        have := h2.1.1.1.2; rw [hl, hx] at this; simp at this hv ⊢; omega,
      all_override _ b.length _ fun l x hl hx hv => by
        have := h2.1.1.1.1.1.2; rw [hl, hx] at this; simp at this hv ⊢; omega]
  simp only [Bool.and_assoc, Bool.and_left_comm]

theorem enumPart_inheritS (hcmp : ∀ a e c, cmp a e = 0 → cmp a c = cmp e c) (b t : Step V) (v : V)
    (h2 : inspectFacetBaseS cmp len b t = true) :
    enumPart cmp (inheritFacetS b t) v = (enumPart cmp b v && enumPart cmp t v) := by
  refine enumPart_override cmp hcmp b t _ v rfl fun es hes e hmem => ?_
  unfold inspectFacetBaseS at h2
  simp only [Bool.and_eq_true] at h2
  have h := h2.2
  rw [hes] at h
  have hb : checkString cmp len b e = true := List.all_eq_true.mp h e hmem
  rw [checkString_parts, Bool.and_eq_true] at hb
  exact hb.2

theorem step_conj_S (hcmp : ∀ a e c, cmp a e = 0 → cmp a c = cmp e c) (b t : Step V) (v : V)
    (h2 : inspectFacetBaseS cmp len b t = true) :
    checkString cmp len (inheritFacetS b t) v = (checkString cmp len b v && checkString cmp len t v) := by
  rw [checkString_parts, checkString_parts cmp len b, checkString_parts cmp len t, lenPart_inherit cmp len b t v h2,
    enumPart_inheritS cmp len hcmp b t v h2]
  simp only [Bool.and_assoc, Bool.and_left_comm]

theorem chain_conj_S (hcmp : ∀ a e c, cmp a e = 0 → cmp a c = cmp e c) (steps : List (Step V)) :
    ∀ base : Step V, validFromS cmp len base steps = true → ∀ v,
      checkString cmp len (effectiveS base steps) v =
        (checkString cmp len base v && steps.all (fun s => checkString cmp len s v)) := by
  induction steps with
  | nil => intro base _ v; simp [effectiveS]
  | cons t r ih =>
    intro base hv v
    unfold validFromS at hv
    simp only [Bool.and_eq_true] at hv
    unfold effectiveS at ih ⊢
    rw [List.foldl_cons, ih (inheritFacetS base t) hv.2 v, step_conj_S cmp len hcmp base t v hv.1.2, List.all_cons,
      Bool.and_assoc]

/-- The member loop is the loop of `List.findIdx?`, index argument included. -/
theorem unionCheck_eq (members : List (List Nat → Bool)) (s : List Nat) :
    unionCheck members s = members.findIdx? (fun m => m s) := by
  have go : ∀ ms i, unionCheck.go s ms i = List.findIdx?.go (fun m => m s) ms i := fun ms => by
    induction ms with
    | nil => intro _; rfl
    | cons m r ih => intro i; unfold unionCheck.go List.findIdx?.go; rw [ih]
  exact go members 0

def intCmp (a b : Int) : Int := if a < b then -1 else if b < a then 1 else 0

theorem intCmp_cases (a b : Int) :
    (a < b ∧ intCmp a b = -1) ∨ (a = b ∧ intCmp a b = 0) ∨ (b < a ∧ intCmp a b = 1) := by
  unfold intCmp
  by_cases h1 : a < b
  · rw [if_pos h1]; exact Or.inl ⟨h1, rfl⟩
  · by_cases h2 : b < a
    · rw [if_neg h1, if_pos h2]; exact Or.inr (Or.inr ⟨h2, rfl⟩)
    · rw [if_neg h1, if_neg h2]; exact Or.inr (Or.inl ⟨by omega, rfl⟩)

/-- A comparison that, on any three values, is that of some three integers satisfies the laws. -/
theorem OrderLaws.of_int {cmp : V → V → Int}
    (h : ∀ a b c, ∃ p q r, cmp a b = intCmp p q ∧ cmp b c = intCmp q r ∧ cmp a c = intCmp p r) : OrderLaws cmp := by
  have h3 : ∀ a b c, ∃ p q r, _ ∧ _ ∧ _ := fun a b c =>
    let ⟨p, q, r, e1, e2, e3⟩ := h a b c
    ⟨p, q, r, e1 ▸ intCmp_cases p q, e2 ▸ intCmp_cases q r, e3 ▸ intCmp_cases p r⟩
  exact {
    total := fun a b => by obtain ⟨p, q, r, h⟩ := h3 a b b; omega
    le_trans := fun a b c => by obtain ⟨p, q, r, h⟩ := h3 a b c; omega
    lt_of_le_of_lt := fun a b c => by obtain ⟨p, q, r, h⟩ := h3 a b c; omega
    lt_of_lt_of_le := fun a b c => by obtain ⟨p, q, r, h⟩ := h3 a b c; omega
    ge_trans := fun a b c => by obtain ⟨p, q, r, h⟩ := h3 a b c; omega
    gt_of_ge_of_gt := fun a b c => by obtain ⟨p, q, r, h⟩ := h3 a b c; omega
    gt_of_gt_of_ge := fun a b c => by obtain ⟨p, q, r, h⟩ := h3 a b c; omega
    congr := fun a b c => by obtain ⟨p, q, r, h⟩ := h3 a b c; omega }

theorem intLaws : OrderLaws intCmp := .of_int fun a b c => ⟨a, b, c, rfl, rfl, rfl⟩

open XV.Spec.Decimal XV.Lemmas.Decimal in
def decCmp (a b : Int × Nat) : Int := ordInt (cmpSpec a b)

open XV.Spec.Decimal XV.Lemmas.Decimal in
theorem decCmp_scaled (a b : Int × Nat) (n : Nat) (ha : a.2 ≤ n) (hb : b.2 ≤ n) :
    decCmp a b = intCmp (a.1 * 10 ^ (n - a.2)) (b.1 * 10 ^ (n - b.2)) := by
  unfold decCmp
  rw [← cmpSpec_scaleUp a b (n - a.2) (n - b.2)]
  unfold cmpSpec scaleUp intCmp
  simp only [show a.2 + (n - a.2) = n by omega, show b.2 + (n - b.2) = n by omega, Int.mul_lt_mul_right (pow10_pos n)]
  split
  · rfl
  · split <;> rfl

theorem decLaws : OrderLaws decCmp := .of_int fun a b c =>
  -- the three decimals written with `a.2 + b.2 + c.2` fraction digits each
  ⟨_, _, _, decCmp_scaled a b (a.2 + b.2 + c.2) (by omega) (by omega), decCmp_scaled b c _ (by omega) (by omega),
    decCmp_scaled a c _ (by omega) (by omega)⟩

end XV.Lemmas.Facets
