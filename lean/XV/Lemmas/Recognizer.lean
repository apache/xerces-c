/- The text that the prefix tables of XMLRecognizer spell in each encoding family; what is proved about the probe itself
is evaluation and stands in Props/C05. -/
import XV.Model.Recognizer
namespace XV.Lemmas.Recognizer

/-- `<?xml ` -/
def declText : List Nat := [0x3C, 0x3F, 0x78, 0x6D, 0x6C, 0x20]

end XV.Lemmas.Recognizer
