/- For C12, whole trees: C03's `infoset` of the serializer's concrete syntax tree, seen as a DOM (XV.Spec.DomView), is the
content of the original tree.  `Ev` says of a run of written tokens what the DOM sees of its events (`rawN`: before coalescing)
and that no CR is remembered after it; such runs concatenate, so a tree is dealt with token by token (`Ev.tok`, `ev_node`).
No token written ends in a CR and no line end other than LF stands literally, so line-end handling does nothing; a reference is
reported as its character; of white space only the space stands literally in an attribute value.  Coalescing then forgets
where Text and CDATA nodes were divided (`coal_node`). -/
import XV.Lemmas.TreeWF
import XV.Lemmas.Infoset
import XV.Spec.DomView
namespace XV.Lemmas.TreeInfoset
open XV.Model.TreeSyntax XV.Model.Formatter XV.Spec.Escaping
open XV.Lemmas.TreeUnits XV.Lemmas.TreeScan XV.Lemmas.TreeOut XV.Lemmas.TreeWF XV.Lemmas.Formatter
open XV.Spec.Xml XV.Spec.Infoset XV.Spec.DomView
open XV.Lemmas.Infoset (feed_append contentEvents_append ignPush_toksL renderToks_append clean eolFrom_of_clean nel_ls_iff)

theorem eolStep_plain (v11 : Bool) (c : Char) (h : clean v11 [c]) : eolStep v11 false c = (some c, false) := by
  obtain ⟨h1, h2⟩ := h c (.head _)
  rw [eolStep, if_neg (by simpa using h1), if_neg (by simp), Bool.and_comm, (nel_ls_iff v11 c).2 h2, if_neg Bool.false_ne_true]

theorem clean_of_noLineEnd {v11 : Bool} {s : Str} (h : noLineEnd v11 s = true) : clean v11 s := fun c hc => by
  have := List.all_eq_true.1 h c hc
  rw [Bool.and_eq_true, bne_iff_ne, Bool.not_eq_true', Bool.and_comm] at this
  exact ⟨this.1, (nel_ls_iff v11 c).1 this.2⟩

theorem eolStep_snd (v11 p : Bool) (c : Char) : (eolStep v11 p c).2 = (c == XV.Spec.Infoset.chCR) := by
  unfold eolStep
  by_cases h1 : (c == XV.Spec.Infoset.chCR) = true
  · simp [h1]
  · have h1' : (c == XV.Spec.Infoset.chCR) = false := by simpa using h1
    simp only [h1', Bool.false_eq_true, if_false]
    split
    · rfl
    · split <;> rfl

theorem step_prevCR (v11 : Bool) (st : LineSt) (c : Char) : (st.step v11 c).prevCR = (c == XV.Spec.Infoset.chCR) := by
  unfold LineSt.step
  have := eolStep_snd v11 st.prevCR c
  cases h : eolStep v11 st.prevCR c with
  | mk a b =>
    rw [h] at this
    cases a <;> simp_all

theorem last_append (s t : Str) (x : Char) (h : t.getLast? = some x) : (s ++ t).getLast? = some x := by
  rw [List.getLast?_append, h]; rfl

theorem feed_last (v11 : Bool) (st : LineSt) (s : Str) (c : Char) (hs : s.getLast? = some c)
    (hc : c ≠ XV.Spec.Infoset.chCR) : (st.feed v11 s).prevCR = false := by
  obtain ⟨p, rfl⟩ := List.getLast?_eq_some_iff.1 hs
  rw [feed_append]
  simp only [LineSt.feed, step_prevCR]
  simpa using hc

theorem toksL_singleton (n : Node) : Node.toksL [n] = n.toks := by rw [Node.toksL, Node.toksL, List.append_nil]

theorem viewL_append (a b : List Event) : viewL (a ++ b) = viewL a ++ viewL b := by simp [viewL]

/-- the DOM keeps white space in element content as character data: what it sees of a token does not depend on the flag -/
theorem viewL_tokEvents (cx : Ctx) (ex : Str → Nat → List Event) (ext ign : Bool) (st : LineSt) (t : Tok) :
    viewL (tokEvents cx ex ext ign st t) = viewL (tokEvents cx ex ext false st t) := by
  cases t with
  | leaf l =>
    cases l with
    | ch c =>
      simp only [tokEvents]
      split
      · split <;> rfl
      · rfl
    | _ => rfl
  | _ => rfl

/-! the context of the documents `toDoc` builds -/

structure CxOK (cx : Ctx) (cfg : Cfg) : Prop where
  v11 : cx.v11 = cfg.xml11
  env : cx.env = []
  decls : cx.decls = []
  depth : cx.depth = 1
  /-- the repaired inEscapeList (NEL and LSEP escaped under XML 1.1) — the code as it is now -/
  eol : cfg.xml11 = true → cfg.eolFix = true

/-- a character written literally (not escaped, and not CR, which both rows hold) is no line end -/
theorem unesc_plain (cfg : Cfg) (heol : cfg.xml11 = true → cfg.eolFix = true) {esc : EscapeFlags} (hne : esc ≠ .NoEscapes)
    (c : Char) (h : escd cfg esc c.toNat = false) (h13 : c.toNat ≠ 13) : clean cfg.xml11 [c] :=
  List.forall_mem_singleton.2 ⟨fun e => h13 (by rw [e]; rfl), fun hx =>
    have := (not_escaped cfg hne _ h).2 hx (heol hx)
    ⟨fun e => this.1 (by rw [e]; rfl), fun e => this.2 (by rw [e]; rfl)⟩⟩

/-- nothing to normalise in a written attribute value: a reference clears the memory of a CR, and a character written
as it stands is no line end -/
theorem eolPieces_attval (cfg : Cfg) (heol : cfg.xml11 = true → cfg.eolFix = true) (v : Str) :
    eolPieces cfg.xml11 false (v.map (attPiece cfg)) = v.map (attPiece cfg) := by
  induction v with
  | nil => rfl
  | cons c t ih =>
    rw [List.map_cons]
    cases h : escd cfg .AttrEscapes c.toNat with
    | true =>
      rw [show attPiece cfg c = refPiece c from if_pos h]
      rcases ref_cases c with ⟨p, _, _, _, hr⟩ | ⟨_, hr, _⟩ <;> rw [hr, eolPieces, ih]
    | false =>
      rw [show attPiece cfg c = .ch c from if_neg (h ▸ Bool.false_ne_true), eolPieces,
        eolStep_plain _ c (unesc_plain cfg heol (by decide) c h (notEsc_attr cfg _ h).2.2.2.2.1), ih]

theorem step3_append (a b : List VTok) : step3 (a ++ b) = step3 a ++ step3 b := by
  induction a with
  | nil => rfl
  | cons x t ih => cases x <;> simp [step3, ih]

theorem valToks_attPiece (env : EntEnv) (v11 : Bool) (d : Nat) (cfg : Cfg) (c : Char) :
    step3 (valToks env v11 (d + 1) [attPiece cfg c]) = [c] := by
  unfold attPiece
  cases h : escd cfg .AttrEscapes c.toNat with
  | true =>
    rw [if_pos rfl]
    rcases ref_cases c with ⟨p, hp, rfl, _, hr⟩ | ⟨_, hr, _⟩
    · simp only [hr, valToks, List.flatMap_cons, List.flatMap_nil, List.append_nil,
        (by decide : ∀ p ∈ stdNames, predefChar p.2 = some p.1) p hp, step3]
    · have hr' := char_range c
      simp only [hr, valToks, List.flatMap_cons, List.flatMap_nil, List.append_nil, step3,
        value_hexRef _ (show c.toNat < 18446744073709551616 by omega), Char.ofNat_toNat]
  | false =>
    have hn := notEsc_attr cfg _ h
    -- of the white space characters only the space itself is written as it stands
    have hws : (if isWs c = true then ' ' else c) = c := by
      split
      · rename_i hw
        simp only [isWs, Bool.or_eq_true, beq_char_nat, beq_iff_eq, Char.reduceToNat] at hw
        exact Char.toNat_inj.1 (show (' ' : Char).toNat = c.toNat by simp only [Char.reduceToNat]; omega)
      · rfl
    simp only [Bool.false_eq_true, if_false, valToks, List.flatMap_cons, List.flatMap_nil, List.append_nil, step3, hws]

theorem valToks_cons (env : EntEnv) (v11 : Bool) (d : Nat) (p : AttPiece) (ps : List AttPiece) :
    valToks env v11 (d + 1) (p :: ps) = valToks env v11 (d + 1) [p] ++ valToks env v11 (d + 1) ps := by
  simp [valToks]

theorem attval_back (env : EntEnv) (v11 : Bool) (d : Nat) (cfg : Cfg) (v : Str) :
    step3 (valToks env v11 (d + 1) (v.map (attPiece cfg))) = v := by
  induction v with
  | nil => rfl
  | cons c t ih =>
    rw [List.map_cons, valToks_cons, step3_append, valToks_attPiece, ih]; rfl

theorem tagAttrs_toAttrs (cx : Ctx) (cfg : Cfg) (hcx : CxOK cx cfg) (n : Str) (as : List (Str × Str)) :
    (tagAttrs cx true ⟨n, toAttrs cfg as, []⟩).map (fun a => (a.name, a.value)) = as := by
  have hd : attDefsFor cx.decls n = [] := by rw [hcx.decls]; rfl
  simp only [tagAttrs, hd, findAttDef, List.find?_nil, firstDefs, List.filterMap_nil, List.append_nil, if_true, List.map_map]
  induction as with
  | nil => rfl
  | cons a t ih =>
    simp only [toAttrs, List.map_cons, ih, List.cons.injEq, and_true]
    simp only [Function.comp, toAttr, normValue, hcx.v11, hcx.depth, eolPieces_attval cfg hcx.eol]
    have : isCDataType kwCDATA = true := by decide
    simp only [attNorm, this, if_true, attval_back]

/-- what `contentEvents` reports for the tokens of one tree node, before coalescing -/
def rawCdata (v : Str) : List CEv := (splitFixedC v []).flatMap (fun p => if p = [] then [] else [CEv.chars p])

mutual
def rawN : CNode → List CEv
  | .elem n as kids => .start n as :: (rawL kids ++ [.end_ n])
  | .text v => v.map (fun c => CEv.chars [c])
  | .cdata v => rawCdata v
  | .comment v => [.comment v]
  | .pi t d => [.pi t d]
def rawL : List CNode → List CEv
  | [] => []
  | n :: t => rawN n ++ rawL t
end

/-- a run of tokens after which the "last character was a CR" memory is clear and whose events are seen in the DOM as
`raw`.  Such runs concatenate (`Ev.append`), so what is written for a tree is dealt with token by token (`Ev.tok`).
Whatever the stack of element-content flags: the DOM does not see them (`viewL_tokEvents`). -/
def Ev (cx : Ctx) (ex : Str → Nat → List Event) (ts : List Tok) (raw : List CEv) : Prop :=
  ∀ (stack : List Bool) (st : LineSt), st.prevCR = false →
    viewL (contentEvents cx ex true stack st ts) = raw ∧ (st.feed cx.v11 (renderToks ts)).prevCR = false

section
variable {cx : Ctx} {ex : Str → Nat → List Event}

theorem Ev.nil : Ev cx ex [] [] := fun _ _ hp => ⟨rfl, hp⟩

theorem Ev.append {a b : List Tok} {ra rb : List CEv} (ha : Ev cx ex a ra) (hb : Ev cx ex b rb) :
    Ev cx ex (a ++ b) (ra ++ rb) := fun stack st hp => by
  have h1 := ha stack st hp
  rw [contentEvents_append, if_pos rfl, viewL_append, h1.1, renderToks_append, feed_append]
  exact ⟨congrArg _ (hb _ _ h1.2).1, (hb stack _ h1.2).2⟩

theorem Ev.tok (t : Tok) (raw : List CEv) (x : Char) (hx : x ≠ XV.Spec.Infoset.chCR) (hr : (renderTok t).getLast? = some x)
    (hv : ∀ st : LineSt, st.prevCR = false → viewL (tokEvents cx ex true false st t) = raw) :
    Ev cx ex [t] raw := fun stack st hp => by
  rw [contentEvents, contentEvents, renderToks, renderToks, List.append_nil, List.append_nil, viewL_tokEvents]
  exact ⟨hv st hp, feed_last _ _ _ x hr hx⟩

theorem Ev.leaves {α : Type} (f : α → Leaf) (g : α → List CEv) (l : List α) (h : ∀ a ∈ l, Ev cx ex [.leaf (f a)] (g a)) :
    Ev cx ex (Node.toksL (l.map fun a => Node.leaf (f a))) (l.flatMap g) := by
  induction l with
  | nil => exact Ev.nil
  | cons a r ih => exact (h a (List.mem_cons_self ..)).append (ih fun b hb => h b (List.mem_cons_of_mem _ hb))

end

theorem refLeaf_ev (cx : Ctx) (ex : Str → Nat → List Event) (c : Char) : Ev cx ex [.leaf (refLeaf c)] [CEv.chars [c]] := by
  rcases ref_cases c with ⟨p, hp, rfl, hr, _⟩ | ⟨hr, _⟩
  · rw [hr]
    refine Ev.tok _ _ ';' (by decide) (last_append _ _ _ rfl) fun st _ => ?_
    simp only [tokEvents, (by decide : ∀ p ∈ stdNames, predefChar p.2 = some p.1) p hp]; rfl
  · have hr' := char_range c
    rw [hr]
    refine Ev.tok _ _ ';' (by decide) (last_append _ _ _ rfl) fun st _ => ?_
    simp only [tokEvents, viewL, List.filterMap_cons, List.filterMap_nil, viewOne,
      value_hexRef _ (show c.toNat < 18446744073709551616 by omega), Char.ofNat_toNat]

theorem textLeaf_ev (cx : Ctx) (cfg : Cfg) (hcx : CxOK cx cfg) (ex : Str → Nat → List Event) (c : Char) :
    Ev cx ex [.leaf (textLeaf cfg c)] [CEv.chars [c]] := by
  unfold textLeaf
  cases h : escd cfg .CharEscapes c.toNat with
  | true => exact refLeaf_ev cx ex c
  | false =>
    have hpl := unesc_plain cfg hcx.eol (by decide) c h (notEsc_char cfg _ h).2.2.2
    refine Ev.tok _ _ c (hpl c (.head _)).1 rfl fun st hp => ?_
    simp only [tokEvents, if_true, hp, hcx.v11, eolStep_plain _ c hpl, Bool.false_and, Bool.false_eq_true, if_false, viewL,
      List.filterMap_cons, List.filterMap_nil, viewOne]

theorem cdata_ev (cx : Ctx) (ex : Str → Nat → List Event) (p : Str) (h : clean cx.v11 p) :
    Ev cx ex [.leaf (.cdata p)] (if p = [] then [] else [CEv.chars p]) := by
  refine Ev.tok _ _ '>' (by decide) (last_append _ _ _ rfl) fun st _ => ?_
  simp only [tokEvents, if_true, eol, eolFrom_of_clean cx.v11 p h]
  split <;> rfl

theorem stag_ev {cx : Ctx} (ex : Str → Nat → List Event) {cfg : Cfg} (hcx : CxOK cx cfg) (n : Str) (as : List (Str × Str)) :
    Ev cx ex [.stag ⟨n, toAttrs cfg as, []⟩] [.start n as] :=
  Ev.tok _ _ '>' (by decide) (last_append _ _ _ rfl) fun st _ => by
    simp only [tokEvents, viewL, List.filterMap_cons, List.filterMap_nil, viewOne, tagAttrs_toAttrs cx cfg hcx n as]

theorem empty_ev {cx : Ctx} (ex : Str → Nat → List Event) {cfg : Cfg} (hcx : CxOK cx cfg) (n : Str) (as : List (Str × Str)) :
    Ev cx ex [.empty ⟨n, toAttrs cfg as, []⟩] [.start n as, .end_ n] :=
  Ev.tok _ _ '>' (by decide) (last_append _ _ _ rfl) fun st _ => by
    simp only [tokEvents, viewL, List.filterMap_cons, List.filterMap_nil, viewOne, tagAttrs_toAttrs cx cfg hcx n as]

theorem etag_ev (cx : Ctx) (ex : Str → Nat → List Event) (n : Str) : Ev cx ex [.etag n []] [.end_ n] :=
  Ev.tok _ _ '>' (by decide) (last_append _ _ _ rfl) fun _ _ => rfl

mutual
theorem ev_node (cx : Ctx) (cfg : Cfg) (hcx : CxOK cx cfg) (ex : Str → Nat → List Event) :
    (n : CNode) → okNode cfg.xml11 n = true → Ev cx ex (Node.toksL (toNodes cfg n)) (rawN n)
  | .text v, _ => by
    rw [toNodes, rawN, List.map_eq_flatMap (f := fun c => CEv.chars [c])]
    exact Ev.leaves (textLeaf cfg) _ v fun c _ => textLeaf_ev cx cfg hcx ex c
  | .cdata v, h => by
    simp only [okNode, Bool.and_eq_true] at h
    rw [toNodes]
    exact Ev.leaves Leaf.cdata _ _ fun p hp => cdata_ev cx ex p (hcx.v11 ▸ clean_of_noLineEnd (pieces_all _ v h.2 p hp))
  | .comment v, h => by
    refine Ev.tok _ _ '>' (by decide) (last_append _ _ _ rfl) fun st _ => ?_
    simp only [tokEvents, if_true, eol, eolFrom_of_clean cx.v11 v (hcx.v11 ▸ clean_of_noLineEnd (okNode_comment h).2.1), viewL, List.filterMap_cons,
      List.filterMap_nil, viewOne, rawN]
  | .pi t d, h => by
    refine Ev.tok _ _ '>' (by decide) (last_append _ _ _ rfl) fun st _ => ?_
    simp only [tokEvents, if_true, eol, eolFrom_of_clean cx.v11 d (hcx.v11 ▸ clean_of_noLineEnd (okNode_pi h).2.2.2.1), viewL, List.filterMap_cons,
      List.filterMap_nil, viewOne, rawN]
  | .elem n as kids, h => by
    rw [toNodes, toksL_singleton]
    cases kids with
    | nil => exact empty_ev ex hcx n as
    | cons k ks => exact (stag_ev ex hcx n as).append ((ev_toNodesL cx cfg hcx ex (k :: ks) (okNode_elem h).2.2.2).append (etag_ev cx ex n))
theorem ev_toNodesL (cx : Ctx) (cfg : Cfg) (hcx : CxOK cx cfg) (ex : Str → Nat → List Event) :
    (ns : List CNode) → okNodes cfg.xml11 ns = true → Ev cx ex (Node.toksL (toNodesL cfg ns)) (rawL ns)
  | [], _ => Ev.nil
  | n :: t, h => by
    simp only [okNodes, Bool.and_eq_true] at h
    rw [toNodesL, toksL_append]
    exact (ev_node cx cfg hcx ex n h.1).append (ev_toNodesL cx cfg hcx ex t h.2)
end

def stackOK (stack : List Bool) : Prop := stack.head?.getD false = false

def feedToks (v11 : Bool) (st : LineSt) : List Tok → LineSt
  | [] => st
  | t :: ts => feedToks v11 (st.feed v11 (renderTok t)) ts

def stackToks (cx : Ctx) (stack : List Bool) : List Tok → List Bool
  | [] => stack
  | t :: ts => stackToks cx (ignPush cx stack t) ts

theorem feedToks_eq (v11 : Bool) (ts : List Tok) : ∀ st : LineSt, feedToks v11 st ts = st.feed v11 (renderToks ts) := by
  induction ts with
  | nil => exact fun _ => rfl
  | cons t ts ih => intro st; rw [feedToks, ih, renderToks, feed_append]

theorem stackToks_eq (cx : Ctx) (ts : List Tok) : ∀ stack, stackToks cx stack ts = ts.foldl (ignPush cx) stack := by
  induction ts with
  | nil => exact fun _ => rfl
  | cons t ts ih => intro stack; rw [stackToks, ih, List.foldl_cons]

/-- `ev_toNodesL` with the line state and the stack after the run written as folds of their own.  `stackOK stack` (not directly
inside element content) is not needed: `Ev` holds whatever the stack. -/
theorem ev_nodes (cx : Ctx) (cfg : Cfg) (hcx : CxOK cx cfg) (ex : Str → Nat → List Event) :
    (ns : List CNode) → okNodes cfg.xml11 ns = true → ∀ (stack : List Bool) (st : LineSt), stackOK stack → st.prevCR = false →
      viewL (contentEvents cx ex true stack st (Node.toksL (toNodesL cfg ns))) = rawL ns ∧
      (feedToks cx.v11 st (Node.toksL (toNodesL cfg ns))).prevCR = false ∧
      stackToks cx stack (Node.toksL (toNodesL cfg ns)) = stack := fun ns h stack st _ hp =>
  have hev := ev_toNodesL cx cfg hcx ex ns h stack st hp
  ⟨hev.1, (feedToks_eq ..).symm ▸ hev.2, (stackToks_eq ..).trans (ignPush_toksL ..)⟩

theorem prepend_nil (Y : List CEv) : prependChars [] Y = Y := by
  cases Y with
  | nil => rfl
  | cons e r => cases e <;> simp [prependChars]

theorem prepend_assoc (s s' : Str) (Y : List CEv) : prependChars s (prependChars s' Y) = prependChars (s ++ s') Y := by
  cases Y with
  | nil => by_cases h' : s' = [] <;> simp [prependChars, h']
  | cons e r => cases e <;> by_cases h' : s' = [] <;> simp [prependChars, h']

theorem coalesce_chars (s : Str) (X : List CEv) : coalesce (.chars s :: X) = prependChars s (coalesce X) := rfl

theorem coalesce_charList (v : Str) (X : List CEv) :
    coalesce (v.map (fun c => CEv.chars [c]) ++ X) = prependChars v (coalesce X) := by
  induction v with
  | nil => simp [prepend_nil]
  | cons c t ih =>
    simp only [List.map_cons, List.cons_append, coalesce_chars, ih, prepend_assoc]
    rfl

theorem coalesce_pieces (ps : List Str) (X : List CEv) :
    coalesce (ps.flatMap (fun p => if p = [] then [] else [CEv.chars p]) ++ X) = prependChars ps.flatten (coalesce X) := by
  induction ps with
  | nil => simp [prepend_nil]
  | cons p r ih =>
    simp only [List.flatMap_cons, List.flatten_cons, List.append_assoc]
    by_cases hp : p = []
    · subst hp; simpa using ih
    · simp only [hp, if_false, List.cons_append, List.nil_append, coalesce_chars, ih, prepend_assoc]

theorem coalesce_congr (A B B' : List CEv) (h : coalesce B = coalesce B') : coalesce (A ++ B) = coalesce (A ++ B') := by
  induction A with
  | nil => exact h
  | cons e t ih => cases e <;> simp [coalesce, ih]

mutual
theorem coal_node : (n : CNode) → ∀ (X : List CEv), coalesce (rawN n ++ X) = coalesce (treeRaw n ++ X)
  | .text v, X => by simp only [rawN, treeRaw, coalesce_charList, List.cons_append, List.nil_append, coalesce_chars]
  | .cdata v, X => by
    simp only [rawN, rawCdata, treeRaw, coalesce_pieces, List.cons_append, List.nil_append, coalesce_chars, splitFixedC_flatten,
      List.nil_append]
  | .comment v, _ => rfl
  | .pi t d, _ => rfl
  | .elem n as kids, X => by
    simp only [rawN, treeRaw, List.cons_append, coalesce, List.append_assoc]
    have := coal_nodes kids (CEv.end_ n :: ([] ++ X))
    rw [this]
theorem coal_nodes : (ns : List CNode) → ∀ (X : List CEv), coalesce (rawL ns ++ X) = coalesce (treeRawL ns ++ X)
  | [], _ => rfl
  | n :: t, X => by
    simp only [rawL, treeRawL, List.append_assoc]
    rw [coal_node n (rawL t ++ X)]
    exact coalesce_congr _ _ _ (coal_nodes t X)
end

theorem domView_mergeChars (X : List Event) : domView (mergeChars X) = domView X := by
  induction X with
  | nil => rfl
  | cons e t ih =>
    cases e with
    | characters s | ignorableWhitespace s =>
      show _ = prependChars s (domView t)
      rw [← ih]; simp only [mergeChars]
      split
      · rename_i s' r heq; rw [heq]; exact (prepend_assoc s s' _).symm
      · split
        · rename_i hs; rw [hs, prepend_nil]
        · rfl
    | _ => simpa only [mergeChars, domView, viewL, List.filterMap_cons, viewOne, coalesce, List.cons.injEq, true_and] using ih

theorem cxOK_toDoc (cfg : Cfg) (xd : Bool) (enc n : Str) (as : List (Str × Str)) (kids : List CNode)
    (hc : okDocCfg cfg xd enc = true) (heol : cfg.xml11 = true → cfg.eolFix = true) :
    CxOK (docCtx (toDoc cfg xd enc n as kids)) cfg := by
  refine ⟨?_, rfl, rfl, rfl, heol⟩
  rw [docCtx, version_toDoc cfg xd enc n as kids hc]; cases cfg.xml11 <;> rfl

theorem viewL_rawEvents (d : Doc) (hpre : d.pre = []) (hdt : d.doctype = none) (hpost : d.post = []) :
    viewL (rawEvents d) = viewL (xmlDeclEvents d) ++ viewL (contentEvents (docCtx d) (expandEntity (docCtx d) (docCtx d).depth) true []
      (LineSt.init.feed (docCtx d).v11 (declText d)) d.root.toks) := by
  simp [rawEvents, hpre, hdt, hpost, miscEvents, renderLeaves, LineSt.feed, viewL, List.filterMap_cons, viewOne]

theorem domView_toDoc (cfg : Cfg) (xd : Bool) (enc n : Str) (as : List (Str × Str)) (kids : List CNode)
    (hc : okDocCfg cfg xd enc = true) (heol : cfg.xml11 = true → cfg.eolFix = true)
    (hok : okNode cfg.xml11 (.elem n as kids) = true) :
    domView (infoset (toDoc cfg xd enc n as kids)) = treeView (.elem n as kids) := by
  have hst0 : (LineSt.init.feed (docCtx (toDoc cfg xd enc n as kids)).v11 (declText (toDoc cfg xd enc n as kids))).prevCR = false := by
    cases xd with
    | false => rfl
    | true =>
      refine feed_last _ _ _ '>' ?_ (by decide)
      rw [show declText (toDoc cfg true enc n as kids) = _ from render_toDecl cfg enc]; exact last_append _ _ _ rfl
  have hroot : (toDoc cfg xd enc n as kids).root.toks = Node.toksL (toNodes cfg (.elem n as kids)) := by
    simp [toDoc, toNodes, Node.toksL]
  have hx : viewL (xmlDeclEvents (toDoc cfg xd enc n as kids)) = [] := by cases xd <;> rfl
  rw [infoset, domView_mergeChars, domView, viewL_rawEvents _ rfl rfl rfl, hx, hroot,
    (ev_node _ cfg (cxOK_toDoc cfg xd enc n as kids hc heol) _ (.elem n as kids) hok [] _ hst0).1, treeView, List.nil_append,
    ← List.append_nil (rawN _), coal_node, List.append_nil]

end XV.Lemmas.TreeInfoset
