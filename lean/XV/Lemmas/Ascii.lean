/-
XMLASCIITranscoder, and the `narrowTo` it shares with XML88591Transcoder (XV.Model.ByteCodec), against XV.Spec.Ascii.
Decoding is told on a source cut in front of its first illegal byte (`Cut`): one equation for the loop of `asciiFrom`,
hence one for a call, and one for the stream of calls the reader makes (XV.Model.CodecStream).  `narrowTo` has a closed form.
-/
import XV.Model.CodecStream
import XV.Spec.Ascii
namespace XV.Lemmas.Ascii
open XV.Model.ByteCodec XV.Model.CodecStream XV.Spec.Ascii

theorem take_min_length (src : List Nat) (m : Nat) : src.take (min src.length m) = src.take m := by
  rw [Nat.min_comm, ← List.take_eq_take_min]

theorem asciiFrom_eq (src : List Nat) (m : Nat) : asciiFrom src m = asciiFrom.go (src.take m) [] := by
  unfold asciiFrom
  simp only [take_min_length]

theorem asciiFrom_take (src : List Nat) (blk m : Nat) : asciiFrom (src.take blk) m = asciiFrom src (min m blk) := by
  rw [asciiFrom_eq, asciiFrom_eq, List.take_take]

/-- `g` is the part of `g ++ r` that US-ASCII can read: what follows it, if anything, begins with an illegal byte.
The statements about decoding are about a source cut this way, and every source is (`cut`). -/
def Cut (g r : List Nat) : Prop := AllLegal g ∧ ∀ b ∈ r.head?, ¬ legal b

theorem Cut.nil {g : List Nat} (hg : AllLegal g) : Cut g [] := ⟨hg, nofun⟩

theorem Cut.cons {g : List Nat} {b : Nat} (hg : AllLegal g) (hb : ¬ legal b) (r : List Nat) : Cut g (b :: r) :=
  ⟨hg, fun _ h => by cases h; exact hb⟩

theorem cut (src : List Nat) : ∃ g r, src = g ++ r ∧ Cut g r := by
  rcases split src with h | ⟨g, b, r, rfl, hg, hb⟩
  · exact ⟨src, [], (List.append_nil _).symm, .nil h⟩
  · exact ⟨g, b :: r, rfl, .cons hg hb r⟩

theorem Cut.drop {g r : List Nat} (h : Cut g r) (e : Nat) : Cut (g.drop e) r :=
  ⟨fun x hx => h.1 x (List.mem_of_mem_drop hx), h.2⟩

theorem Cut.bad {g r : List Nat} (h : Cut g r) (hr : r ≠ []) : ¬ legal ((g ++ r).getD g.length 0) := by
  match r, hr, h.2 with
  | b :: _, _, hb =>
    rw [List.getD_eq_getElem?_getD, List.getElem?_append_right (Nat.le_refl _), Nat.sub_self]
    exact hb b rfl

theorem Cut.take {g r : List Nat} (h : Cut g r) (m : Nat) : Cut (g.take m) (r.take (m - g.length)) :=
  ⟨fun x hx => h.1 x (List.mem_of_mem_take hx), fun b hb => h.2 b (by
    rw [List.head?_take] at hb; split at hb; cases hb; exact hb)⟩

theorem go_cut : ∀ {g r : List Nat} (acc : List Nat), Cut g r → asciiFrom.go (g ++ r) acc =
    if r = [] ∨ 32 < (acc ++ g).length then .ok (acc ++ g) (List.replicate (acc ++ g).length 1) (acc ++ g).length
    else .exc "Trans_Unrepresentable"
  | [], [], acc, _ => by rw [if_pos (.inl rfl), List.append_nil acc]; rfl
  | [], b :: r, acc, h => by
    have hb : ¬ b < 0x80 := h.2 b rfl
    rw [List.nil_append, asciiFrom.go, if_neg hb, List.append_nil]
    simp only [List.cons_ne_nil, false_or, gt_iff_lt]
  | a :: g, r, acc, h => by
    have ha : a < 0x80 := h.1 a List.mem_cons_self
    rw [List.cons_append, asciiFrom.go, if_pos ha, go_cut (g := g) _ (h.drop 1), List.append_assoc, List.singleton_append]

theorem asciiFrom_cut {g r : List Nat} (h : Cut g r) (m : Nat) : asciiFrom (g ++ r) m =
    if (m ≤ g.length ∨ r = []) ∨ 32 < g.length
    then .ok (g.take (min m g.length)) (List.replicate (min m g.length) 1) (min m g.length)
    else .exc "Trans_Unrepresentable" := by
  rw [asciiFrom_eq, List.take_append, go_cut [] (h.take m), List.nil_append, List.length_take, ← List.take_eq_take_min]
  simp only [List.take_eq_nil_iff, Nat.sub_eq_zero_iff_le]
  -- the loop counts the `min m |g|` characters done; where that is not `|g|` the room has ended the call
  by_cases hm : m ≤ g.length
  · rw [if_pos (.inl (.inl hm)), if_pos (.inl (.inl hm))]
  · rw [Nat.min_eq_right (Nat.le_of_not_le hm)]

theorem stream_cut (blk m : Nat) (hm : 1 ≤ m) (hblk : 1 ≤ blk) : ∀ (fuel : Nat) (g r out : List Nat) (pos : Nat),
    Cut g r → g.length < fuel →
    ∃ k, k ≤ g.length ∧ g.length ≤ k + 32 ∧ stream asciiFrom blk m fuel (g ++ r) out pos =
      if r = [] then .done (out ++ g) else .exc (out ++ g.take k) (pos + k) "Trans_Unrepresentable"
  | fuel + 1, g, r, out, pos, hc, hf => by
    rw [stream]
    by_cases hnil : g ++ r = []
    · obtain ⟨rfl, rfl⟩ := List.append_eq_nil_iff.1 hnil
      exact ⟨0, Nat.le_refl _, Nat.zero_le _, by rw [if_pos hnil, if_pos rfl, List.append_nil]⟩
    rw [if_neg hnil, asciiFrom_take, asciiFrom_cut hc]
    by_cases hstop : (min m blk ≤ g.length ∨ r = []) ∨ 32 < g.length
    · -- a call that returns has eaten something: with `g` empty it would have thrown
      have he : min (min m blk) g.length ≠ 0 := fun h => by
        have h0 : g = [] := List.eq_nil_of_length_eq_zero (by omega)
        subst h0
        exact hnil (hstop.elim (·.elim (by omega) id) (nomatch ·))
      have hle : min (min m blk) g.length ≤ g.length := Nat.min_le_right _ _
      simp only [if_pos hstop, if_neg he]
      generalize min (min m blk) g.length = e at he hle
      obtain ⟨k, hk1, hk2, hk3⟩ := stream_cut blk m hm hblk fuel (g.drop e) r (out ++ g.take e) (pos + e) (hc.drop e)
        (by rw [List.length_drop]; omega)
      rw [List.length_drop] at hk1 hk2
      refine ⟨e + k, by omega, by omega, ?_⟩
      rw [List.drop_append_of_le_length hle, hk3, List.append_assoc, List.append_assoc, List.take_append_drop, List.take_add,
        Nat.add_assoc]
    · rw [if_neg hstop]
      exact ⟨0, Nat.zero_le _, by omega, by rw [if_neg fun h => hstop (.inl (.inr h)), List.take_zero, List.append_nil]; rfl⟩

theorem narrow_go_eq (limit : Nat) (thr : Bool) (n : Nat) : ∀ (l acc : List Nat), narrowTo.go limit thr n l acc =
    if thr = true ∧ ∃ c ∈ l, ¬ c < limit then .exc "Trans_Unrepresentable"
    else .ok (acc ++ l.map fun c => if c < limit then c else 0x1A) [] n
  | [], acc => by simp [narrowTo.go]
  | c :: t, acc => by
    simp only [narrowTo.go, narrow_go_eq limit thr n t]
    by_cases hc : c < limit
    · simp [hc, Nat.not_le.2 hc]
    · cases thr <;> simp [hc]

theorem narrowTo_eq (limit : Nat) (src : List Nat) (mb : Nat) (thr : Bool) : narrowTo limit src mb thr =
    if thr = true ∧ ∃ c ∈ src.take mb, ¬ c < limit then .exc "Trans_Unrepresentable"
    else .ok ((src.take mb).map fun c => if c < limit then c else 0x1A) [] (min src.length mb) := by
  rw [narrowTo, take_min_length]
  exact narrow_go_eq ..

theorem narrowTo_good (limit : Nat) {src : List Nat} (mb : Nat) (thr : Bool) (h : ∀ c ∈ src, c < limit)
    (hm : src.length ≤ mb) : narrowTo limit src mb thr = .ok src [] src.length := by
  rw [narrowTo_eq, List.take_of_length_le hm, if_neg fun h' => h'.2.elim fun c hc => hc.2 (h c hc.1),
    List.map_congr_left fun c hc => if_pos (h c hc), List.map_id', Nat.min_eq_left hm]

end XV.Lemmas.Ascii
