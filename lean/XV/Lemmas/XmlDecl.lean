/- Round trip of the XML declaration (XV.Spec.Xml.Parse, `parseXmlDecl`).  The text after `<?xml` is `declBody`, put
   together from `pseudo`, `encPart` and `sdPart`, each of which takes what follows it as its last argument: the
   right-nested form of `renderXmlDecl d ++ rest` on which `simp only` can run the scanner. -/
import XV.Lemmas.XmlTree
namespace XV.Lemmas.Xml
open XV.Spec.Xml XV.Spec.XmlChar

theorem parsePseudoHead_iff {pre s : Str} {p : PseudoAtt} {X : Str} :
    parsePseudoHead pre s = some (p, X) ↔ p.pre = pre ∧ s = renderEq p.eq ++ p.q.char :: X ∧ lexEq p.eq = true := by
  constructor
  · fun_cases parsePseudoHead pre s
    case case3 e r h1 q r' h2 =>
      rintro ⟨⟩
      obtain ⟨rfl, he, -⟩ := parseEq_iff.mp h1
      exact ⟨rfl, congrArg _ (parseQuote_iff.mp h2), he⟩
    all_goals nofun
  · rintro ⟨rfl, rfl, h⟩
    simp only [parsePseudoHead, parseEq_iff.mpr ⟨rfl, h, quote_headNotS p.q X⟩, parseQuote_iff.mpr rfl]

theorem lexPseudo_iff (p : PseudoAtt) :
    lexPseudo p = true ↔ allS p.pre = true ∧ p.pre ≠ [] ∧ lexEq p.eq = true := by
  simp only [lexPseudo, Bool.and_eq_true, Bool.not_eq_true', List.isEmpty_eq_false_iff, and_assoc]

/-- `S name Eq quote value quote` followed by `rest` -/
def pseudo (p : PseudoAtt) (name value rest : Str) : Str :=
  p.pre ++ (name ++ (renderEq p.eq ++ p.q.char :: (value ++ p.q.char :: rest)))

theorem renderPseudo_append (p : PseudoAtt) (name value rest : Str) :
    renderPseudo p name value ++ rest = pseudo p name value rest := by
  simp only [renderPseudo, renderQuoted, pseudo, List.append_assoc, List.cons_append, List.nil_append]

theorem expectChar_iff {c : Char} {s t : Str} : expectChar c s = some t ↔ s = c :: t := by
  constructor
  · fun_cases expectChar c s
    case case2 => rintro ⟨⟩; rfl
    all_goals nofun
  · rintro rfl
    simp only [expectChar, if_true]

def sdValue (b : Bool) : Str := if b then ['y', 'e', 's'] else ['n', 'o']

/-- `SDDecl? S? '?>'` followed by `rest` -/
def sdPart : Option (PseudoAtt × Bool) → Str → Str → Str
  | none, ws, rest => ws ++ '?' :: '>' :: rest
  | some (p, b), ws, rest => pseudo p ['s', 't', 'a', 'n', 'd', 'a', 'l', 'o', 'n', 'e'] (sdValue b) (ws ++ '?' :: '>' :: rest)

def lexSd : Option (PseudoAtt × Bool) → Bool
  | none => true
  | some (p, _) => lexPseudo p

/-- after its white space the tail goes on with `s` or `?`, hence not with `encoding`: the test by which `parseXmlDecl`
    finds that there is no EncodingDecl -/
theorem sdPart_noEnc {sd : Option (PseudoAtt × Bool)} {ws : Str} (rest : Str) (hsd : lexSd sd = true) (hws : allS ws = true) :
    stripPrefix ['e', 'n', 'c', 'o', 'd', 'i', 'n', 'g'] (spanP isSC (sdPart sd ws rest)).2 = none := by
  cases sd with
  | none => exact congrArg (stripPrefix _ ·.2) (spanP_append hws (HeadNot.cons (by decide) : HeadNot isSC ('?' :: _)))
  | some pb =>
    exact congrArg (stripPrefix _ ·.2)
      (spanP_append ((lexPseudo_iff pb.1).mp hsd).1 (HeadNot.cons (by decide) : HeadNot isSC ('s' :: _)))

/-- `parseXmlDecl` calls `parseDeclTail` with the two halves of a `spanP isSC`, in both places -/
theorem parseDeclTail_iff {ver : PseudoAtt} {minor : Str} {enc : Option (PseudoAtt × Str)} {y : Str} {d : XmlDecl}
    {r : Str} : parseDeclTail ver minor enc (spanP isSC y).1 (spanP isSC y).2 = .ok (d, r) ↔
      d.version = ver ∧ d.versionMinor = minor ∧ d.encoding = enc ∧
      y = sdPart d.standalone d.ws r ∧ lexSd d.standalone = true ∧ allS d.ws = true := by
  constructor
  · have hy := (spanP_sound isSC y).1
    fun_cases parseDeclTail ver minor enc (spanP isSC y).1 (spanP isSC y).2
    -- `yes` and `no`: what follows the value is the Spec's local `fin`, which `fun_cases` leaves folded
    case case3 r0 h1 hwe p r1 h2 fin r2 h3 | case4 r0 h1 hwe p r1 h2 fin _ r2 h3 =>
      intro hf
      obtain ⟨hpre, rfl, heq⟩ := parsePseudoHead_iff.mp h2
      simp only [fin] at hf
      split at hf
      · cases hf
      next r3 e1 =>
      split at hf
      · cases hf
      next r4 e2 =>
      cases hf
      have hws : allS (spanP isSC r3).1 = true := spanP_fst_all isSC r3
      have t3 := (spanP_sound isSC r3).1
      rw [stripPrefix_iff.mp e2] at t3
      generalize (spanP isSC r3).1 = ws at hws t3 ⊢
      refine ⟨rfl, rfl, rfl, ?_, (lexPseudo_iff p).mpr ⟨hpre ▸ spanP_fst_all isSC y, hpre ▸ hwe, heq⟩, hws⟩
      rw [hy, stripPrefix_iff.mp h1, stripPrefix_iff.mp h3, expectChar_iff.mp e1, t3, ← hpre]
      simp only [sdPart, pseudo, sdValue, List.cons_append, List.nil_append, reduceIte, Bool.false_eq_true]
    case case7 _ r' h2 =>
      rintro ⟨⟩
      exact ⟨rfl, rfl, rfl, hy.trans (congrArg _ (stripPrefix_iff.mp h2)), rfl, spanP_fst_all isSC y⟩
    all_goals nofun
  · obtain ⟨ver', minor', enc', sd, ws⟩ := d
    rintro ⟨rfl, rfl, rfl, rfl, hsd, hws⟩
    dsimp only at hsd hws ⊢
    have hq := spanP_append (rest := '?' :: '>' :: r) hws (HeadNot.cons (by decide))
    cases sd with
    | none => simp only [sdPart, hq, parseDeclTail, stripPrefix, reduceIte, Char.reduceEq]
    | some pb =>
      obtain ⟨p, b⟩ := pb
      obtain ⟨hall, hne, heq⟩ := (lexPseudo_iff p).mp hsd
      have hsp : spanP isSC (sdPart (some (p, b)) ws r) = (p.pre, _) :=
        spanP_append hall (HeadNot.cons (by decide) : HeadNot isSC ('s' :: _))
      simp only [hsp, parseDeclTail, stripPrefix_iff.mpr rfl, if_neg hne, parsePseudoHead_iff.mpr ⟨rfl, rfl, heq⟩]
      cases b <;> simp only [sdValue, stripPrefix, expectChar, hq, List.cons_append, List.nil_append, reduceIte,
        Char.reduceEq, Bool.false_eq_true]

/-- `EncodingDecl?` followed by `X` -/
def encPart : Option (PseudoAtt × Str) → Str → Str
  | none, X => X
  | some (p, e), X => pseudo p ['e', 'n', 'c', 'o', 'd', 'i', 'n', 'g'] e X

def lexEnc : Option (PseudoAtt × Str) → Bool
  | none => true
  | some (p, e) => lexPseudo p && lexEncName e

/-- the text after `<?xml`, followed by `rest` -/
def declBody (d : XmlDecl) (rest : Str) : Str :=
  pseudo d.version ['v', 'e', 'r', 's', 'i', 'o', 'n'] ('1' :: '.' :: d.versionMinor)
    (encPart d.encoding (sdPart d.standalone d.ws rest))

theorem renderXmlDecl_append (d : XmlDecl) (rest : Str) :
    renderXmlDecl d ++ rest = ['<', '?', 'x', 'm', 'l'] ++ declBody d rest := by
  obtain ⟨v, m, _ | ⟨pe, e⟩, _ | ⟨p, b⟩, ws⟩ := d <;>
    simp only [renderXmlDecl, declBody, encPart, sdPart, sdValue, ← renderPseudo_append, List.cons_append,
      List.nil_append, List.append_assoc, List.append_nil]

theorem lexXmlDecl_iff (d : XmlDecl) : lexXmlDecl d = true ↔
    lexPseudo d.version = true ∧ d.versionMinor ≠ [] ∧ d.versionMinor.all isDigitC = true ∧
      lexEnc d.encoding = true ∧ lexSd d.standalone = true ∧ allS d.ws = true := by
  obtain ⟨v, m, _ | ⟨pe, e⟩, _ | ⟨p, b⟩, ws⟩ := d <;>
    simp only [lexXmlDecl, lexEnc, lexSd, Bool.and_eq_true, Bool.not_eq_true', List.isEmpty_eq_false_iff, and_assoc,
      Bool.and_true, true_and]

theorem quote_notDigit (q : Quote) : isDigitC q.char = false := by cases q <;> decide
theorem quote_notEncName (q : Quote) : isEncNameC q.char = false := by cases q <;> decide

/-- `parseXmlDecl` is entered after `<?xml` in front of white space (`startsWithDecl`) -/
theorem parseXmlDecl_iff {s : Str} {d : XmlDecl} {r : Str} (hs : ∃ c t, s = c :: t ∧ isSC c = true) :
    parseXmlDecl s = .ok (d, r) ↔ s = declBody d r ∧ lexXmlDecl d = true := by
  constructor
  · have hpre : (spanP isSC s).1 ≠ [] := by
      obtain ⟨c, t, rfl, hc⟩ := hs
      simp [spanP, hc]
    -- what both continuations share: the version part has been read (up to `r3`), `parseDeclTail` reads on from `y`
    have fin : ∀ {r0 r1 r2 r3 : Str} {pv : PseudoAtt} (enc : Option (PseudoAtt × Str)) (y : Str),
        stripPrefix ['v', 'e', 'r', 's', 'i', 'o', 'n'] (spanP isSC s).2 = some r0 →
        parsePseudoHead (spanP isSC s).1 r0 = some (pv, r1) → stripPrefix ['1', '.'] r1 = some r2 →
        ¬(spanP isDigitC r2).1 = [] → expectChar pv.q.char (spanP isDigitC r2).2 = some r3 →
        lexEnc enc = true → r3 = encPart enc y →
        parseDeclTail pv (spanP isDigitC r2).1 enc (spanP isSC y).1 (spanP isSC y).2 = .ok (d, r) →
        s = declBody d r ∧ lexXmlDecl d = true := by
      intro r0 r1 r2 r3 pv enc y h1 h2 h3 hm h4 henc hr3 hd
      obtain ⟨a2, rfl, hveq⟩ := parsePseudoHead_iff.mp h2
      obtain ⟨b1, b2, b3, b4, b5, b6⟩ := parseDeclTail_iff.mp hd
      have e4 := (spanP_sound isDigitC r2).1
      rw [expectChar_iff.mp h4, hr3, b4] at e4
      refine ⟨?_, (lexXmlDecl_iff d).mpr ⟨b1 ▸ (lexPseudo_iff pv).mpr ⟨a2 ▸ spanP_fst_all isSC s, a2 ▸ hpre, hveq⟩,
        b2 ▸ hm, b2 ▸ spanP_fst_all isDigitC r2, b3 ▸ henc, b5, b6⟩⟩
      rw [(spanP_sound isSC s).1, stripPrefix_iff.mp h1, ← a2, stripPrefix_iff.mp h3, e4, declBody, b1, b2, b3]
      rfl
    fun_cases parseXmlDecl s
    case case6 r0 h1 pv r1 h2 r2 h3 hm r3 h4 _ => exact fin none r3 h1 h2 h3 hm h4 rfl rfl
    case case12 r0 h1 pv r1 h2 r2 h3 hm r3 h4 r4 h5 hwe pe c t hc r6 h7 h6 =>
      obtain ⟨c2, rfl, hpeq⟩ := parsePseudoHead_iff.mp h6
      have hw3 : allS (spanP isSC r3).1 = true := spanP_fst_all isSC r3
      have e7 := (spanP_sound isEncNameC t).1
      rw [expectChar_iff.mp h7] at e7
      refine fin _ r6 h1 h2 h3 hm h4 ?_ ?_
      · simp only [lexEnc, lexEncName, (lexPseudo_iff pe).mpr ⟨c2 ▸ hw3, c2 ▸ hwe, hpeq⟩, spanP_fst_all, Bool.and_true]
        simpa using hc
      · rw [(spanP_sound isSC r3).1, stripPrefix_iff.mp h5, ← c2]
        generalize (spanP isEncNameC t).1 = nm at *
        rw [e7]; simp only [encPart, pseudo, List.cons_append, List.nil_append]
    all_goals nofun
  · rintro ⟨rfl, h⟩
    obtain ⟨v, m, enc, sd, ws⟩ := d
    obtain ⟨hv, hm, hmd, henc, hsd, hws⟩ := (lexXmlDecl_iff _).mp h
    dsimp only at hv hm hmd henc hsd hws
    obtain ⟨hvs, -, hveq⟩ := (lexPseudo_iff v).mp hv
    have s1 : spanP isSC (declBody ⟨v, m, enc, sd, ws⟩ r) = (v.pre, _) :=
      spanP_append hvs (HeadNot.cons (by decide) : HeadNot isSC ('v' :: _))
    have s3 : spanP isDigitC (m ++ v.q.char :: encPart enc (sdPart sd ws r)) = (m, _) :=
      spanP_append hmd (HeadNot.cons (quote_notDigit v.q))
    simp only [parseXmlDecl, s1, stripPrefix_iff.mpr rfl, parsePseudoHead_iff.mpr ⟨rfl, rfl, hveq⟩]
    simp only [List.cons_append, stripPrefix, if_true, s3, if_neg hm, expectChar_iff.mpr rfl]
    -- the tail, in either case read from `sdPart sd ws r`, which does not begin with `encoding`
    have t1 := (parseDeclTail_iff (d := ⟨v, m, enc, sd, ws⟩) (r := r)).mpr ⟨rfl, rfl, rfl, rfl, hsd, hws⟩
    cases enc with
    | none => simp only [encPart, sdPart_noEnc r hsd hws, t1]
    | some pe =>
      obtain ⟨pe, e⟩ := pe
      simp only [lexEnc, Bool.and_eq_true] at henc
      obtain ⟨hpes, hpen, hpeq⟩ := (lexPseudo_iff pe).mp henc.1
      cases e with
      | nil => cases henc.2
      | cons c t =>
        have hc := henc.2
        simp only [lexEncName, Bool.and_eq_true] at hc
        have u1 : spanP isSC (encPart (some (pe, c :: t)) (sdPart sd ws r)) = (pe.pre, _) :=
          spanP_append hpes (HeadNot.cons (by decide) : HeadNot isSC ('e' :: _))
        have u3 : spanP isEncNameC (t ++ pe.q.char :: sdPart sd ws r) = (t, _) :=
          spanP_append hc.2 (HeadNot.cons (quote_notEncName pe.q))
        simp only [u1, stripPrefix_iff.mpr rfl, if_neg hpen, parsePseudoHead_iff.mpr ⟨rfl, rfl, hpeq⟩]
        simp only [List.cons_append, hc.1, Bool.not_true, Bool.false_eq_true, if_false, u3, expectChar_iff.mpr rfl, t1]

theorem startsWithDecl_iff {s r : Str} :
    startsWithDecl s = some r ↔ s = ['<', '?', 'x', 'm', 'l'] ++ r ∧ ∃ c t, r = c :: t ∧ isSC c = true := by
  constructor
  · fun_cases startsWithDecl s
    case case3 c t hc h1 => rintro ⟨⟩; exact ⟨stripPrefix_iff.mp h1, c, t, rfl, hc⟩
    all_goals nofun
  · rintro ⟨rfl, c, t, rfl, hc⟩
    simp only [startsWithDecl, stripPrefix_iff.mpr rfl, hc, if_true]

theorem declBody_head {d : XmlDecl} (h : lexXmlDecl d = true) (rest : Str) :
    ∃ c t, declBody d rest = c :: t ∧ isSC c = true := by
  obtain ⟨hall, hne, -⟩ := (lexPseudo_iff _).mp ((lexXmlDecl_iff d).mp h).1
  obtain ⟨c, cs, hp⟩ := List.exists_cons_of_ne_nil hne
  exact ⟨c, _, by rw [declBody, pseudo, hp]; rfl, (Bool.and_eq_true _ _ ▸ hp ▸ hall).1⟩

end XV.Lemmas.Xml
