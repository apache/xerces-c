/-
C08 — `LocallyValid`: what an empty violation list of the executable Spec `assess` (XV.Spec.XsdValid) means for the
element it was applied to, in terms of the declarative Spec pieces (`PLang`, `AttrsValid`); that it does is
`XV.Props.C08.validElem_iff_partial`.  Core Lean only.
-/
import XV.Spec.XsdValid
namespace XV.Lemmas.XsdValid
open XV.Spec.Particle XV.Spec.XsdValid

/-- the local facts the Spec establishes for one assessed element -/
def LocallyValid (S : Schema) (d : Decl) (e : Elem) : Prop :=
  S.declAbstract d = false ∧
  (governingType S d.type (S.declBlock d) e.xsiType).2 = [] ∧
  match S.findCT (governingType S d.type (S.declBlock d) e.xsiType).1 with
  | none => e.children = [] ∧ e.attrs = []
  | some ct =>
    AttrsValid ct.uses ct.wildcard S.gattrs e.attrs ∧
    ((S.declNillable d && e.xsiNil == some true) = false →
      match ct.content with
      | .empty => e.text = none ∧ e.children = []
      | .simple => e.children = []
      | .elementOnly p => e.text = none ∧
          PLang (fun x l => S.leafAccepts x l = true) p (e.children.map Elem.name)
      | .mixed p => PLang (fun x l => S.leafAccepts x l = true) p (e.children.map Elem.name))

theorem isEmpty_false_of {α : Type} {l : List α} (h : (if (!l.isEmpty) = true then ["x"] else []) = ([] : List String)) : l = [] := by
  cases l with
  | nil => rfl
  | cons a l => simp at h

theorem ite_nil_iff {c : Prop} [Decidable c] {a : String} : (if c then [a] else []) = [] ↔ ¬ c := by
  split <;> simp [*]

theorem ite_nil_iff' {c : Prop} [Decidable c] {a : String} : (if c then [] else [a]) = [] ↔ c := by
  split <;> simp [*]

end XV.Lemmas.XsdValid
