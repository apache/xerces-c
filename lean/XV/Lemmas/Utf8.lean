/-
The model of XMLUTF8Transcoder (XV.Model.Utf8) against Unicode Tables 3-6 and 3-7 (XV.Spec.Utf8).
Decoding: one pass of the loop body reads a window of `tb b0` bytes behind the lead, tests it (`reject`) and, if it
passes, yields its Horner form less an offset (`finish`); length by length the tests are the row of Table 3-7 (a lead
F5..F7 passes them too, with a value above U+10FFFF that the loop refuses) and the arithmetic is `value`.  `next` is
the item the `while` loop takes and `Run` the loop told without fuel, over which soundness is an induction;
completeness goes along the scalar string.
Encoding: `emit` writes `encode`, and `toLoop` is walked along the string.
-/
import XV.Model.Utf8
import XV.Spec.Utf8
namespace XV.Lemmas.Utf8
open XV.Model.Utf8 XV.Spec.Utf8

/-- what `gUTFBytes` must say for every byte (checked by kernel evaluation over the generated table) -/
def tbSpec (b : Nat) : Nat :=
  if b < 0xC2 then 0 else if b < 0xE0 then 1 else if b < 0xF0 then 2 else if b < 0xF8 then 3
  else if b < 0xFC then 4 else 5

/-- lets a table be compared with its specification as one list, not walked once per index -/
theorem getD_of_tabulate {α} {l : List α} {f : Nat → α} {n : Nat} (h : l = (List.range n).map f) (d : α) {i : Nat}
    (hi : i < n) : l.getD i d = f i := by
  subst h
  simp [List.getD_eq_getElem?_getD, hi]

theorem tb_spec : ∀ b, b < 256 → tb b = tbSpec b :=
  fun _ hb => getD_of_tabulate (by decide +kernel) 0 hb

theorem lead_bad : ∀ b, b < 256 → ((indTest (tb b) &&& b) != ind (tb b)) = (decide ((0x80 ≤ b ∧ b < 0xC2) ∨ 0xFE ≤ b)) := by
  intro b hb
  rw [tb_spec b hb]
  revert b
  decide +kernel

theorem trailBad_spec : ∀ b, b < 256 → trailBad b = !(cont b) := by decide +kernel

theorem off_vals : off 1 = 0x3080 ∧ off 2 = 0xE2080 ∧ off 3 = 0x3C82080 := by decide

theorem firstMark_vals : firstMark 1 = 0 ∧ firstMark 2 = 0xC0 ∧ firstMark 3 = 0xE0 ∧ firstMark 4 = 0xF0 := by decide

theorem tb_le5 (b : Nat) : tb b ≤ 5 := by
  have hall : ∀ x ∈ XV.Gen.Utf8.gUTFBytes, x ≤ 5 := by decide +kernel
  rw [tb, List.getD_eq_getElem?_getD]
  cases h : XV.Gen.Utf8.gUTFBytes[b]? with
  | none => exact Nat.zero_le _
  | some x => exact hall x (List.mem_of_getElem? h)

theorem tb_cases {b : Nat} (h : b < 256) :
    (tb b = 0 ∧ b < 0xC2) ∨ (tb b = 1 ∧ 0xC2 ≤ b ∧ b < 0xE0) ∨ (tb b = 2 ∧ 0xE0 ≤ b ∧ b < 0xF0) ∨
      (tb b = 3 ∧ 0xF0 ≤ b ∧ b < 0xF8) ∨ (4 ≤ tb b ∧ 0xF8 ≤ b) := by
  rw [tb_spec b h, tbSpec]
  repeat' split
  all_goals omega

theorem lead_ok {b0 k : Nat} (ht : tb b0 = k) (hlo : 0xC2 ≤ b0) (hhi : b0 < 0xFE) :
    ¬ ((indTest k &&& b0) != ind k) = true := by
  rw [← ht, lead_bad b0 (by omega), decide_eq_true_eq]
  omega

theorem cont_iff (b : Nat) : cont b = true ↔ 0x80 ≤ b ∧ b ≤ 0xBF := by
  simp only [cont, Bool.and_eq_true, decide_eq_true_eq]

theorem wf2_iff {b0 b1 : Nat} : wellFormed [b0, b1] = true ↔ (0xC2 ≤ b0 ∧ b0 ≤ 0xDF) ∧ cont b1 = true := by
  simp only [wellFormed, Bool.and_eq_true, decide_eq_true_eq]

theorem wf3_iff {b0 b1 b2 : Nat} : wellFormed [b0, b1, b2] = true ↔
    (0xE0 ≤ b0 ∧ b0 ≤ 0xEF) ∧ (cont b1 = true ∧ ¬ (b0 = 0xE0 ∧ b1 < 0xA0) ∧ ¬ (b0 = 0xED ∧ 0xA0 ≤ b1)) ∧ cont b2 = true := by
  simp only [wellFormed, cont, Bool.and_eq_true, Bool.or_eq_true, beq_iff_eq, decide_eq_true_eq]
  omega

theorem wf4_iff {b0 b1 b2 b3 : Nat} : wellFormed [b0, b1, b2, b3] = true ↔
    (0xF0 ≤ b0 ∧ b0 ≤ 0xF4) ∧ (cont b1 = true ∧ ¬ ((b0 = 0xF0 ∧ b1 < 0x90) ∨ (b0 = 0xF4 ∧ 0x8F < b1))) ∧ cont b2 = true ∧ cont b3 = true := by
  simp only [wellFormed, cont, Bool.and_eq_true, Bool.or_eq_true, beq_iff_eq, decide_eq_true_eq]
  omega

theorem value_two (b0 b1 : Nat) : value [b0, b1] = (b0 - 0xC0) * 64 + (b1 - 0x80) := rfl
theorem value_three (b0 b1 b2 : Nat) : value [b0, b1, b2] = (b0 - 0xE0) * 4096 + (b1 - 0x80) * 64 + (b2 - 0x80) := rfl
theorem value_four (b0 b1 b2 b3 : Nat) : value [b0, b1, b2, b3] =
    (b0 - 0xF0) * 262144 + (b1 - 0x80) * 4096 + (b2 - 0x80) * 64 + (b3 - 0x80) := rfl

theorem enc2 {x y : Nat} (hx : 2 ≤ x) (hx' : x < 32) (hy : y < 64) : encode (x * 64 + y) = [0xC0 + x, 0x80 + y] := by
  rw [encode, if_neg (by omega), if_pos (by omega)]
  simp only [List.cons.injEq, and_true]
  omega

theorem enc3 {x y z : Nat} (hx : x < 16) (hy : y < 64) (hz : z < 64) (h : 32 ≤ x * 64 + y) :
    encode (x * 4096 + y * 64 + z) = [0xE0 + x, 0x80 + y, 0x80 + z] := by
  rw [encode, if_neg (by omega), if_neg (by omega), if_pos (by omega)]
  simp only [List.cons.injEq, and_true]
  omega

theorem enc4 {x y z u : Nat} (hy : y < 64) (hz : z < 64) (hu : u < 64) (h : 16 ≤ x * 64 + y) :
    encode (x * 262144 + y * 4096 + z * 64 + u) = [0xF0 + x, 0x80 + y, 0x80 + z, 0x80 + u] := by
  rw [encode, if_neg (by omega), if_neg (by omega), if_neg (by omega)]
  simp only [List.cons.injEq, and_true]
  omega

theorem wf_encode_value (w : List Nat) (h : wellFormed w = true) :
    encode (value w) = w ∧ isScalar (value w) := by
  rcases w with _ | ⟨b0, _ | ⟨b1, _ | ⟨b2, _ | ⟨b3, _ | ⟨b4, t⟩⟩⟩⟩⟩
  · cases h
  · have h1 : b0 < 0x80 := Nat.lt_succ_of_le (by simpa [wellFormed] using h)
    exact ⟨if_pos h1, by show b0 < 0x110000 ∧ ¬ (0xD800 ≤ b0 ∧ b0 ≤ 0xDFFF); omega⟩
  · -- each byte as its mark plus a base-64 digit: `value` is the Horner form of the digits, `enc2/3/4` give the bytes back
    obtain ⟨⟨l0, u0⟩, c1⟩ := wf2_iff.1 h
    obtain ⟨l1, u1⟩ := (cont_iff _).1 c1
    obtain ⟨x, rfl⟩ : ∃ x, b0 = 0xC0 + x := ⟨b0 - 0xC0, by omega⟩
    obtain ⟨y, rfl⟩ := Nat.le.dest l1
    rw [value_two, Nat.add_sub_cancel_left, Nat.add_sub_cancel_left]
    exact ⟨enc2 (by omega) (by omega) (by omega), by unfold isScalar; omega⟩
  · obtain ⟨⟨l0, u0⟩, ⟨c1, n1, n2⟩, c2⟩ := wf3_iff.1 h
    obtain ⟨l1, u1⟩ := (cont_iff _).1 c1
    obtain ⟨l2, u2⟩ := (cont_iff _).1 c2
    obtain ⟨x, rfl⟩ := Nat.le.dest l0
    obtain ⟨y, rfl⟩ := Nat.le.dest l1
    obtain ⟨z, rfl⟩ := Nat.le.dest l2
    rw [value_three, Nat.add_sub_cancel_left, Nat.add_sub_cancel_left, Nat.add_sub_cancel_left]
    exact ⟨enc3 (by omega) (by omega) (by omega) (by omega), by unfold isScalar; omega⟩
  · obtain ⟨⟨l0, u0⟩, ⟨c1, n1⟩, c2, c3⟩ := wf4_iff.1 h
    obtain ⟨l1, u1⟩ := (cont_iff _).1 c1
    obtain ⟨l2, u2⟩ := (cont_iff _).1 c2
    obtain ⟨l3, u3⟩ := (cont_iff _).1 c3
    obtain ⟨x, rfl⟩ := Nat.le.dest l0
    obtain ⟨y, rfl⟩ := Nat.le.dest l1
    obtain ⟨z, rfl⟩ := Nat.le.dest l2
    obtain ⟨u, rfl⟩ := Nat.le.dest l3
    rw [value_four, Nat.add_sub_cancel_left, Nat.add_sub_cancel_left, Nat.add_sub_cancel_left, Nat.add_sub_cancel_left]
    exact ⟨enc4 (by omega) (by omega) (by omega) (by omega), by unfold isScalar; omega⟩
  · cases h

theorem scalar_wf_encode (s : Nat) (h : isScalar s) :
    wellFormed (encode s) = true ∧ value (encode s) = s := by
  unfold isScalar at h
  fun_cases encode s with
  | case1 h1 => exact ⟨by simpa [wellFormed] using Nat.le_of_lt_succ h1, rfl⟩
  | case2 => rw [wf2_iff, cont_iff, value_two]; omega
  | case3 => rw [wf3_iff, cont_iff, cont_iff, value_three]; omega
  | case4 => rw [wf4_iff, cont_iff, cont_iff, cont_iff, value_four]; omega

def AllBytes (l : List Nat) : Prop := ∀ b ∈ l, b < 256

theorem allBytes_drop {l : List Nat} (h : AllBytes l) (n : Nat) : AllBytes (l.drop n) :=
  fun b hb => h b (List.mem_of_mem_drop hb)

theorem sub32_small {a b : Nat} (h1 : b ≤ a) (h2 : a < 4294967296) : sub32 a b = a - b := by
  unfold sub32; omega

theorem sub32_wrap {a b : Nat} (h1 : a < b) (h2 : b < 4294967296) : sub32 a b = a + 4294967296 - b := by
  unfold sub32; omega

/-- the tests of a pass on the bytes `cs` behind the lead `b0`, in the order of the C++; `none`: all passed -/
def reject (b0 : Nat) : List Nat → Option Exc
  | [b1] =>
      if (indTest 1 &&& b0) != ind 1 then some .formatError
      else if trailBad b1 then some .formatError
      else none
  | [b1, b2] =>
      if (indTest 2 &&& b0) != ind 2 then some .formatError
      else if b0 == 0xE0 && b1 < 0xA0 then some .invalid3
      else if trailBad b1 then some .formatError
      else if trailBad b2 then some .formatError
      else if b0 == 0xED && b1 ≥ 0xA0 then some .irregular3
      else none
  | [b1, b2, b3] =>
      if (indTest 3 &&& b0) != ind 3 then some .formatError
      else if (b0 == 0xF0 && b1 < 0x90) || (b0 == 0xF4 && b1 > 0x8F) then some .invalid4
      else if trailBad b1 then some .formatError
      else if trailBad b2 then some .formatError
      else if trailBad b3 then some .formatError
      else none
  | cs => some (if (indTest cs.length &&& b0) != ind cs.length then .formatError else .exceedsLimit)

/-- what a pass returns once its tests have answered -/
def finish (v n : Nat) : Option Exc → Step
  | some e => .exc e
  | none => .val v n

theorem decodeStep_short (b0 : Nat) (rest : List Nat) (h : rest.length < tb b0) :
    decodeStep (b0 :: rest) = .more := by
  rw [decodeStep.eq_def]; exact if_pos h

theorem window {t : Nat} {rest : List Nat} (h : ¬ rest.length < t) : ∃ cs r, rest = cs ++ r ∧ t = cs.length :=
  ⟨rest.take t, rest.drop t, (List.take_append_drop t rest).symm, by rw [List.length_take]; omega⟩

theorem decodeStep_window {b0 : Nat} (cs r : List Nat) (h : tb b0 = cs.length) : decodeStep (b0 :: (cs ++ r)) =
    finish (sub32 (cs.foldl (· * 64 + ·) b0) (off cs.length)) (cs.length + 1) (reject b0 cs) := by
  rw [decodeStep.eq_def]; simp only
  rw [h, if_neg (by rw [List.length_append]; omega)]
  -- the shape of the window settles the number the model matches on, so no case meets a list that is too short
  match cs with
  | [] => exact (apply_ite Step.exc ..).symm
  | [b1] => simp only [reject, apply_ite (finish _ _)]; rfl
  | [b1, b2] => simp only [reject, apply_ite (finish _ _)]; rfl
  | [b1, b2, b3] => simp only [reject, apply_ite (finish _ _)]; rfl
  | _ :: _ :: _ :: _ :: _ => exact (apply_ite Step.exc ..).symm

theorem decodeStep_other {b0 : Nat} {rest : List Nat} (ht : tb b0 = 0 ∨ 4 ≤ tb b0) (hl : ¬ rest.length < tb b0) :
    decodeStep (b0 :: rest) =
      if (indTest (tb b0) &&& b0) != ind (tb b0) then .exc .formatError else .exc .exceedsLimit := by
  rw [decodeStep.eq_def]
  simp only [hl, if_false]
  rcases ht with ht | ht
  · rw [ht]; rfl
  · obtain ⟨k, hk⟩ := Nat.le.dest ht
    rw [← hk, Nat.add_comm]; rfl

theorem finish_full {v k : Nat} : ∀ o, finish v k o ≠ .more ∧ ∀ v' n, finish v k o = .val v' n → n = k
  | some _ => ⟨nofun, nofun⟩
  | none => ⟨nofun, fun _ _ h => by cases h; rfl⟩

theorem decodeStep_full (b0 : Nat) (rest : List Nat) (hl : ¬ rest.length < tb b0) :
    (decodeStep (b0 :: rest) ≠ .more ∧ ∀ v n, decodeStep (b0 :: rest) = .val v n → n = tb b0 + 1) ∧
      ∀ ext, decodeStep (b0 :: (rest ++ ext)) = decodeStep (b0 :: rest) := by
  obtain ⟨cs, r, rfl, ht⟩ := window hl
  refine ⟨?_, fun ext => ?_⟩
  · rw [decodeStep_window cs r ht, ht]; exact finish_full _
  · rw [List.append_assoc, decodeStep_window cs r ht, decodeStep_window cs (r ++ ext) ht]

theorem finish_ite {c : Prop} [Decidable c] {e : Exc} {o : Option Exc} {s k v n : Nat} :
    finish s k (if c then some e else o) = .val v n ↔ ¬ c ∧ finish s k o = .val v n := by
  by_cases h : c
  · rw [if_pos h]; exact ⟨nofun, fun h' => absurd h h'.1⟩
  · rw [if_neg h]; exact ⟨fun h' => ⟨h, h'⟩, fun h' => h'.2⟩

theorem not_trailBad {b : Nat} (h : b < 256) : ¬ trailBad b = true ↔ 0x80 ≤ b ∧ b ≤ 0xBF := by
  rw [trailBad_spec b h, ← cont_iff]; cases cont b <;> decide

/-- the shape of the three lemmas below: the guards `c` of a pass amount to the table row `w`, and under them the
32-bit arithmetic `s` is the code point `V` -/
theorem val_iff {c w : Prop} {s V k v n : Nat} (hcw : c ↔ w) (hs : c → s = V) :
    c ∧ Step.val s k = .val v n ↔ w ∧ v = V ∧ n = k := by
  rw [Step.val.injEq, ← hcw]
  constructor
  · rintro ⟨hc, rfl, rfl⟩
    exact ⟨hc, hs hc, rfl⟩
  · rintro ⟨hc, rfl, rfl⟩
    exact ⟨hc, hs hc, rfl⟩

theorem step_two {b0 b1 : Nat} (h0 : b0 < 256) (h1 : b1 < 256) (ht : tb b0 = 1) {v n : Nat} :
    finish (sub32 (b0 * 64 + b1) (off 1)) 2 (reject b0 [b1]) = .val v n ↔
      wellFormed [b0, b1] = true ∧ v = value [b0, b1] ∧ n = 2 := by
  have hr : 0xC2 ≤ b0 ∧ b0 < 0xE0 := by have := tb_cases h0; omega
  rw [reject, finish_ite, and_iff_right (lead_ok ht hr.1 (by omega)), finish_ite, not_trailBad h1, wf2_iff,
    cont_iff, off_vals.1, value_two]
  exact val_iff (by omega) fun _ => by rw [sub32_small (by omega) (by omega)]; omega

theorem step_three {b0 b1 b2 : Nat} (h0 : b0 < 256) (h1 : b1 < 256) (h2 : b2 < 256) (ht : tb b0 = 2) {v n : Nat} :
    finish (sub32 ((b0 * 64 + b1) * 64 + b2) (off 2)) 3 (reject b0 [b1, b2]) = .val v n ↔
      wellFormed [b0, b1, b2] = true ∧ v = value [b0, b1, b2] ∧ n = 3 := by
  have hr : 0xE0 ≤ b0 ∧ b0 < 0xF0 := by have := tb_cases h0; omega
  rw [reject, finish_ite, and_iff_right (lead_ok ht (by omega) (by omega)), finish_ite, finish_ite,
    finish_ite, finish_ite, not_trailBad h1, not_trailBad h2, wf3_iff, cont_iff, cont_iff, off_vals.2.1, value_three,
    Bool.and_eq_true, Bool.and_eq_true, beq_iff_eq, beq_iff_eq, decide_eq_true_eq, decide_eq_true_eq]
  -- gather the four guards in front of the equation, as `val_iff` wants them
  rw [← @and_assoc _ _ (_ = Step.val v n), ← @and_assoc _ _ (_ = Step.val v n), ← @and_assoc _ _ (_ = Step.val v n)]
  exact val_iff (by omega) fun _ => by rw [sub32_small (by omega) (by omega)]; omega

/-- a four-byte lead yields a value exactly on a Table 3-7 sequence or, from F5 on, on one above U+10FFFF -/
theorem step_four {b0 b1 b2 b3 : Nat} (h0 : b0 < 256) (h1 : b1 < 256) (h2 : b2 < 256) (h3 : b3 < 256)
    (ht : tb b0 = 3) {v n : Nat} :
    finish (sub32 (((b0 * 64 + b1) * 64 + b2) * 64 + b3) (off 3)) 4 (reject b0 [b1, b2, b3]) = .val v n ↔
      (wellFormed [b0, b1, b2, b3] = true ∨ (0xF4 < b0 ∧ cont b1 = true ∧ cont b2 = true ∧ cont b3 = true)) ∧
      v = value [b0, b1, b2, b3] ∧ n = 4 := by
  have hr : 0xF0 ≤ b0 ∧ b0 < 0xF8 := by have := tb_cases h0; omega
  rw [reject, finish_ite, and_iff_right (lead_ok ht (by omega) (by omega)), finish_ite, finish_ite,
    finish_ite, finish_ite, not_trailBad h1, not_trailBad h2, not_trailBad h3, wf4_iff, cont_iff, cont_iff, cont_iff,
    off_vals.2.2, value_four, Bool.or_eq_true, Bool.and_eq_true, Bool.and_eq_true, beq_iff_eq, beq_iff_eq, decide_eq_true_eq,
    decide_eq_true_eq]
  rw [← @and_assoc _ _ (_ = Step.val v n), ← @and_assoc _ _ (_ = Step.val v n), ← @and_assoc _ _ (_ = Step.val v n)]
  exact val_iff (by omega) fun _ => by rw [sub32_small (by omega) (by omega)]; omega

theorem decodeStep_complete (w rest : List Nat) (hw : wellFormed w = true) (h2 : 2 ≤ w.length) :
    decodeStep (w ++ rest) = .val (value w) w.length := by
  match w, hw, h2 with
  | [b0, b1], hw, _ =>
    have hb := wf2_iff.1 hw
    rw [cont_iff] at hb
    have ht : tb b0 = 1 := by have := tb_cases (by omega : b0 < 256); omega
    exact (decodeStep_window [b1] rest ht).trans ((step_two (by omega) (by omega) ht).2 ⟨hw, rfl, rfl⟩)
  | [b0, b1, b2], hw, _ =>
    have hb := wf3_iff.1 hw
    rw [cont_iff, cont_iff] at hb
    have ht : tb b0 = 2 := by have := tb_cases (by omega : b0 < 256); omega
    exact (decodeStep_window [b1, b2] rest ht).trans ((step_three (by omega) (by omega) (by omega) ht).2 ⟨hw, rfl, rfl⟩)
  | [b0, b1, b2, b3], hw, _ =>
    have hb := wf4_iff.1 hw
    rw [cont_iff, cont_iff, cont_iff] at hb
    have ht : tb b0 = 3 := by have := tb_cases (by omega : b0 < 256); omega
    exact (decodeStep_window [b1, b2, b3] rest ht).trans
      ((step_four (by omega) (by omega) (by omega) (by omega) ht).2 ⟨.inl hw, rfl, rfl⟩)

/-- the alternative `0x10FFFF < v` is a four-byte form with lead F5..F7; the loop turns it into an error -/
theorem decodeStep_sound (bs : List Nat) (hb : AllBytes bs) (v n : Nat) (h : decodeStep bs = .val v n) :
    n ≤ bs.length ∧ 2 ≤ n ∧
      ((wellFormed (bs.take n) = true ∧ v = value (bs.take n) ∧ v ≤ 0x10FFFF) ∨ 0x10FFFF < v) := by
  match bs, hb, h with
  | b0 :: rest, hb, h =>
  have h0 : b0 < 256 := hb b0 List.mem_cons_self
  have hl : ¬ rest.length < tb b0 := fun hl => by rw [decodeStep_short b0 rest hl] at h; cases h
  obtain ⟨cs, r, rfl, ht⟩ := window hl
  rw [decodeStep_window cs r ht] at h
  have hc : ∀ c ∈ cs, c < 256 := fun c hc => hb c (List.mem_cons_of_mem _ (List.mem_append_left _ hc))
  have wf_ok : ∀ w, wellFormed w = true → v = value w →
      (wellFormed w = true ∧ v = value w ∧ v ≤ 0x10FFFF) ∨ 0x10FFFF < v := fun w hw hv =>
    .inl ⟨hw, hv, hv ▸ Nat.le_of_lt_succ (wf_encode_value w hw).2.1⟩
  rcases cs with _ | ⟨b1, _ | ⟨b2, _ | ⟨b3, _ | _⟩⟩⟩
  · exact nomatch h
  · obtain ⟨hw, hv, rfl⟩ := (step_two h0 (hc b1 (by simp)) ht).1 h
    exact ⟨by simp, by decide, wf_ok _ hw hv⟩
  · obtain ⟨hw, hv, rfl⟩ := (step_three h0 (hc b1 (by simp)) (hc b2 (by simp)) ht).1 h
    exact ⟨by simp, by decide, wf_ok _ hw hv⟩
  · obtain ⟨hw, hv, rfl⟩ := (step_four h0 (hc b1 (by simp)) (hc b2 (by simp)) (hc b3 (by simp)) ht).1 h
    refine ⟨by simp, by decide, ?_⟩
    rcases hw with hw | ⟨hb0, _⟩
    · exact wf_ok _ hw hv
    · exact .inr (by rw [hv, value_four]; omega)
  · exact nomatch h

theorem utf16_bmp {v : Nat} (h : v < 65536) : utf16 v = [v] := if_pos h

theorem utf16_pair {v : Nat} (h : ¬ v < 65536) :
    utf16 v = [(v - 0x10000) / 1024 + 0xD800, (v - 0x10000) % 1024 + 0xDC00] := by
  rw [utf16, if_neg h, Nat.add_comm 0xD800, Nat.add_comm 0xDC00]

theorem utf16_len (v : Nat) : 0 < (utf16 v).length ∧ (utf16 v).length ≤ 2 := by
  by_cases h : v < 65536
  · rw [utf16_bmp h]; exact ⟨Nat.one_pos, Nat.le_succ 1⟩
  · rw [utf16_pair h]; exact ⟨Nat.two_pos, Nat.le_refl 2⟩

/-- the next code point of `src` and the bytes it takes, as the `while` loop of `transcodeFrom` finds them -/
def next : List Nat → Step
  | [] => .more
  | b0 :: rest => if b0 ≤ 127 then .val b0 1 else decodeStep (b0 :: rest)

theorem next_val {src : List Nat} {v n : Nat} (h : next src = .val v n) : (utf16 v).length ≤ n ∧ n ≤ src.length := by
  revert h
  fun_cases next src with
  | case1 => nofun
  | case2 b0 rest hb =>
    intro h
    cases h
    rw [utf16_bmp (by omega)]
    exact ⟨Nat.le_refl _, Nat.succ_le_succ (Nat.zero_le _)⟩
  | case3 b0 rest hb =>
    intro h
    have hl : ¬ rest.length < tb b0 := fun hl => by rw [decodeStep_short b0 rest hl] at h; cases h
    have hn := (decodeStep_full b0 rest hl).1.2 v n h
    have h0 : tb b0 ≠ 0 := fun h0 => by
      rw [decodeStep_other (.inl h0) hl] at h
      split at h <;> cases h
    have := utf16_len v
    rw [List.length_cons]
    omega

theorem next_full {src : List Nat} (h : next src ≠ .more) (ext : List Nat) : next (src ++ ext) = next src := by
  revert h
  fun_cases next src with
  | case1 => exact fun h => absurd rfl h
  | case2 b0 rest hb => exact fun _ => if_pos hb
  | case3 b0 rest hb =>
    exact fun h => (if_neg hb).trans ((decodeStep_full b0 rest fun hl => h (decodeStep_short b0 rest hl)).2 ext)

theorem next_more {src : List Nat} (h : next src = .more) : src.length < 6 := by
  revert h
  fun_cases next src with
  | case1 => exact fun _ => Nat.succ_pos _
  | case2 => nofun
  | case3 b0 rest hb =>
    intro h
    have : rest.length < tb b0 := Decidable.byContradiction fun hl => (decodeStep_full b0 rest hl).1.1 h
    have := tb_le5 b0
    rw [List.length_cons]
    omega

theorem next_complete (w rest : List Nat) (hw : wellFormed w = true) : next (w ++ rest) = .val (value w) w.length := by
  match w, hw with
  | [b0], hw => exact if_pos (by simpa [wellFormed] using hw)
  | b0 :: b1 :: t, hw =>
    have h2 : 2 ≤ (b0 :: b1 :: t).length := Nat.le_add_left _ _
    have hb : ¬ b0 ≤ 127 := by
      match t, hw with
      | [], hw => have := (wf2_iff.1 hw).1.1; omega
      | [_], hw => have := (wf3_iff.1 hw).1.1; omega
      | [_, _], hw => have := (wf4_iff.1 hw).1.1; omega
    rw [List.cons_append, next, if_neg hb]
    exact decodeStep_complete _ rest hw h2

theorem next_encode {s : Nat} (hs : isScalar s) (rest : List Nat) :
    next (encode s ++ rest) = .val s (encode s).length := by
  obtain ⟨hw, hv⟩ := scalar_wf_encode s hs
  rw [next_complete _ rest hw, hv]

theorem next_scalar {src : List Nat} (hb : AllBytes src) {v n : Nat} (h : next src = .val v n) (hv : v ≤ 0x10FFFF) :
    encode v = src.take n ∧ isScalar v := by
  revert h
  fun_cases next src with
  | case1 => nofun
  | case2 b0 rest h0 =>
    intro h
    cases h
    exact ⟨if_pos (Nat.lt_succ_of_le h0), by unfold isScalar; omega⟩
  | case3 b0 rest h0 =>
    intro h
    obtain ⟨hw, rfl, _⟩ := (decodeStep_sound _ hb v n h).2.2.resolve_right (Nat.not_lt.2 hv)
    exact wf_encode_value _ hw

/-- the entries of the size array that go with the UTF-16 units of a decoded value -/
def sizesOf (v n : Nat) : List Nat := if v < 65536 then [n] else [n, 0]

theorem sizesOf_length (v n : Nat) : (sizesOf v n).length = (utf16 v).length := by
  rw [sizesOf, utf16]
  split <;> simp only [List.length_cons, List.length_nil]

theorem encodeAll_cons (s : Nat) (ss : List Nat) : encodeAll (s :: ss) = encode s ++ encodeAll ss := List.flatMap_cons
theorem utf16All_cons (s : Nat) (ss : List Nat) : utf16All (s :: ss) = utf16 s ++ utf16All ss := List.flatMap_cons
theorem scalars_cons {s : Nat} {ss : List Nat} : Scalars (s :: ss) ↔ isScalar s ∧ Scalars ss := List.forall_mem_cons

/-- what `fromLoop` does on `src`, told without fuel: it stops, throws, or takes the item `next src` and goes on -/
inductive Run : List Nat → Nat → List Nat → List Nat → Nat → Res → Prop
  | full {src chars sizes eaten} : Run src 0 chars sizes eaten (.ok chars sizes eaten)
  | more {src room chars sizes eaten} : next src = .more → Run src room chars sizes eaten (.ok chars sizes eaten)
  | exc {src room chars sizes eaten e} : room ≠ 0 → next src = .exc e → Run src room chars sizes eaten (.exc e)
  | over {src room chars sizes eaten v n} : room ≠ 0 → next src = .val v n → 0x10FFFF < v →
      Run src room chars sizes eaten (if chars.length > 32 then .ok chars sizes eaten else .exc .badSrcSeq)
  | tight {src room chars sizes eaten v n} : next src = .val v n → room < (utf16 v).length →
      Run src room chars sizes eaten (.ok chars sizes eaten)
  | item {src room chars sizes eaten v n res} : next src = .val v n → v ≤ 0x10FFFF → (utf16 v).length ≤ room →
      Run (src.drop n) (room - (utf16 v).length) (chars ++ utf16 v) (sizes ++ sizesOf v n) (eaten + n) res →
      Run src room chars sizes eaten res

theorem fromLoop_run (fuel : Nat) (src : List Nat) (room : Nat) (chars sizes : List Nat) (eaten : Nat)
    (h : src.length ≤ fuel) : Run src room chars sizes eaten (fromLoop fuel src room chars sizes eaten) := by
  -- the cases are the ways through `fromLoop`, in its order: out of fuel; no room; no bytes; an ASCII byte; the pass
  -- wants more, throws, yields a BMP value, one above 10FFFF (with more than 32 characters in hand or not), a
  -- supplementary value without and with room for its pair; the three kinds of item go the same way
  fun_induction fromLoop fuel src room chars sizes eaten with
  | case1 =>
    obtain rfl := List.eq_nil_of_length_eq_zero (Nat.le_zero.1 h)
    exact .more rfl
  | case2 => exact .full
  | case3 => exact .more rfl
  | case4 _ _ _ _ _ hr b0 _ hb ih =>
    have h1 : b0 < 65536 := by omega
    refine .item (n := 1) (if_pos hb) (by omega) (by rw [utf16_bmp h1]; exact Nat.pos_of_ne_zero hr) ?_
    rw [utf16_bmp h1, sizesOf, if_pos h1]
    exact ih (Nat.le_of_succ_le_succ h)
  | case5 _ _ _ _ _ _ _ _ hb hn => exact .more ((if_neg hb).trans hn)
  | case6 _ _ _ _ _ hr _ _ hb _ hn => exact .exc hr ((if_neg hb).trans hn)
  | case7 _ _ _ _ _ hr b0 rest hb v n hn h1 ih =>
    have hn : next (b0 :: rest) = .val v n := (if_neg hb).trans hn
    refine .item hn (by omega) (by rw [utf16_bmp h1]; exact Nat.pos_of_ne_zero hr) ?_
    rw [utf16_bmp h1, sizesOf, if_pos h1]
    exact ih (by have := (next_val hn).1; have := (utf16_len v).1; rw [List.length_drop]; omega)
  | case8 _ room chars sizes eaten hr b0 rest hb _ _ hn _ hv hc | case9 _ room chars sizes eaten hr b0 rest hb _ _ hn _ hv hc =>
    have : Run (b0 :: rest) room chars sizes eaten _ := .over hr ((if_neg hb).trans hn) hv
    simpa only [hc, ↓reduceIte] using this
  | case10 _ _ _ _ _ _ _ _ hb _ _ hn h1 _ h2 => exact .tight ((if_neg hb).trans hn) (by rw [utf16_pair h1]; exact h2)
  | case11 _ _ _ _ _ _ b0 rest hb v n hn h1 hv h2 _ ih =>
    have hn : next (b0 :: rest) = .val v n := (if_neg hb).trans hn
    refine .item hn (Nat.le_of_not_lt hv) (by rw [utf16_pair h1]; exact Nat.le_of_not_lt h2) ?_
    rw [utf16_pair h1, sizesOf, if_neg h1]
    exact ih (by have := (next_val hn).1; have := (utf16_len v).1; rw [List.length_drop]; omega)

/-- the bounds that the result of `fromLoop` keeps when it starts with `chars sizes eaten` in hand -/
def Within (src : List Nat) (room : Nat) (chars sizes : List Nat) (eaten : Nat) : Res → Prop
  | .ok c s n => n ≤ eaten + src.length ∧ c.length ≤ chars.length + room ∧ s.length + chars.length = c.length + sizes.length
  | .exc _ => True

theorem run_bounds {src : List Nat} {room : Nat} {chars sizes : List Nat} {eaten : Nat} {res : Res}
    (h : Run src room chars sizes eaten res) : Within src room chars sizes eaten res := by
  have stop : ∀ {src chars sizes : List Nat} {room eaten : Nat}, eaten ≤ eaten + src.length ∧
      chars.length ≤ chars.length + room ∧ sizes.length + chars.length = chars.length + sizes.length :=
    ⟨Nat.le_add_right _ _, Nat.le_add_right _ _, Nat.add_comm _ _⟩
  induction h with
  | full => exact stop
  | more => exact stop
  | tight => exact stop
  | exc => trivial
  | over =>
    split
    · exact stop
    · trivial
  | @item src room chars sizes eaten v n res hn hv hroom _ ih =>
    cases res with
    | exc e => trivial
    | ok c s m =>
      obtain ⟨h1, h2, h3⟩ := ih
      rw [List.length_drop, Nat.add_assoc, Nat.add_sub_cancel' (next_val hn).2] at h1
      rw [List.length_append, Nat.add_assoc, Nat.add_sub_cancel' hroom] at h2
      rw [List.length_append, List.length_append, sizesOf_length, ← Nat.add_assoc, ← Nat.add_assoc] at h3
      exact ⟨h1, h2, Nat.add_right_cancel h3⟩

theorem run_sound {src : List Nat} {room : Nat} {chars sizes : List Nat} {eaten : Nat} {res : Res}
    (h : Run src room chars sizes eaten res) : AllBytes src → ∀ {chars' sizes' eaten'}, res = .ok chars' sizes' eaten' →
    ∃ ss rest, Scalars ss ∧ src = encodeAll ss ++ rest ∧ eaten' = eaten + (encodeAll ss).length
      ∧ chars' = chars ++ utf16All ss := by
  have stop : ∀ {src chars sizes eaten chars' sizes' eaten'}, Res.ok chars sizes eaten = .ok chars' sizes' eaten' →
      ∃ ss rest, Scalars ss ∧ src = encodeAll ss ++ rest ∧ eaten' = eaten + (encodeAll ss).length
        ∧ chars' = chars ++ utf16All ss := fun h => by
    cases h; exact ⟨[], _, nofun, rfl, rfl, (List.append_nil _).symm⟩
  induction h with
  | full => exact fun _ _ _ _ => stop
  | more => exact fun _ _ _ _ => stop
  | tight => exact fun _ _ _ _ => stop
  | exc => exact fun _ _ _ _ => nofun
  | over =>
    intro _ _ _ _ h
    split at h
    · exact stop h
    · cases h
  | @item src room chars sizes eaten v n res hn hv hroom _ ih =>
    intro hb _ _ _ h
    obtain ⟨ss, r, hs, he, hn', hc⟩ := ih (allBytes_drop hb n) h
    obtain ⟨henc, hsc⟩ := next_scalar hb hn hv
    have hlen : (encode v).length = n := by rw [henc, List.length_take, Nat.min_eq_left (next_val hn).2]
    refine ⟨v :: ss, r, scalars_cons.2 ⟨hsc, hs⟩, ?_, ?_, ?_⟩
    · rw [encodeAll_cons, henc, List.append_assoc, ← he, List.take_append_drop]
    · rw [hn', encodeAll_cons, List.length_append, hlen, Nat.add_assoc]
    · rw [hc, utf16All_cons, List.append_assoc]

theorem run_complete : ∀ (ss : List Nat) {room : Nat} {chars sizes : List Nat} {eaten : Nat} {res : Res},
    Scalars ss → (utf16All ss).length ≤ room → Run (encodeAll ss) room chars sizes eaten res →
    ∃ sizes', res = .ok (chars ++ utf16All ss) sizes' (eaten + (encodeAll ss).length)
  | [], _, chars, sizes, eaten, _, _, _, h => by
    have stop : ∃ sizes', Res.ok chars sizes eaten = .ok (chars ++ utf16All []) sizes' (eaten + (encodeAll []).length) :=
      ⟨sizes, by rw [show utf16All [] = [] from rfl, List.append_nil]; rfl⟩
    cases h with
    | full => exact stop
    | more => exact stop
    | exc _ hn => cases hn
    | over _ hn => cases hn
    | tight hn => cases hn
    | item hn => cases hn
  | s :: ss, room, chars, sizes, eaten, res, hs, hr, h => by
    obtain ⟨hs0, hss⟩ := scalars_cons.1 hs
    rw [utf16All_cons, List.length_append] at hr
    have hu := (utf16_len s).1
    have hn := next_encode hs0 (encodeAll ss)
    rw [encodeAll_cons] at h
    cases h with
    | full => omega
    | more hm => rw [hn] at hm; cases hm
    | exc _ hm => rw [hn] at hm; cases hm
    | over _ hm hv => rw [hn] at hm; cases hm; have := hs0.1; omega
    | tight hm hlt => rw [hn] at hm; cases hm; omega
    | item hm _ _ hrun =>
      rw [hn] at hm; cases hm
      rw [List.drop_left] at hrun
      obtain ⟨sz, rfl⟩ := run_complete ss hss (by omega) hrun
      exact ⟨sz, by rw [utf16All_cons, encodeAll_cons, List.append_assoc, List.length_append, Nat.add_assoc]⟩

theorem contByte_small : ∀ y, y < 256 → ((y ||| 0x80) &&& 0xBF) = 0x80 + y % 64 := by decide +kernel

theorem contByte (x : Nat) : ((x ||| 0x80) &&& 0xBF) % 256 = 0x80 + x % 64 := by
  have h := @Nat.and_mod_two_pow (x ||| 0x80) 0xBF 8
  have h2 := @Nat.or_mod_two_pow x 0x80 8
  simp only [show (2:Nat)^8 = 256 from rfl] at h h2
  rw [h, h2]
  have := contByte_small (x % 256) (Nat.mod_lt _ (by decide))
  simp only [show (0x80:Nat) % 256 = 0x80 from rfl, show (0xBF:Nat) % 256 = 0xBF from rfl]
  rw [this]; omega

theorem lead1 : ∀ y, y < 128 → (y ||| 0) % 256 = y := by decide +kernel
theorem lead2 : ∀ y, y < 32 → (y ||| 0xC0) % 256 = 0xC0 + y := by decide +kernel
theorem lead3 : ∀ y, y < 16 → (y ||| 0xE0) % 256 = 0xE0 + y := by decide +kernel
theorem lead4 : ∀ y, y < 8 → (y ||| 0xF0) % 256 = 0xF0 + y := by decide +kernel

theorem emit_eq_encode (s : Nat) (hs : s < 0x110000) :
    emit s (if s < 0x80 then 1 else if s < 0x800 then 2 else if s < 0x10000 then 3 else 4) = encode s := by
  obtain ⟨m1, m2, m3, m4⟩ := firstMark_vals
  fun_cases encode s with
  | case1 h1 =>
    simp only [h1, if_true, emit, m1]
    rw [lead1 s h1]
  | case2 h1 h2 =>
    simp only [h1, h2, if_true, if_false, emit, m2]
    rw [lead2 (s / 64) (by omega), contByte]
  | case3 h1 h2 h3 =>
    simp only [h1, h2, h3, if_true, if_false, emit, m3]
    rw [lead3 (s / 4096) (by omega), contByte, contByte]
  | case4 h1 h2 h3 =>
    simp only [h1, h2, h3, if_false, emit, m4]
    rw [lead4 (s / 262144) (by omega), contByte, contByte, contByte]

theorem encode_len (s : Nat) : (encode s).length =
    (if s < 0x80 then 1 else if s < 0x800 then 2 else if s < 0x10000 then 3 else 4) := by
  unfold encode; (repeat' split) <;> rfl

theorem pairVal_spec {s : Nat} (h1 : 0x10000 ≤ s) (h2 : s < 0x110000) :
    pairVal (0xD800 + (s - 0x10000) / 1024) (0xDC00 + (s - 0x10000) % 1024) = s := by
  rw [pairVal, sub32_small (by omega) (by omega)]
  omega

theorem toLoop_succ (thr : Bool) (fuel : Nat) {c : Nat} {rest : List Nat} (room : Nat) (out : List Nat) (eaten : Nat) {s : Nat}
    (hh : ¬ ((0xD800 ≤ c ∧ c ≤ 0xDBFF) ∧ rest = []))
    (hv : (if 0xD800 ≤ c ∧ c ≤ 0xDBFF then pairVal c (rest.headD 0) else c) = s) (hs : s < 0x110000)
    (hr : (encode s).length ≤ room) :
    toLoop thr (fuel + 1) (c :: rest) room out eaten =
      toLoop thr fuel ((c :: rest).drop (if 0xD800 ≤ c ∧ c ≤ 0xDBFF then 2 else 1)) (room - (encode s).length)
        (out ++ encode s) (eaten + (if 0xD800 ≤ c ∧ c ≤ 0xDBFF then 2 else 1)) := by
  rw [toLoop]
  simp only [if_neg hh, hv, if_neg (Nat.not_le.2 hs), ← encode_len, if_neg (Nat.not_lt.2 hr)]
  rw [encode_len, emit_eq_encode s hs]

theorem toLoop_complete (thr : Bool) : ∀ (ss : List Nat) (fuel room : Nat) (out : List Nat) (eaten : Nat),
    Scalars ss → (utf16All ss).length ≤ fuel → (encodeAll ss).length ≤ room →
    toLoop thr fuel (utf16All ss) room out eaten
        = .ok (out ++ encodeAll ss) (eaten + (utf16All ss).length) := by
  intro ss
  induction ss with
  | nil =>
    intro fuel room out eaten _ _ _
    rw [show encodeAll [] = [] from rfl, show utf16All [] = [] from rfl, List.append_nil]
    cases fuel <;> rfl
  | cons s ss ih =>
    intro fuel room out eaten hs hf hr
    obtain ⟨hs0, hss⟩ := scalars_cons.1 hs
    rw [encodeAll_cons, List.length_append] at hr
    rw [utf16All_cons, List.length_append] at hf
    rw [encodeAll_cons, utf16All_cons, List.length_append, ← List.append_assoc, ← Nat.add_assoc]
    by_cases hbmp : s < 0x10000
    · have nh : ¬ (0xD800 ≤ s ∧ s ≤ 0xDBFF) := fun h => hs0.2 ⟨h.1, by omega⟩
      rw [utf16, if_pos hbmp] at hf ⊢
      obtain ⟨f, rfl⟩ : ∃ f, fuel = f + 1 := ⟨fuel - 1, by rw [List.length_singleton] at hf; omega⟩
      rw [List.singleton_append, toLoop_succ thr f room out eaten (fun h => nh h.1) (if_neg nh) hs0.1 (by omega), if_neg nh]
      exact ih f _ _ _ hss (by rw [List.length_singleton] at hf; omega) (by omega)
    · have yh : 0xD800 ≤ 0xD800 + (s - 0x10000) / 1024 ∧ 0xD800 + (s - 0x10000) / 1024 ≤ 0xDBFF := by
        have := hs0.1; omega
      rw [utf16, if_neg hbmp] at hf ⊢
      obtain ⟨f, rfl⟩ : ∃ f, fuel = f + 1 := ⟨fuel - 1, by rw [List.length_cons] at hf; omega⟩
      rw [List.cons_append, List.cons_append, List.nil_append,
        toLoop_succ thr f room out eaten (fun h => List.cons_ne_nil _ _ h.2)
          (by rw [if_pos yh, List.headD_cons]; exact pairVal_spec (Nat.le_of_not_lt hbmp) hs0.1) hs0.1 (by omega), if_pos yh]
      exact ih f _ _ _ hss (by rw [List.length_cons, List.length_singleton] at hf; omega) (by omega)

end XV.Lemmas.Utf8
