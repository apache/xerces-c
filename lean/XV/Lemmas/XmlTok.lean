/- Round trip of stage 1 of the reference recogniser (XV.Spec.Xml.Parse): characters ↔ tokens.  A token is lexically
   valid if `lexTokE` holds of it; `okTokE` says that it lies in the proved fragment, which restricts DOCTYPE tokens
   (XmlDtd) and nothing else. -/
import XV.Lemmas.XmlDtd
namespace XV.Lemmas.Xml
open XV.Spec.Xml XV.Spec.XmlChar

theorem renderEq_headNot {e : EqS} (rest : Str) (h : lexEq e = true) : HeadNot isNameCharC (renderEq e ++ rest) := by
  rw [renderEq, List.append_assoc]
  exact headNot_nameChar_S_append (Bool.and_eq_true _ _ ▸ h).1 (HeadNot.cons (by decide))

theorem parseAttr_iff {pre s : Str} {a : Attr} {r : Str} :
    parseAttr pre s = .ok (a, r) ↔ a.pre = pre ∧
      s = a.name ++ (renderEq a.eq ++ a.q.char :: (renderPieces a.val ++ a.q.char :: r)) ∧
      isName a.name = true ∧ lexEq a.eq = true ∧ a.val.all (lexPiece a.q) = true := by
  constructor
  · fun_cases parseAttr pre s
    case case5 n r1 h1 e r2 h2 q r3 h3 ps r4 h4 =>
      rintro ⟨⟩
      obtain ⟨rfl, hn, -⟩ := parseName_iff.mp h1
      obtain ⟨rfl, he, -⟩ := parseEq_iff.mp h2
      obtain rfl := parseQuote_iff.mp h3
      obtain ⟨rfl, hv⟩ := (parsePieces_iff (Nat.le_refl _)).mp h4
      exact ⟨rfl, rfl, hn, he, hv⟩
    all_goals nofun
  · rintro ⟨rfl, rfl, hn, he, hv⟩
    simp only [parseAttr, parseName_iff.mpr ⟨rfl, hn, renderEq_headNot _ he⟩,
      parseEq_iff.mpr ⟨rfl, he, quote_headNotS a.q _⟩, parseQuote_iff.mpr rfl,
      (parsePieces_iff (Nat.le_refl _)).mpr ⟨rfl, hv⟩]

theorem lexAttr_iff (a : Attr) : lexAttr a = true ↔ nonemptyS a.pre = true ∧ isName a.name = true ∧ lexEq a.eq = true ∧
    a.val.all (lexPiece a.q) = true := by
  simp only [lexAttr, nonemptyS, Bool.and_eq_true, and_assoc]

theorem renderAttr_append (a : Attr) (rest : Str) : renderAttr a ++ rest =
    a.pre ++ (a.name ++ (renderEq a.eq ++ a.q.char :: (renderPieces a.val ++ a.q.char :: rest))) := by
  simp only [renderAttr, renderQuoted, List.append_assoc, List.cons_append, List.nil_append]

def tagClose (e : Bool) : Str := if e then ['/', '>'] else ['>']

theorem parseAtts_iff {fuel : Nat} {s : Str} {as : List Attr} {ws : Str} {e : Bool} {r : Str} (hf : s.length ≤ fuel) :
    parseAtts fuel s = .ok ((as, ws, e), r) ↔
      s = renderAttrs as ++ (ws ++ (tagClose e ++ r)) ∧ as.all lexAttr = true ∧ allS ws = true := by
  constructor
  · clear hf
    fun_induction parseAtts fuel s generalizing as ws e r
    case case3 f s t h2 | case5 f s t _ h2 =>
      rintro ⟨⟩
      obtain ⟨w, hw, hs, hl⟩ := spanS_cons h2
      rw [hw]
      exact ⟨hs, rfl, hl⟩
    case case10 f s c t h2 _ _ hne a r1 ha as' w' e' r2 hr ih =>
      rintro ⟨⟩
      obtain ⟨w, hw, hs, hl⟩ := spanS_cons h2
      obtain ⟨hpre, hsa, hn, he, hv⟩ := parseAttr_iff.mp ha
      obtain ⟨rfl, hla, hw'⟩ := ih hr
      rw [hw] at hpre hne
      refine ⟨by rw [hs, hsa, renderAttrs, List.append_assoc, renderAttr_append, hpre], ?_, hw'⟩
      rw [List.all_cons, hla, Bool.and_true, lexAttr_iff, hpre]
      exact ⟨nonemptyS_iff.mpr ⟨hl, hne⟩, hn, he, hv⟩
    all_goals nofun
  · rintro ⟨rfl, hl, hw⟩
    induction fuel generalizing as with
    | zero => cases e <;> simp [tagClose] at hf
    | succ fuel ih =>
      cases as with
      | nil =>
        cases e with
        | false =>
          have hs := spanP_append (rest := '>' :: r) hw (HeadNot.cons (by decide))
          simp only [renderAttrs, tagClose, Bool.false_eq_true, if_false, List.nil_append, List.cons_append, parseAtts, hs,
            if_true]
        | true =>
          have hs := spanP_append (rest := '/' :: '>' :: r) hw (HeadNot.cons (by decide))
          have n1 : '/' ≠ '>' := by decide
          simp only [renderAttrs, tagClose, if_true, List.nil_append, List.cons_append, parseAtts, hs, if_neg n1]
      | cons a as =>
        rw [List.all_cons, Bool.and_eq_true, lexAttr_iff] at hl
        obtain ⟨⟨hpre, hn, he, hv⟩, hl⟩ := hl
        obtain ⟨c, t, hct⟩ := List.exists_cons_of_ne_nil (isName_ne_nil hn)
        have hc := nameStart_nameChar (isName_head (hct ▸ hn))
        have n1 : c ≠ '>' := ne_of_class hc (by decide)
        have n2 : c ≠ '/' := ne_of_class hc (by decide)
        have hs := spanP_append (nonemptyS_iff.mp hpre).1
          (name_headNotS hn (renderEq a.eq ++ a.q.char :: (renderPieces a.val ++ a.q.char :: (renderAttrs as ++ (ws ++ (tagClose e ++ r))))))
        have pa := (parseAttr_iff (r := renderAttrs as ++ (ws ++ (tagClose e ++ r)))).mpr ⟨rfl, rfl, hn, he, hv⟩
        rw [hct, List.cons_append] at hs pa
        rw [renderAttrs, List.append_assoc, renderAttr_append] at hf
        simp only [List.length_append, List.length_cons] at hf
        simp only [renderAttrs, List.append_assoc, renderAttr_append, hct, parseAtts, hs, List.cons_append, if_neg n1,
          if_neg n2, if_neg (nonemptyS_iff.mp hpre).2, pa,
          ih (by simp only [List.length_append]; omega) hl]

theorem tagTail_headNot {as : List Attr} {ws : Str} (e : Bool) (rest : Str) (hl : as.all lexAttr = true)
    (hw : allS ws = true) : HeadNot isNameCharC (renderAttrs as ++ (ws ++ (tagClose e ++ rest))) := by
  cases as with
  | nil => cases e <;> exact headNot_nameChar_S_append (b := _ :: _) hw (HeadNot.cons (by decide))
  | cons a as =>
    rw [List.all_cons, Bool.and_eq_true, lexAttr_iff] at hl
    rw [renderAttrs, List.append_assoc, renderAttr_append]
    exact nonemptyS_headNot hl.1.1 _

theorem parseTag_iff {s : Str} {tk : Tok} {r : Str} :
    parseTag s = .ok (tk, r) ↔ ∃ t e, tk = (if e then Tok.empty t else Tok.stag t) ∧
      s = t.name ++ (renderAttrs t.atts ++ (t.ws ++ (tagClose e ++ r))) ∧ lexTag t = true := by
  constructor
  · fun_cases parseTag s
    case case3 n r1 h1 as w e r2 h2 =>
      rintro ⟨⟩
      obtain ⟨rfl, hn, -⟩ := parseName_iff.mp h1
      obtain ⟨rfl, hl, hw⟩ := (parseAtts_iff (Nat.le_refl _)).mp h2
      exact ⟨⟨n, as, w⟩, e, rfl, rfl, by simp only [lexTag, hn, hl, hw, Bool.and_self]⟩
    all_goals nofun
  · rintro ⟨t, e, rfl, rfl, h⟩
    simp only [lexTag, Bool.and_eq_true] at h
    obtain ⟨⟨hn, ha⟩, hw⟩ := h
    simp only [parseTag, parseName_iff.mpr ⟨rfl, hn, tagTail_headNot e r ha hw⟩,
      (parseAtts_iff (Nat.le_refl _)).mpr ⟨rfl, ha, hw⟩]

theorem parseETag_iff {s : Str} {tk : Tok} {r : Str} :
    parseETag s = .ok (tk, r) ↔ ∃ n ws, tk = .etag n ws ∧ s = n ++ (ws ++ '>' :: r) ∧ isName n = true ∧ allS ws = true := by
  constructor
  · fun_cases parseETag s
    case case3 n r1 h1 t h2 =>
      rintro ⟨⟩
      obtain ⟨rfl, hn, -⟩ := parseName_iff.mp h1
      exact ⟨n, _, rfl, congrArg _ (spanP_snd_cons h2).1, hn, spanP_fst_all isSC r1⟩
    all_goals nofun
  · rintro ⟨n, ws, rfl, rfl, hn, hw⟩
    have h1 : HeadNot isNameCharC (ws ++ '>' :: r) := headNot_nameChar_S_append hw (HeadNot.cons (by decide))
    have h2 : HeadNot isSC ('>' :: r) := HeadNot.cons (by decide)
    simp only [parseETag, parseName_iff.mpr ⟨rfl, hn, h1⟩, spanP_append hw h2, if_true]

/-- lexical validity of a token of the DOCTYPE-free fragment -/
def lexTok : Tok → Bool
  | .leaf l => lexLeaf l
  | .stag t => lexTag t
  | .etag n w => isName n && allS w
  | .empty t => lexTag t
  | .doctype _ => false

def noDoctypeTok : Tok → Bool
  | .doctype _ => false
  | _ => true

/-- lexical validity of a token, DOCTYPE tokens of the entity-only fragment included -/
def lexTokE : Tok → Bool
  | .doctype d => lexDoctypeE d
  | t => lexTok t

def okTokE : Tok → Bool
  | .doctype d => entOnly d
  | _ => true

theorem nextTok_tag {t : Tag} (e : Bool) (rest : Str) (h : lexTag t = true) :
    nextTok ('<' :: (t.name ++ (renderAttrs t.atts ++ (t.ws ++ (tagClose e ++ rest))))) =
      .ok (if e then .empty t else .stag t, rest) := by
  have hn : isName t.name = true := by simp only [lexTag, Bool.and_eq_true] at h; exact h.1.1
  obtain ⟨c, tl, hc⟩ := List.exists_cons_of_ne_nil (isName_ne_nil hn)
  have hcn := nameStart_nameChar (isName_head (hc ▸ hn))
  have n1 : c ≠ '!' := ne_of_class hcn (by decide)
  have n2 : c ≠ '?' := ne_of_class hcn (by decide)
  have n3 : c ≠ '/' := ne_of_class hcn (by decide)
  have p := (parseTag_iff (r := rest)).mpr ⟨t, e, rfl, rfl, h⟩
  rw [hc, List.cons_append] at p ⊢
  simp only [nextTok, if_true, if_neg n1, if_neg n2, if_neg n3, p]

theorem parseBang_sound {s : Str} {tk : Tok} {r : Str} (hk : okTokE tk = true) : parseBang s = .ok (tk, r) →
    '<' :: '!' :: s = renderTok tk ++ r ∧ lexTokE tk = true := by
  fun_cases parseBang s
  case case2 r1 b1 b r2 b2 =>
    rintro ⟨⟩
    obtain ⟨rfl, hl⟩ := parseComment_iff.mp b2
    exact ⟨by rw [stripPrefix_iff.mp b1]; simp only [renderTok, renderLeaf, List.cons_append, List.nil_append,
      List.append_assoc], hl⟩
  case case4 _ r1 b1 b r2 b2 =>
    rintro ⟨⟩
    obtain ⟨rfl, hl⟩ := (scanUntil_iff (by simp)).mp b2
    exact ⟨by rw [stripPrefix_iff.mp b1]; simp only [renderTok, renderLeaf, List.cons_append, List.nil_append,
      List.append_assoc], hl⟩
  case case6 _ _ r1 b1 d r2 b2 =>
    rintro ⟨⟩
    obtain ⟨rfl, hl⟩ := (parseDoctype_iff hk).mp b2
    exact ⟨by rw [stripPrefix_iff.mp b1]; simp only [renderTok, renderDoctype_eq, List.cons_append, List.nil_append], hl⟩
  all_goals nofun

theorem nextTok_iff {s : Str} {tk : Tok} {r : Str} (hk : okTokE tk = true) :
    nextTok s = .ok (tk, r) ↔ s = renderTok tk ++ r ∧ lexTokE tk = true := by
  constructor
  · fun_cases nextTok s
    case case3 t => exact parseBang_sound hk
    case case5 t n sp dt r1 b1 _ =>
      rintro ⟨⟩
      obtain ⟨rfl, hl⟩ := parsePI_iff.mp b1
      exact ⟨by simp only [renderTok, renderLeaf, List.cons_append, List.nil_append, List.append_assoc], hl⟩
    case case6 t _ _ =>
      intro h
      obtain ⟨n, ws, rfl, rfl, hn, hw⟩ := parseETag_iff.mp h
      exact ⟨by simp only [renderTok, renderETag, List.cons_append, List.nil_append, List.append_assoc],
        by simp only [lexTokE, lexTok, hn, hw, Bool.and_self]⟩
    case case7 d t _ _ _ =>
      intro h
      obtain ⟨tg, e, rfl, hs, hl⟩ := parseTag_iff.mp h
      rw [hs]
      cases e <;> exact ⟨by simp only [renderTok, renderTagOpen, tagClose, List.cons_append, List.nil_append,
        List.append_assoc, reduceIte, Bool.false_eq_true], hl⟩
    case case9 t x rest b1 _ | case10 t x rest b1 _ =>
      rintro ⟨⟩
      obtain ⟨rfl, hl⟩ := parseRef_iff.mp b1
      exact ⟨congrArg (· ++ r) (renderPiece_ref hl).symm, hl⟩
    case case12 c t h1 h2 =>
      rintro ⟨⟩
      exact ⟨rfl, by simp [lexTokE, lexTok, lexLeaf, h1, h2]⟩
    all_goals nofun
  · rintro ⟨rfl, h⟩
    cases tk with
    | doctype d =>
      simp only [nextTok, renderTok, renderDoctype_eq, List.cons_append, List.nil_append, reduceIte, parseBang, stripPrefix,
        Char.reduceEq, (parseDoctype_iff hk).mpr ⟨rfl, h⟩]
    | stag t =>
      have := nextTok_tag false r h
      simpa only [renderTok, renderTagOpen, List.cons_append, List.append_assoc, List.nil_append, tagClose,
        Bool.false_eq_true, reduceIte] using this
    | empty t =>
      have := nextTok_tag true r h
      simpa only [renderTok, renderTagOpen, List.cons_append, List.append_assoc, List.nil_append, tagClose, reduceIte]
        using this
    | etag n w =>
      simp only [lexTokE, lexTok, Bool.and_eq_true] at h
      simp only [nextTok, renderTok, renderETag, List.cons_append, List.append_assoc, List.nil_append, reduceIte,
        Char.reduceEq, parseETag_iff.mpr ⟨n, w, rfl, rfl, h⟩]
    | leaf l =>
      cases l with
      | ch c =>
        simp only [lexTokE, lexTok, lexLeaf, Bool.and_eq_true, bne_iff_ne, ne_eq] at h
        simp only [renderTok, renderLeaf, List.cons_append, List.nil_append, nextTok, if_neg h.1, if_neg h.2]
      | cref cr =>
        have hr : lexRef (.cref cr) = true := h
        simp only [nextTok, show renderTok (.leaf (.cref cr)) = _ from renderPiece_ref hr, List.cons_append, Char.reduceEq,
          reduceIte, parseRef_iff.mpr ⟨rfl, hr⟩]
      | eref n =>
        have hr : lexRef (.eref n) = true := h
        simp only [nextTok, show renderTok (.leaf (.eref n)) = _ from renderPiece_ref hr, List.cons_append, Char.reduceEq,
          reduceIte, parseRef_iff.mpr ⟨rfl, hr⟩]
      | cdata b =>
        have hsc := (scanUntil_iff (nd := [']', ']', '>']) (r := r) (by simp)).mpr ⟨rfl, h⟩
        simp only [List.cons_append, List.nil_append] at hsc
        simp only [nextTok, renderTok, renderLeaf, List.cons_append, List.nil_append, List.append_assoc, reduceIte,
          parseBang, stripPrefix, Char.reduceEq, hsc]
      | comment b =>
        simp only [nextTok, renderTok, renderLeaf, List.cons_append, List.nil_append, List.append_assoc, reduceIte,
          parseBang, stripPrefix, parseComment_iff.mpr ⟨rfl, h⟩]
      | pi t sp d =>
        simp only [nextTok, renderTok, renderLeaf, List.cons_append, List.append_assoc, List.nil_append, reduceIte,
          Char.reduceEq, parsePI_iff.mpr ⟨rfl, h⟩]

theorem renderTok_eq_cons (tk : Tok) : ∃ c t, renderTok tk = c :: t := by
  cases tk with
  | leaf l => cases l <;> exact ⟨_, _, rfl⟩
  | stag | etag | empty | doctype => exact ⟨_, _, rfl⟩

theorem tokenize_iff {fuel : Nat} {s : Str} {ts : List Tok} (hf : s.length < fuel) (hk : ts.all okTokE = true) :
    tokenize fuel s = .ok ts ↔ s = renderToks ts ∧ ts.all lexTokE = true := by
  constructor
  · clear hf
    fun_induction tokenize fuel s generalizing ts
    case case2 => rintro ⟨⟩; exact ⟨rfl, rfl⟩
    case case5 f c t tk r h1 ts' h2 ih =>
      rintro ⟨⟩
      rw [List.all_cons, Bool.and_eq_true] at hk
      obtain ⟨hs, hl⟩ := (nextTok_iff hk.1).mp h1
      obtain ⟨rfl, hls⟩ := ih hk.2 h2
      exact ⟨hs, by rw [List.all_cons, hl, hls]; rfl⟩
    all_goals nofun
  · rintro ⟨rfl, hl⟩
    induction fuel generalizing ts with
    | zero => cases hf
    | succ fuel ih =>
      cases ts with
      | nil => rfl
      | cons tk ts =>
        rw [List.all_cons, Bool.and_eq_true] at hl hk
        obtain ⟨c, tl, hc⟩ := renderTok_eq_cons tk
        have p := (nextTok_iff (r := renderToks ts) hk.1).mpr ⟨rfl, hl.1⟩
        rw [hc, List.cons_append] at p
        rw [renderToks, hc, List.cons_append, List.length_cons, List.length_append] at hf
        simp only [renderToks, hc, List.cons_append, tokenize, p, ih hk.2 hl.2 (by omega)]

end XV.Lemmas.Xml
