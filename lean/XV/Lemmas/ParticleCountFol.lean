/-
C08 — counting states: the follow relation of a compact skeleton.  Closures only surround single leaves there,
hence the follow relation only goes forward (`fol_le`), the only cycles are the self-loops of `*` / `+` leaves,
and a `+` leaf never shares its follow set with an earlier position (`plus_sep`): the subset construction never
merges the state entered by a `Loop` leaf with minOccurs ≥ 1 with a state entered by another leaf.  The induction
for the latter (`plus_spec`) carries two more facts about a `+` leaf: it follows itself, and its follow set is not
the initial set of its subtree.
-/
import XV.Lemmas.Glushkov
namespace XV.Lemmas.ParticleCount
open XV.Spec.ContentModel (CM)
open XV.Lemmas.Glushkov

/-- the shape of the skeleton of a `Compact` tree (`compact_sk`): closures only around single leaves -/
def CompactCM : CM → Bool
  | .leaf _ => true
  | .opt (.leaf _) => true
  | .star (.leaf _) => true
  | .plus (.leaf _) => true
  | .seq a b => CompactCM a && CompactCM b
  | .choice a b => CompactCM a && CompactCM b
  | _ => false

/-- position `p` is a leaf below `+` -/
def plusAt : CM → Nat → Nat → Bool
  | .leaf _, _, _ => false
  | .seq a b, lo, p => plusAt a lo p || plusAt b (lo + size a) p
  | .choice a b, lo, p => plusAt a lo p || plusAt b (lo + size a) p
  | .opt a, lo, p => plusAt a lo p
  | .star _, _, _ => false
  | .plus _, lo, p => p == lo

theorem fol_le {c : CM} (hc : CompactCM c = true) {lo p q : Nat} (h : fol c lo p q = true) : p ≤ q := by
  fun_induction CompactCM c generalizing lo with
  | case1 n | case2 n => cases h
  | case3 n | case4 n =>
    obtain ⟨rfl, rfl⟩ : p = lo ∧ q = lo := by simpa [fol, last, first] using h
    exact Nat.le_refl _
  | case5 a b iha ihb =>
    rw [Bool.and_eq_true] at hc
    simp only [fol, Bool.or_eq_true, Bool.and_eq_true] at h
    rcases h with (h | h) | ⟨h1, h2⟩
    · exact iha hc.1 h
    · exact ihb hc.2 h
    · exact Nat.le_of_lt (Nat.lt_of_lt_of_le (last_range h1).2 (first_range h2).1)
  | case6 a b iha ihb =>
    rw [Bool.and_eq_true] at hc
    rw [fol, Bool.or_eq_true] at h
    exact h.elim (iha hc.1) (ihb hc.2)
  | case7 => cases hc

theorem true_of_ne {x y : Bool} (h : x ≠ y) : x = true ∨ y = true := by
  cases x <;> cases y <;> simp at h ⊢

/-- in `seq a b` the end marker of `a` stands for the first positions of `b`; they lie outside `a` and there is one, so
    two different pairs (set of positions of `a`, end marker) stay different -/
theorem bridge_ne (b : CM) {lo' : Nat} {F F' : Nat → Bool} {l l' : Bool} (hF : ∀ r, F r = true → r < lo')
    (hF' : ∀ r, F' r = true → r < lo') (h : (∃ r, F r ≠ F' r) ∨ l ≠ l') :
    ∃ r, (F r || (l && first b lo' r)) ≠ (F' r || (l' && first b lo' r)) := by
  rcases h with ⟨r, hne⟩ | hne
  · have hr : r < lo' := (true_of_ne hne).elim (hF r) (hF' r)
    exact ⟨r, by rwa [first_out fun h => Nat.not_lt.2 h.1 hr, Bool.and_false, Bool.and_false, Bool.or_false, Bool.or_false]⟩
  · obtain ⟨r', hr'⟩ := first_nonempty b lo'
    have hout : ∀ G : Nat → Bool, (∀ r, G r = true → r < lo') → G r' = false := fun G hG =>
      Bool.eq_false_iff.2 fun h => Nat.not_lt.2 (first_range hr').1 (hG r' h)
    exact ⟨r', by rwa [hr', hout F hF, hout F' hF', Bool.and_true, Bool.and_true, Bool.false_or, Bool.false_or]⟩

/-- follow sets are compared as pairs (positions inside `c`, edge into the end marker, `last c lo p`); the initial set of
    `c` is the pair (`first c lo`, `nullable c`) -/
theorem plus_spec {c : CM} (hc : CompactCM c = true) {lo p : Nat} (h : plusAt c lo p = true) :
    fol c lo p p = true ∧ ((∃ r, fol c lo p r ≠ first c lo r) ∨ last c lo p ≠ nullable c) ∧
      ∀ q, q < p → (∃ r, fol c lo q r ≠ fol c lo p r) ∨ last c lo q ≠ last c lo p := by
  fun_induction CompactCM c generalizing lo with
  | case1 n | case2 n | case3 n => cases h
  | case4 n =>
    rw [plusAt, beq_iff_eq] at h
    -- an earlier `q` lies before the leaf and has no follower
    exact ⟨by simp [fol, last, first, h], .inr (by simp [last, nullable, h]),
      fun q hqp => .inl ⟨lo, by simp [fol, last, first, h, Nat.ne_of_lt (h ▸ hqp)]⟩⟩
  | case5 a b iha ihb =>
    rw [Bool.and_eq_true] at hc
    rw [plusAt, Bool.or_eq_true] at h
    rcases h with h | h
    · obtain ⟨hs, hi, hsep⟩ := iha hc.1 h
      have hp := (fol_range hs).1
      refine ⟨by rw [fol, hs]; rfl, .inl ?_, fun q hqp => .inl ?_⟩
      · simp only [fol_seq_left hp.2, first]
        exact bridge_ne b (fun r h => (fol_range h).2.2) (fun r h => (first_range h).2) hi
      · simp only [fol_seq_left (Nat.lt_trans hqp hp.2), fol_seq_left hp.2]
        exact bridge_ne b (fun r h => (fol_range h).2.2) (fun r h => (fol_range h).2.2) (hsep q hqp)
    · obtain ⟨hs, hi, hsep⟩ := ihb hc.2 h
      have hp := (fol_range hs).1
      have hself : fol (.seq a b) lo p p = true := by rw [fol_seq_right hp.1, hs]
      refine ⟨hself, .inl ?_, fun q hqp => ?_⟩
      · obtain ⟨r', hr'⟩ := first_nonempty a lo
        refine ⟨r', ?_⟩
        rw [fol_seq_right hp.1, first, hr', fol_out_r fun h' => Nat.not_lt.2 h'.1 (first_range hr').2]
        exact Bool.false_ne_true
      · by_cases hq' : lo + size a ≤ q
        · exact (hsep q hqp).imp (fun ⟨r, hne⟩ => ⟨r, by rwa [fol_seq_right hq', fol_seq_right hp.1]⟩) fun hne => by
            rwa [last_seq_right hq', last_seq_right hp.1]
        · have hqa := Nat.lt_of_not_le hq'
          cases hl : last a lo q with
          | true =>
            -- `q` is followed by the whole initial set of `b`
            rcases hi with ⟨r, hne⟩ | hne
            · have hr := (true_of_ne hne).elim (fun h => (fol_range h).2) first_range
              refine .inl ⟨r, ?_⟩
              rw [fol_seq_left hqa, fol_seq_right hp.1, hl, Bool.true_and, fol_out_r fun h' => Nat.not_lt.2 hr.1 h'.2,
                Bool.false_or]
              exact hne.symm
            · refine .inr ?_
              rw [last_seq_left hqa, last_seq_right hp.1, hl, Bool.and_true]
              exact hne.symm
          | false =>
            refine .inl ⟨p, ?_⟩
            rw [hself, fol_seq_left hqa, hl, Bool.false_and, Bool.or_false, fol_out_r fun h => Nat.not_lt.2 hp.1 h.2]
            exact Bool.false_ne_true
  | case6 a b iha ihb =>
    rw [Bool.and_eq_true] at hc
    rw [plusAt, Bool.or_eq_true] at h
    rcases h with h | h
    · obtain ⟨hs, hi, hsep⟩ := iha hc.1 h
      have hp := (fol_range hs).1
      refine ⟨by rw [fol, hs]; rfl, .inl ?_, fun q hqp => ?_⟩
      · obtain ⟨r', hr'⟩ := first_nonempty b (lo + size a)
        refine ⟨r', ?_⟩
        rw [fol_choice_left hp.2, first, hr', Bool.or_true, fol_out_r fun h' => Nat.not_lt.2 (first_range hr').1 h'.2]
        exact Bool.false_ne_true
      · have hqa := Nat.lt_trans hqp hp.2
        exact (hsep q hqp).imp (fun ⟨r, hne⟩ => ⟨r, by rwa [fol_choice_left hqa, fol_choice_left hp.2]⟩) fun hne => by
          rwa [last_choice_left hqa, last_choice_left hp.2]
    · obtain ⟨hs, hi, hsep⟩ := ihb hc.2 h
      have hp := (fol_range hs).1
      have hself : fol (.choice a b) lo p p = true := by rw [fol_choice_right hp.1, hs]
      refine ⟨hself, .inl ?_, fun q hqp => ?_⟩
      · obtain ⟨r', hr'⟩ := first_nonempty a lo
        refine ⟨r', ?_⟩
        rw [fol_choice_right hp.1, first, hr', fol_out_r fun h' => Nat.not_lt.2 h'.1 (first_range hr').2]
        exact Bool.false_ne_true
      · by_cases hq' : lo + size a ≤ q
        · exact (hsep q hqp).imp (fun ⟨r, hne⟩ => ⟨r, by rwa [fol_choice_right hq', fol_choice_right hp.1]⟩) fun hne => by
            rwa [last_choice_right hq', last_choice_right hp.1]
        · refine .inl ⟨p, ?_⟩
          rw [hself, fol_choice_left (Nat.lt_of_not_le hq'), fol_out_r fun h => Nat.not_lt.2 hp.1 h.2]
          exact Bool.false_ne_true
  | case7 => cases hc

theorem plus_sep {c : CM} (hc : CompactCM c = true) {lo p q : Nat} (h : plusAt c lo p = true) (hqp : q < p) :
    (∃ r, fol c lo q r ≠ fol c lo p r) ∨ last c lo q ≠ last c lo p :=
  (plus_spec hc h).2.2 q hqp

end XV.Lemmas.ParticleCount
