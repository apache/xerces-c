/-
C07 — `buildSyntaxTree` (code-shaped: bit masks, threaded `curIndex`/`fLeafList`/`fFollowList`) computes exactly the
nullable/first/last/fol of XV.Lemmas.Glushkov (`TreeSpec`): `buildSyntaxTree_spec`.  One lemma per node kind (leaf,
choice, sequence, `*`; `?` and `+` differ from their child and from `*` in `nullable` only) says what the node adds to the
tables of its children, and `buildSyntaxTree` unfolds to these by computation.
-/
import XV.Lemmas.Glushkov
import XV.Model.ContentModel
namespace XV.Lemmas.DfaTree
open XV.Spec.ContentModel XV.Model.ContentModel XV.Lemmas.Glushkov

theorem testBit_ite_or (c : Bool) (x y : StateSet) (p : Nat) :
    (if c then x ||| y else x).testBit p = (x.testBit p || (c && y.testBit p)) := by
  cases c
  · exact (Bool.or_false _).symm
  · exact Nat.testBit_or ..

theorem testBit_addFollow (fl : List StateSet) (l f : StateSet) (p q : Nat) :
    ((addFollow fl l f).getD p 0).testBit q =
      ((fl.getD p 0).testBit q || (decide (p < fl.length) && (l.testBit p && f.testBit q))) := by
  rw [addFollow, List.getD_eq_getElem?_getD, List.getD_eq_getElem?_getD, List.getElem?_mapIdx]
  by_cases hp : p < fl.length
  · rw [List.getElem?_eq_getElem hp, decide_eq_true hp]; exact testBit_ite_or ..
  · rw [List.getElem?_eq_none (Nat.le_of_not_lt hp), decide_eq_false hp]; exact (Bool.or_false _).symm

theorem length_addFollow (fl : List StateSet) (l f : StateSet) : (addFollow fl l f).length = fl.length :=
  List.length_mapIdx

theorem testBit_bit (p q : Nat) : (bit p).testBit q = decide (q = p) := by
  unfold bit; rw [Nat.one_shiftLeft, Nat.testBit_two_pow]; exact decide_eq_decide.2 eq_comm

/-- what `buildSyntaxTree` returns for the tree of a particle -/
structure TreeSpec (c : CM) (st : BState) (info : CMInfo) (st' : BState) : Prop where
  nullable : info.nullable = nullable c
  first : ∀ p, info.firstPos.testBit p = first c st.curIndex p
  last : ∀ p, info.lastPos.testBit p = last c st.curIndex p
  cur : st'.curIndex = st.curIndex + size c
  leaves : st'.leafList = st.leafList ++ (names c).map some
  len : st'.followList.length = st.followList.length
  follow : ∀ p q, (st'.followList.getD p 0).testBit q =
    ((st.followList.getD p 0).testBit q || (decide (p < st.followList.length) && fol c st.curIndex p q))

section follow
variable {fl0 fl1 fl2 : List StateSet} {F G : Nat → Nat → Bool}

theorem follow_trans (len : fl1.length = fl0.length)
    (h1 : ∀ p q, (fl1.getD p 0).testBit q = ((fl0.getD p 0).testBit q || (decide (p < fl0.length) && F p q)))
    (h2 : ∀ p q, (fl2.getD p 0).testBit q = ((fl1.getD p 0).testBit q || (decide (p < fl1.length) && G p q)))
    (p q : Nat) :
    (fl2.getD p 0).testBit q = ((fl0.getD p 0).testBit q || (decide (p < fl0.length) && (F p q || G p q))) := by
  rw [h2, h1, len, Bool.or_assoc, ← Bool.and_or_distrib_left]

theorem follow_add (len : fl1.length = fl0.length)
    (h1 : ∀ p q, (fl1.getD p 0).testBit q = ((fl0.getD p 0).testBit q || (decide (p < fl0.length) && F p q)))
    {l f : StateSet} {L Fi : Nat → Bool} (hl : ∀ p, l.testBit p = L p) (hf : ∀ q, f.testBit q = Fi q) (p q : Nat) :
    ((addFollow fl1 l f).getD p 0).testBit q =
      ((fl0.getD p 0).testBit q || (decide (p < fl0.length) && (F p q || (L p && Fi q)))) := by
  rw [follow_trans len h1 (testBit_addFollow fl1 l f), hl, hf]
end follow

theorem treeSpec_leaf (n : Name) (st : BState) :
    TreeSpec (.leaf n) st { nullable := false, firstPos := bit st.curIndex, lastPos := bit st.curIndex }
      { st with curIndex := st.curIndex + 1, leafList := st.leafList ++ [some n] } where
  nullable := rfl
  first p := (testBit_bit ..).trans (Bool.beq_eq_decide_eq ..).symm
  last p := (testBit_bit ..).trans (Bool.beq_eq_decide_eq ..).symm
  cur := rfl
  leaves := rfl
  len := rfl
  follow p q := by rw [fol, Bool.and_false, Bool.or_false]

theorem treeSpec_choice {a b : CM} {st st1 st2 : BState} {l r : CMInfo} (ha : TreeSpec a st l st1)
    (hb : TreeSpec b st1 r st2) :
    TreeSpec (.choice a b) st
      { nullable := l.nullable || r.nullable, firstPos := l.firstPos ||| r.firstPos,
        lastPos := l.lastPos ||| r.lastPos } st2 := by
  obtain ⟨cur1, ll1, fl1⟩ := st1
  obtain rfl : cur1 = st.curIndex + size a := ha.cur
  exact {
    nullable := by rw [nullable, ← ha.nullable, ← hb.nullable]
    first := fun p => by rw [first, ← ha.first, ← hb.first]; exact Nat.testBit_or ..
    last := fun p => by rw [last, ← ha.last, ← hb.last]; exact Nat.testBit_or ..
    cur := hb.cur.trans (Nat.add_assoc ..)
    leaves := by rw [hb.leaves, ha.leaves, List.append_assoc, ← List.map_append]; rfl
    len := hb.len.trans ha.len
    follow := follow_trans ha.len ha.follow hb.follow }

/-- a Sequence node leaves the state a Choice node leaves, and adds the edges from the last positions of the left child
    to the first positions of the right one -/
theorem treeSpec_seq {a b : CM} {st st1 st2 : BState} {l r : CMInfo} (ha : TreeSpec a st l st1)
    (hb : TreeSpec b st1 r st2) :
    TreeSpec (.seq a b) st
      { nullable := l.nullable && r.nullable,
        firstPos := if l.nullable then l.firstPos ||| r.firstPos else l.firstPos,
        lastPos := if r.nullable then r.lastPos ||| l.lastPos else r.lastPos }
      { st2 with followList := addFollow st2.followList l.lastPos r.firstPos } := by
  have hc := treeSpec_choice ha hb
  obtain ⟨cur1, ll1, fl1⟩ := st1
  obtain rfl : cur1 = st.curIndex + size a := ha.cur
  exact { hc with
    nullable := by rw [nullable, ← ha.nullable, ← hb.nullable]
    first := fun p => by rw [first, ← ha.first, ← hb.first, ← ha.nullable]; exact testBit_ite_or ..
    last := fun p => by rw [last, ← ha.last, ← hb.last, ← hb.nullable]; exact testBit_ite_or ..
    len := (length_addFollow ..).trans hc.len
    follow := follow_add hc.len hc.follow ha.last hb.first }

theorem treeSpec_star {a : CM} {st st1 : BState} {i : CMInfo} (ha : TreeSpec a st i st1) :
    TreeSpec (.star a) st { i with nullable := true }
      { st1 with followList := addFollow st1.followList i.lastPos i.firstPos } :=
  { ha with
    nullable := rfl
    len := (length_addFollow ..).trans ha.len
    follow := follow_add ha.len ha.follow ha.last ha.first }

theorem buildSyntaxTree_spec (c : CM) : ∀ (st : BState),
    TreeSpec c st (buildSyntaxTree (nodeOfCM c) st).1 (buildSyntaxTree (nodeOfCM c) st).2 := by
  induction c with
  | leaf n => exact treeSpec_leaf n
  | seq a b iha ihb => exact fun st => treeSpec_seq (iha st) (ihb _)
  | choice a b iha ihb => exact fun st => treeSpec_choice (iha st) (ihb _)
  -- `first`, `last`, `fol`, `size`, `names` of `a?` unfold to those of `a`, those of `a+` to those of `a*`
  | opt a iha => exact fun st => { iha st with nullable := rfl }
  | star a iha => exact fun st => treeSpec_star (iha st)
  | plus a iha => exact fun st => { treeSpec_star (iha st) with nullable := (iha st).nullable }

end XV.Lemmas.DfaTree
