/-
C07 / C08 / C11 — languages as predicates on words.  The content-model languages of C07 and C08 (`ReLang`, `CM.Lang`,
`Spec.Particle.PLang`) and the regex language of C11 (`Matches`) are inductive; the inversion lemmas of their modules
read each constructor as concatenation `Cat` or bounded repetition `Rep`.  Proved here for the two operations: the
empty word and the first letter (Brzozowski's rules, read on languages), one iteration of a range (`rep_unfold`) and
the arithmetic of ranges (`x{a,b} x{c,d} = x{a+c,b+d}`).  `rangeOk` and `predOpt` are those of the particle Spec, the
only thing imported.  Core Lean only.
-/
import XV.Spec.Particle
namespace XV.Lemmas.Lang
open XV.Spec.Particle (rangeOk predOpt)

variable {β : Type} {L K L' K' : List β → Prop}

def Cat (L K : List β → Prop) (w : List β) : Prop := ∃ u v, w = u ++ v ∧ L u ∧ K v

/-- `L{a,b}`; `b = none` is no upper bound -/
def Rep (a : Nat) (b : Option Nat) (L : List β → Prop) (w : List β) : Prop :=
  ∃ ws : List (List β), w = ws.flatten ∧ (∀ u, u ∈ ws → L u) ∧ a ≤ ws.length ∧ ∀ m, b = some m → ws.length ≤ m

theorem cat_congr (h1 : ∀ w, L w ↔ L' w) (h2 : ∀ w, K w ↔ K' w) (w : List β) : Cat L K w ↔ Cat L' K' w := by
  simp only [Cat, h1, h2]

theorem rep_congr (a : Nat) (b : Option Nat) (h : ∀ w, L w ↔ L' w) (w : List β) : Rep a b L w ↔ Rep a b L' w := by
  simp only [Rep, h]

theorem cat_nil : Cat L K [] ↔ L [] ∧ K [] :=
  ⟨by rintro ⟨u, v, e, h⟩; obtain ⟨rfl, rfl⟩ := List.append_eq_nil_iff.1 e.symm; exact h, fun h => ⟨[], [], rfl, h⟩⟩

theorem cat_cons {x : β} {w : List β} :
    Cat L K (x :: w) ↔ (L [] ∧ K (x :: w)) ∨ Cat (fun u => L (x :: u)) K w := by
  constructor
  · rintro ⟨u, v, e, h1, h2⟩
    cases u with
    | nil => exact .inl ⟨h1, e ▸ h2⟩
    | cons y u => cases e; exact .inr ⟨u, v, rfl, h1, h2⟩
  · rintro (⟨h1, h2⟩ | ⟨u, v, rfl, h1, h2⟩)
    · exact ⟨[], _, rfl, h1, h2⟩
    · exact ⟨_, v, rfl, h1, h2⟩

theorem eps_cat {w : List β} : Cat (· = []) K w ↔ K w :=
  ⟨by rintro ⟨_, v, rfl, rfl, h⟩; exact h, fun h => ⟨[], w, rfl, rfl, h⟩⟩

theorem cat_eps {w : List β} : Cat L (· = []) w ↔ L w :=
  ⟨by rintro ⟨u, _, rfl, h, rfl⟩; rwa [List.append_nil], fun h => ⟨w, [], (List.append_nil w).symm, h, rfl⟩⟩

theorem bound_succ {n : Nat} {b : Option Nat} :
    (∀ m, b = some m → n + 1 ≤ m) ↔ b ≠ some 0 ∧ ∀ m, predOpt b = some m → n ≤ m := by
  cases b <;> simp [predOpt]; omega

theorem rep_unfold {a : Nat} {b : Option Nat} {w : List β} :
    Rep a b L w ↔ (a = 0 ∧ w = []) ∨ (b ≠ some 0 ∧ Cat L (Rep (a - 1) (predOpt b) L) w) := by
  constructor
  · rintro ⟨ws, rfl, hall, hmin, hmax⟩
    cases ws with
    | nil => exact .inl ⟨Nat.le_zero.1 hmin, rfl⟩
    | cons u ws =>
      rw [List.forall_mem_cons] at hall
      have ⟨h0, hmax⟩ := bound_succ.1 hmax
      exact .inr ⟨h0, u, _, rfl, hall.1, ws, rfl, hall.2, Nat.sub_le_of_le_add hmin, hmax⟩
  · rintro (⟨rfl, rfl⟩ | ⟨h0, u, _, rfl, h1, ws, rfl, hall, hmin, hmax⟩)
    · exact ⟨[], rfl, nofun, Nat.le_refl 0, fun _ _ => Nat.zero_le _⟩
    · exact ⟨u :: ws, rfl, List.forall_mem_cons.2 ⟨h1, hall⟩, Nat.le_add_of_sub_le hmin, bound_succ.2 ⟨h0, hmax⟩⟩

theorem rep_zero {w : List β} : Rep 0 (some 0) L w ↔ w = [] :=
  rep_unfold.trans ((or_iff_left fun h => h.1 rfl).trans (and_iff_right rfl))

theorem rep_succ {k : Nat} {w : List β} : Rep (k + 1) (some (k + 1)) L w ↔ Cat L (Rep k (some k) L) w :=
  rep_unfold.trans ((or_iff_right fun h => Nat.succ_ne_zero k h.1).trans (and_iff_right nofun))

theorem rep_one (w : List β) : Rep 1 (some 1) L w ↔ L w :=
  rep_succ.trans ((cat_congr (fun _ => .rfl) (fun _ => rep_zero) w).trans cat_eps)

theorem rep_opt (w : List β) : Rep 0 (some 1) L w ↔ w = [] ∨ L w :=
  rep_unfold.trans (or_congr (and_iff_right rfl)
    ((and_iff_right nofun).trans ((cat_congr (fun _ => .rfl) (fun _ => rep_zero) w).trans cat_eps)))

theorem plus_iff (w : List β) : Rep 1 none L w ↔ Cat L (Rep 0 none L) w :=
  rep_unfold.trans ((or_iff_right fun h => Nat.one_ne_zero h.1).trans (and_iff_right nofun))

/-- no iteration at all, or `a` (hence any allowed number of) empty iterations -/
theorem rep_nil {a : Nat} {b : Option Nat} : Rep a b L [] ↔ a = 0 ∨ (L [] ∧ rangeOk a b = true) := by
  constructor
  · rintro ⟨ws, hw, hall, hmin, hmax⟩
    cases ws with
    | nil => exact .inl (Nat.le_zero.1 hmin)
    | cons e ws =>
      have he : e = [] := List.flatten_eq_nil_iff.1 hw.symm e List.mem_cons_self
      refine .inr ⟨he ▸ hall e List.mem_cons_self, ?_⟩
      cases b with
      | none => rfl
      | some m => exact decide_eq_true (Nat.le_trans hmin (hmax m rfl))
  · rintro (rfl | ⟨hn, hr⟩)
    · exact ⟨[], rfl, nofun, Nat.le_refl _, fun _ _ => Nat.zero_le _⟩
    · refine ⟨List.replicate a [], List.flatten_replicate_nil.symm, fun u hu => (List.mem_replicate.1 hu).2 ▸ hn,
        by simp, fun m hm => ?_⟩
      subst hm
      simpa [rangeOk] using hr

theorem rep_cons {a : Nat} {b : Option Nat} {x : β} {w : List β} :
    Rep a b L (x :: w) ↔ b ≠ some 0 ∧ Cat (fun u => L (x :: u)) (Rep (a - 1) (predOpt b) L) w := by
  constructor
  · rintro ⟨ws, hw, hall, hmin, hmax⟩
    -- empty iterations before the one that takes `x` still count
    obtain ⟨pre, u, post, rfl, hpre, rfl⟩ := List.flatten_eq_cons_iff.1 hw.symm
    rw [List.length_append, List.length_cons, ← Nat.add_assoc, ← List.length_append] at hmin hmax
    have ⟨h0, hmax⟩ := bound_succ.1 hmax
    refine ⟨h0, u, _, rfl, hall _ (by simp), pre ++ post, ?_, ?_, Nat.sub_le_of_le_add hmin, hmax⟩
    · rw [List.flatten_append, List.flatten_eq_nil_iff.2 hpre, List.nil_append]
    · exact fun e he => hall e (List.mem_append.2 ((List.mem_append.1 he).imp id (List.mem_cons_of_mem _)))
  · exact fun ⟨h0, h⟩ => rep_unfold.2 (.inr ⟨h0, cat_cons.2 (.inr h)⟩)

theorem star_elim {S : List β → Prop} (hnil : S []) (hcons : ∀ u v, L u → S v → S (u ++ v)) {w : List β}
    (h : Rep 0 none L w) : S w := by
  obtain ⟨ws, rfl, hall, -, -⟩ := h
  induction ws with
  | nil => exact hnil
  | cons u ws ih =>
    rw [List.forall_mem_cons] at hall
    exact hcons u _ hall.1 (ih hall.2)

theorem star_nil : Rep 0 none L [] := rep_nil.2 (.inl rfl)

theorem star_append {u v : List β} (h1 : L u) : Rep 0 none L v → Rep 0 none L (u ++ v) := by
  rintro ⟨ws, rfl, hall, _, _⟩
  exact ⟨u :: ws, rfl, List.forall_mem_cons.2 ⟨h1, hall⟩, Nat.zero_le _, nofun⟩

theorem star_cons {x : β} {w : List β} : Rep 0 none L (x :: w) ↔ Cat (fun u => L (x :: u)) (Rep 0 none L) w :=
  rep_cons.trans (and_iff_right nofun)

theorem rep_syms (P : β → Prop) (hL : ∀ u, L u ↔ ∃ n, P n ∧ u = [n]) {a : Nat} {b : Option Nat} (w : List β) :
    Rep a b L w ↔ (∀ x, x ∈ w → P x) ∧ a ≤ w.length ∧ ∀ m, b = some m → w.length ≤ m := by
  constructor
  · rintro ⟨ws, rfl, hall, h1, h2⟩
    have hlen : ws.flatten.length = ws.length := by
      clear h1 h2
      induction ws with
      | nil => rfl
      | cons u ws ih =>
        rw [List.forall_mem_cons] at hall
        obtain ⟨n, _, rfl⟩ := (hL u).1 hall.1
        rw [List.flatten_cons, List.length_append, ih hall.2]
        exact Nat.add_comm 1 _
    refine ⟨fun x hx => ?_, hlen ▸ h1, hlen ▸ h2⟩
    obtain ⟨u, hu, hxu⟩ := List.mem_flatten.1 hx
    obtain ⟨n, hn, rfl⟩ := (hL u).1 (hall u hu)
    exact List.mem_singleton.1 hxu ▸ hn
  · rintro ⟨hP, h1, h2⟩
    refine ⟨w.map fun x => [x], (List.flatMap_singleton' w).symm, ?_, by rwa [List.length_map], by rwa [List.length_map]⟩
    intro u hu
    obtain ⟨x, hx, rfl⟩ := List.mem_map.1 hu
    exact (hL _).2 ⟨x, hP x hx, rfl⟩

theorem star_syms (P : β → Prop) (hL : ∀ u, L u ↔ ∃ n, P n ∧ u = [n]) (w : List β) :
    Rep 0 none L w ↔ ∀ x, x ∈ w → P x :=
  (rep_syms P hL w).trans (and_iff_left ⟨Nat.zero_le _, nofun⟩)

theorem rep_exact {a : Nat} {b : Option Nat} {w : List β} :
    Rep a b L w ↔ ∃ k, a ≤ k ∧ (∀ m, b = some m → k ≤ m) ∧ Rep k (some k) L w :=
  ⟨fun ⟨ws, e, hall, h1, h2⟩ => ⟨ws.length, h1, h2, ws, e, hall, Nat.le_refl _, fun _ e => Option.some.inj e ▸ Nat.le_refl _⟩,
   fun ⟨k, h1, h2, ws, e, hall, h3, h4⟩ => by
     obtain rfl := Nat.le_antisymm (h4 k rfl) h3
     exact ⟨ws, e, hall, h1, h2⟩⟩

def optAdd : Option Nat → Option Nat → Option Nat
  | some b, some d => some (b + d)
  | _, _ => none

theorem split_count {n a b c d : Nat} (hab : a ≤ b) (hcd : c ≤ d) (hmin : a + c ≤ n) (hmax : n ≤ b + d) :
    ∃ k, k ≤ n ∧ a ≤ k ∧ k ≤ b ∧ c ≤ n - k ∧ n - k ≤ d :=
  ⟨min b (n - c), by omega⟩

theorem range_split {n a c : Nat} {b d : Option Nat} (hab : rangeOk a b = true) (hcd : rangeOk c d = true)
    (hmin : a + c ≤ n) (hmax : ∀ m, optAdd b d = some m → n ≤ m) :
    ∃ k, k ≤ n ∧ a ≤ k ∧ (∀ m, b = some m → k ≤ m) ∧ c ≤ n - k ∧ ∀ m, d = some m → n - k ≤ m := by
  -- an absent bound is as good as the bound `n`
  obtain ⟨k, h1, h2, h3, h4, h5⟩ := split_count (b := b.getD n) (d := d.getD n) (a := a) (c := c) (n := n)
    (by cases b with | none => exact Nat.le_trans (Nat.le_add_right a c) hmin | some b => exact of_decide_eq_true hab)
    (by cases d with | none => exact Nat.le_trans (Nat.le_add_left c a) hmin | some d => exact of_decide_eq_true hcd)
    hmin
    (by
      cases b with
      | none => exact Nat.le_add_right n _
      | some b =>
        cases d with
        | none => exact Nat.le_add_left n _
        | some d => exact hmax _ rfl)
  exact ⟨k, h1, h2, fun m hm => by subst hm; exact h3, h4, fun m hm => by subst hm; exact h5⟩

theorem cat_rep_rep {a c : Nat} {b d : Option Nat} (hab : rangeOk a b = true) (hcd : rangeOk c d = true) (w : List β) :
    Cat (Rep a b L) (Rep c d L) w ↔ Rep (a + c) (optAdd b d) L w := by
  constructor
  · rintro ⟨_, _, rfl, ⟨ws1, rfl, hall1, hmin1, hmax1⟩, ws2, rfl, hall2, hmin2, hmax2⟩
    refine ⟨ws1 ++ ws2, List.flatten_append.symm, fun e he => (List.mem_append.1 he).elim (hall1 e) (hall2 e), ?_, ?_⟩
    · rw [List.length_append]; exact Nat.add_le_add hmin1 hmin2
    · intro m hm
      rw [List.length_append]
      cases b with
      | none => cases hm
      | some b =>
        cases d with
        | none => cases hm
        | some d => cases hm; exact Nat.add_le_add (hmax1 b rfl) (hmax2 d rfl)
  · rintro ⟨ws, rfl, hall, hmin, hmax⟩
    obtain ⟨k, hk, hk1, hk2, hk3, hk4⟩ := range_split hab hcd hmin hmax
    have ht : (ws.take k).length = k := by rw [List.length_take, Nat.min_eq_left hk]
    refine ⟨(ws.take k).flatten, (ws.drop k).flatten, by rw [← List.flatten_append, List.take_append_drop],
      ⟨ws.take k, rfl, fun e he => hall e (List.mem_of_mem_take he), ?_, ?_⟩,
      ⟨ws.drop k, rfl, fun e he => hall e (List.mem_of_mem_drop he), ?_, ?_⟩⟩
    · rw [ht]; exact hk1
    · rw [ht]; exact hk2
    · rw [List.length_drop]; exact hk3
    · rw [List.length_drop]; exact hk4

end XV.Lemmas.Lang
