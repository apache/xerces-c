/-
C07 — the two content models that `makeContentModel` picks without building a DFA.  `SimpleContentModel` decides a
particle with one operator over leaves: the closed forms of those languages (`lang_*_leaf`) and its mismatch loop;
`MixedContentModel`: its loop and the child list that `buildChildList` reads off the tree `scanMixed` built.
Core Lean only.
-/
import XV.Lemmas.ContentModel
import XV.Model.ContentModel
namespace XV.Lemmas.ContentModelSel
open XV.Spec.ContentModel XV.Model.ContentModel XV.Lemmas.ContentModel XV.Lemmas.Lang

theorem lang_star_leaf {n : Name} {w : List Name} : CM.Lang (.star (.leaf n)) w ↔ ∀ x, x ∈ w → x = n := by
  rw [lang_star]
  exact star_syms (· = n) (by simp [lang_leaf]) w

theorem lang_plus_leaf {n : Name} {w : List Name} :
    CM.Lang (.plus (.leaf n)) w ↔ w ≠ [] ∧ ∀ x, x ∈ w → x = n := by
  rw [lang_plus, rep_syms (· = n) (by simp [lang_leaf])]
  exact ⟨fun ⟨h, h1, _⟩ => ⟨List.ne_nil_of_length_pos h1, h⟩, fun ⟨h1, h⟩ => ⟨h, List.length_pos_iff.2 h1, nofun⟩⟩

theorem lang_opt_leaf {n : Name} {w : List Name} : CM.Lang (.opt (.leaf n)) w ↔ w = [] ∨ w = [n] := by
  rw [lang_opt, lang_leaf]

theorem lang_choice_leaf {a b : Name} {w : List Name} :
    CM.Lang (.choice (.leaf a) (.leaf b)) w ↔ w = [a] ∨ w = [b] := by
  rw [lang_choice, lang_leaf, lang_leaf]

theorem lang_seq_leaf {a b : Name} {w : List Name} :
    CM.Lang (.seq (.leaf a) (.leaf b)) w ↔ w = [a, b] := by
  simp [lang_seq, Cat, lang_leaf]

theorem nameEq_elem (c n : Name) : nameEq c (.elem n) = decide (c = n) := by
  rw [Bool.eq_iff_iff]
  simpa [nameEq, QN.rawName] using eq_comm

theorem nameEq_pcdata (c : Name) : nameEq c .pcdata = false := rfl

theorem ite_eq_ok {p : Prop} [Decidable p] {a b : Res} : (if p then a else b) = .ok ↔ (p ∧ a = .ok) ∨ (¬p ∧ b = .ok) := by
  split <;> simp [*]

theorem firstMismatch_none (n : Name) (w : List Name) (i : Nat) :
    firstMismatch (.elem n) w i = none ↔ ∀ x, x ∈ w → x = n := by
  induction w generalizing i with
  | nil => simp [firstMismatch]
  | cons c cs ih => by_cases h : c = n <;> simp [firstMismatch, nameEq_elem, ih, h]

theorem any_nameEq (c : Name) (qs : List QN) : qs.any (fun q => nameEq c q) = true ↔ QN.elem c ∈ qs := by
  rw [List.any_eq_true]
  constructor
  · rintro ⟨q, hq, hn⟩
    cases q with
    | pcdata => cases hn
    | elem n => rw [nameEq_elem, decide_eq_true_eq] at hn; exact hn ▸ hq
  · exact fun h => ⟨_, h, by simp [nameEq_elem]⟩

theorem mixedLoop_ok (m : Mixed) (w : List Name) (i : Nat) :
    mixedLoop m w i = .ok ↔ ∀ x, x ∈ w → QN.elem x ∈ m.children := by
  induction w generalizing i with
  | nil => simp [mixedLoop]
  | cons c cs ih =>
    rw [mixedLoop, List.forall_mem_cons, ← any_nameEq]
    split <;> simp [*]

theorem buildChildList_rightChoice (n : Name) (ms : List Name) :
    buildChildList (rightChoice n ms) = (n :: ms).map QN.elem := by
  induction ms generalizing n with
  | nil => rfl
  | cons m ms ih => simp [rightChoice, buildChildList, ih]

theorem buildChildList_scanMixed (ns : List Name) (star : Bool) :
    buildChildList (scanMixed ns star) = QN.pcdata :: ns.map QN.elem := by
  cases ns with
  | nil => cases star <;> rfl
  | cons n ms => simp [scanMixed, buildChildList, buildChildList_rightChoice]

end XV.Lemmas.ContentModelSel
