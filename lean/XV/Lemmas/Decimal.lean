/-
C09, decimal and integer part: the parsers, `toCompare` and `canonOf` of `XV.Model.Decimal` against `XV.Spec.Decimal`.

A parsed decimal is `mkDec neg I F`: integer digits `I` without leading zero, fraction digits `F` without trailing zero
(`Normal` says the same of the record's fields).  Such records represent their values (`decVal`) uniquely: `toCompare`
on them is the order of the values and is 0 only on identical records, and every other way of writing the value is a
scaled-up one, which gives totalDigits / fractionDigits.  The parser and the printer are equations on that form, and
reading the canonical form back gives the record again because it has the same value.  XMLBigInteger's comparison is
the case without fraction digits (`asDec`); its parser and printer are treated on their own, in the same way.
-/
import XV.Model.Decimal
import XV.Spec.Decimal
import XV.Lemmas.Trim
namespace XV.Lemmas.Decimal
open XV.Spec.Decimal XV.Model.Decimal XV.Lemmas.Trim

theorem isDigit_iff (c : Char) : isDigit c = true ↔ 48 ≤ c.toNat ∧ c.toNat ≤ 57 := by
  simp [isDigit]

theorem eq_zero_iff (c : Char) : c = '0' ↔ c.toNat = 48 := by
  rw [← Char.toNat_inj]; rfl

theorem beq_zero_iff (c : Char) : (c == '0') = true ↔ c.toNat = 48 := by
  rw [beq_iff_eq, eq_zero_iff]

theorem isDigit_zero : isDigit '0' = true := by decide

theorem digitVal_zero : digitVal '0' = 0 := by decide

theorem digitVal_lt (c : Char) (h : isDigit c = true) : digitVal c < 10 := by
  rw [isDigit_iff] at h; unfold digitVal; omega

theorem digitVal_eq_zero (c : Char) (h : isDigit c = true) : digitVal c = 0 ↔ c = '0' := by
  rw [isDigit_iff] at h; rw [eq_zero_iff]; unfold digitVal; omega

theorem digit_toNat (c : Char) (h : isDigit c = true) : c.toNat = digitVal c + 48 := by
  rw [isDigit_iff] at h; unfold digitVal; omega

theorem scan_test (c : Char) : (c.toNat < '0'.toNat || c.toNat > '9'.toNat) = !isDigit c := by
  have h0 : '0'.toNat = 48 := by decide
  have h9 : '9'.toNat = 57 := by decide
  rw [h0, h9]
  unfold isDigit
  by_cases a : c.toNat < 48 <;> by_cases b : c.toNat > 57 <;> simp [a, b] <;> omega

theorem not_digit_dot : isDigit '.' = false := by decide

theorem not_digit_plus : isDigit '+' = false := by decide

theorem not_digit_minus : isDigit '-' = false := by decide

theorem digit_not_sign (c : Char) (h : isDigit c = true) : c ≠ '-' ∧ c ≠ '+' := by
  constructor <;> (intro e; subst e; simp [isDigit] at h)

theorem digit_not_ws (c : Char) (h : isDigit c = true) : isWs c = false := by
  cases hw : isWs c with
  | false => rfl
  | true =>
    simp only [isWs, Bool.or_eq_true, beq_iff_eq] at hw
    rcases hw with ((rfl | rfl) | rfl) | rfl <;> exact absurd h (by decide)

def AllDigits (l : List Char) : Prop := ∀ c ∈ l, isDigit c = true

theorem allDigits_cons {c : Char} {r : List Char} (h : AllDigits (c :: r)) : isDigit c = true ∧ AllDigits r :=
  ⟨h c (by simp), fun d hd => h d (by simp [hd])⟩

theorem allDigits_append {x y : List Char} : AllDigits (x ++ y) ↔ AllDigits x ∧ AllDigits y := by
  simp [AllDigits, or_imp, forall_and]

theorem allDigits_iff_all (l : List Char) : AllDigits l ↔ l.all isDigit = true := by
  simp [AllDigits, List.all_eq_true]

theorem all_digits_split (l : List Char) (h : l.all isDigit = true) :
    l.takeWhile isDigit = l ∧ l.dropWhile isDigit = [] := by
  have h' := List.all_eq_true.mp h
  exact ⟨by simpa using List.takeWhile_append_of_pos (l₂ := []) h',
    by simpa using List.dropWhile_append_of_pos (l₂ := []) h'⟩

theorem not_all_digits (l : List Char) (h : l.all isDigit = false) : l.dropWhile isDigit ≠ [] := by
  intro e
  have hs := List.takeWhile_append_dropWhile (p := isDigit) (l := l)
  rw [e, List.append_nil] at hs
  rw [← hs, List.all_takeWhile] at h
  cases h

theorem natOf_nil : natOf [] = 0 := rfl

theorem foldl_shift (l : List Char) (a : Nat) :
    l.foldl (fun a c => a * 10 + digitVal c) a = a * 10 ^ l.length + natOf l := by
  induction l generalizing a with
  | nil => simp [natOf]
  | cons c r ih =>
    simp only [List.foldl_cons, List.length_cons, natOf]
    rw [ih, ih (0 * 10 + digitVal c)]
    simp only [Nat.pow_succ]
    grind

theorem natOf_cons (c : Char) (r : List Char) : natOf (c :: r) = digitVal c * 10 ^ r.length + natOf r := by
  simp only [natOf, List.foldl_cons]
  rw [foldl_shift]; simp [natOf]

theorem natOf_append (x y : List Char) : natOf (x ++ y) = natOf x * 10 ^ y.length + natOf y := by
  simp only [natOf, List.foldl_append]
  rw [foldl_shift]; rfl

def zeros (k : Nat) : List Char := List.replicate k '0'

theorem allDigits_zeros (k : Nat) : AllDigits (zeros k) := by
  intro c hc; rw [zeros, List.mem_replicate] at hc; rw [hc.2]; exact isDigit_zero

theorem natOf_zeros (k : Nat) : natOf (zeros k) = 0 := by
  induction k with
  | zero => rfl
  | succ k ih => rw [zeros, List.replicate_succ, natOf_cons, ← zeros, ih, digitVal_zero]; simp

theorem natOf_pad (x : List Char) (k : Nat) : natOf (x ++ zeros k) = natOf x * 10 ^ k := by
  rw [natOf_append, natOf_zeros]; simp [zeros]

theorem natOf_zeros_append (k : Nat) (l : List Char) : natOf (zeros k ++ l) = natOf l := by
  rw [natOf_append, natOf_zeros]; simp

theorem dropZeros_split (l : List Char) :
    ∃ k, l = zeros k ++ l.dropWhile isZeroCh ∧ (l.dropWhile isZeroCh).head? ≠ some '0' :=
  dropWhile_run isZeroCh '0' (fun _ => beq_iff_eq) l

theorem dropZeros_id (m : List Char) (h : m.head? ≠ some '0') : m.dropWhile isZeroCh = m := by
  cases m with
  | nil => rfl
  | cons a r =>
    have : a ≠ '0' := fun e => h (by rw [e]; rfl)
    rw [List.dropWhile_cons_of_neg (by unfold isZeroCh; rw [beq_iff_eq]; exact this)]

theorem trailZeros_split (f : List Char) : ∃ F t, f = F ++ zeros t ∧ F.getLast? ≠ some '0' := by
  obtain ⟨t, h1, h2⟩ := dropZeros_split f.reverse
  refine ⟨(f.reverse.dropWhile isZeroCh).reverse, t, ?_, by rw [List.getLast?_reverse]; exact h2⟩
  have := congrArg List.reverse h1
  simpa [zeros] using this

theorem natOf_lt (l : List Char) (h : AllDigits l) : natOf l < 10 ^ l.length := by
  induction l with
  | nil => simp [natOf]
  | cons c r ih =>
    rw [natOf_cons]
    have hc := digitVal_lt c (h c (by simp))
    have hr := ih (fun d hd => h d (by simp [hd]))
    simp only [List.length_cons, Nat.pow_succ]
    have : digitVal c * 10 ^ r.length ≤ 9 * 10 ^ r.length := Nat.mul_le_mul_right _ (by omega)
    omega

theorem natOf_mod10 (l : List Char) (hne : l ≠ []) (hd : AllDigits l) (hl : l.getLast? ≠ some '0') :
    natOf l % 10 ≠ 0 := by
  have hsplit := List.dropLast_concat_getLast hne
  have hlast : isDigit (l.getLast hne) = true := hd _ (List.getLast_mem hne)
  have hnz : l.getLast hne ≠ '0' := by
    intro e; apply hl; rw [List.getLast?_eq_some_getLast hne, e]
  rw [← hsplit, natOf_append]
  have h1 := digitVal_lt _ hlast
  have h2 : digitVal (l.getLast hne) ≠ 0 := fun e => hnz ((digitVal_eq_zero _ hlast).mp e)
  simp only [List.length_singleton, Nat.pow_one]
  have : natOf [l.getLast hne] = digitVal (l.getLast hne) := by simp [natOf]
  rw [this]; omega

theorem natOf_pos_of_last (l : List Char) (hne : l ≠ []) (hd : AllDigits l) (hl : l.getLast? ≠ some '0') :
    0 < natOf l := by
  have := natOf_mod10 l hne hd hl
  omega

theorem natOf_ge_of_head (l : List Char) (hne : l ≠ []) (hd : AllDigits l) (hh : l.head? ≠ some '0') :
    10 ^ (l.length - 1) ≤ natOf l := by
  cases l with
  | nil => exact absurd rfl hne
  | cons c r =>
    obtain ⟨hc, _⟩ := allDigits_cons hd
    rw [natOf_cons]
    have : digitVal c ≠ 0 := fun h => hh (by simp [(digitVal_eq_zero c hc).mp h])
    have h1 : 1 * 10 ^ r.length ≤ digitVal c * 10 ^ r.length := Nat.mul_le_mul_right _ (by omega)
    simp only [List.length_cons, Nat.add_sub_cancel]
    omega

theorem cmpSpec_eq_compare (a b : Int × Nat) : cmpSpec a b = compare (a.1 * 10 ^ b.2) (b.1 * 10 ^ a.2) :=
  (Int.compare_eq_ite_lt _ _).symm

theorem cmpSpec_refl (a : Int × Nat) : cmpSpec a a = .eq := by
  unfold cmpSpec; simp

theorem pow10_pos (n : Nat) : (0 : Int) < 10 ^ n := Int.pow_pos (by decide)

theorem cmpSpec_scaleUp (a b : Int × Nat) (t u : Nat) : cmpSpec (scaleUp a t) (scaleUp b u) = cmpSpec a b := by
  unfold cmpSpec scaleUp
  simp only
  have e1 : a.1 * 10 ^ t * 10 ^ (b.2 + u) = (a.1 * 10 ^ b.2) * (10 ^ t * 10 ^ u) := by
    rw [Int.pow_add]; ac_rfl
  have e2 : b.1 * 10 ^ u * 10 ^ (a.2 + t) = (b.1 * 10 ^ a.2) * (10 ^ t * 10 ^ u) := by
    rw [Int.pow_add]; ac_rfl
  rw [e1, e2]
  have hK : (0 : Int) < 10 ^ t * 10 ^ u := Int.mul_pos (pow10_pos t) (pow10_pos u)
  have l1 : a.1 * 10 ^ b.2 * (10 ^ t * 10 ^ u) < b.1 * 10 ^ a.2 * (10 ^ t * 10 ^ u) ↔ a.1 * 10 ^ b.2 < b.1 * 10 ^ a.2 :=
    Int.mul_lt_mul_right hK
  have l2 : b.1 * 10 ^ a.2 * (10 ^ t * 10 ^ u) < a.1 * 10 ^ b.2 * (10 ^ t * 10 ^ u) ↔ b.1 * 10 ^ a.2 < a.1 * 10 ^ b.2 :=
    Int.mul_lt_mul_right hK
  simp only [l1, l2]

theorem cmpSpec_swap (a b : Int × Nat) : cmpSpec b a = (cmpSpec a b).swap := by
  rw [cmpSpec_eq_compare, cmpSpec_eq_compare, Int.compare_swap]

theorem cmpSpec_lt_iff (a b : Int × Nat) : cmpSpec a b = .lt ↔ a.1 * 10 ^ b.2 < b.1 * 10 ^ a.2 := by
  rw [cmpSpec_eq_compare]; exact Int.compare_eq_lt

theorem cmpSpec_eq_iff (a b : Int × Nat) : cmpSpec a b = .eq ↔ a.1 * 10 ^ b.2 = b.1 * 10 ^ a.2 := by
  rw [cmpSpec_eq_compare]; exact Int.compare_eq_eq

theorem ordInt_cmpSpec (a b : Int × Nat) :
    ordInt (cmpSpec a b) =
      if a.1 * 10 ^ b.2 < b.1 * 10 ^ a.2 then -1 else if b.1 * 10 ^ a.2 < a.1 * 10 ^ b.2 then 1 else 0 := by
  unfold cmpSpec
  split
  · rfl
  · split <;> rfl

theorem valEq_scaleUp (a : Int × Nat) (t : Nat) (i : Int) (n : Nat) :
    valEq (scaleUp a t) (i, n) ↔ valEq a (i, n) := by
  have := cmpSpec_scaleUp a (i, n) t 0
  rw [show scaleUp (i, n) 0 = (i, n) by simp [scaleUp]] at this
  unfold valEq
  rw [← cmpSpec_eq_iff, ← cmpSpec_eq_iff, this]

structure Normal (d : BigDecimal) : Prop where
  digits : AllDigits d.intVal
  len : d.intVal.length = d.totalDigits
  scale_le : d.scale ≤ d.totalDigits
  sign : (d.sign = 0 ∧ d.totalDigits = 0) ∨ ((d.sign = 1 ∨ d.sign = -1) ∧ 0 < d.totalDigits)
  lead : d.scale < d.totalDigits → d.intVal.head? ≠ some '0'
  trail : 0 < d.scale → d.intVal.getLast? ≠ some '0'

/-- the value held by a parsed decimal: sign · intVal · 10^-scale -/
def decVal (d : BigDecimal) : Int × Nat := (d.sign * ((natOf d.intVal : Nat) : Int), d.scale)

theorem Normal.ne_nil {d : BigDecimal} (h : Normal d) (ht : 0 < d.totalDigits) : d.intVal ≠ [] := by
  intro e; have := h.len; rw [e] at this; exact absurd this (by simp; omega)

theorem Normal.lt_pow {d : BigDecimal} (h : Normal d) : natOf d.intVal < 10 ^ d.totalDigits :=
  h.len ▸ natOf_lt _ h.digits

theorem Normal.ge_pow {d : BigDecimal} (h : Normal d) (hc : d.scale < d.totalDigits) :
    10 ^ (d.totalDigits - 1) ≤ natOf d.intVal :=
  h.len ▸ natOf_ge_of_head _ (h.ne_nil (by omega)) h.digits (h.lead hc)

theorem Normal.pos {d : BigDecimal} (h : Normal d) (hs : d.sign ≠ 0) : 0 < natOf d.intVal := by
  have ht : 0 < d.totalDigits := by have := h.sign; omega
  by_cases hc : d.scale < d.totalDigits
  · exact Nat.lt_of_lt_of_le (Nat.pow_pos (by omega)) (h.ge_pow hc)
  · have : 0 < d.scale := by have := h.scale_le; omega
    exact natOf_pos_of_last _ (h.ne_nil ht) h.digits (h.trail this)

theorem Normal.sign_cases {d : BigDecimal} (h : Normal d) : d.sign = 0 ∨ d.sign = 1 ∨ d.sign = -1 := by
  rcases h.sign with ⟨h, _⟩ | ⟨h | h, _⟩ <;> simp [h]

theorem Normal.zero {d : BigDecimal} (h : Normal d) (h0 : d.sign = 0) : d = ⟨0, [], 0, 0⟩ := by
  have ht : d.totalDigits = 0 := by have := h.sign; omega
  have a1 := h.len
  have a2 := h.scale_le
  rw [ht] at a1 a2
  cases d
  simp only [BigDecimal.mk.injEq] at *
  exact ⟨h0, List.length_eq_zero_iff.mp a1, ht, by omega⟩

/-- the decimal with integer digits `I` and fraction digits `F`, as `parseDecimal` holds it -/
def mkDec (neg : Bool) (I F : List Char) : BigDecimal :=
  ⟨if (I ++ F).isEmpty then 0 else if neg then -1 else 1, I ++ F, I.length + F.length, F.length⟩

/-- what `Normal (mkDec neg I F)` asks of `I` and `F` -/
structure Parts (I F : List Char) : Prop where
  dI : AllDigits I
  dF : AllDigits F
  lead : I.head? ≠ some '0'
  trail : F.getLast? ≠ some '0'

theorem normal_mk {neg : Bool} {I F : List Char} (h : Parts I F) : Normal (mkDec neg I F) where
  digits := allDigits_append.mpr ⟨h.dI, h.dF⟩
  len := List.length_append
  scale_le := Nat.le_add_left _ _
  sign := by
    unfold mkDec
    cases hIF : I ++ F with
    | nil => left; simp [List.append_eq_nil_iff.mp hIF]
    | cons a r => right; exact ⟨by cases neg <;> simp, by rw [← List.length_append, hIF]; simp⟩
  lead := fun hlt => by
    cases I with
    | nil => simp [mkDec] at hlt
    | cons a r => exact h.lead
  trail := fun hpos => by
    cases hF : F with
    | nil => simp [mkDec, hF] at hpos
    | cons a r => rw [← hF]; show (I ++ F).getLast? ≠ _; rw [List.getLast?_append, hF]; simpa [hF] using h.trail

theorem Normal.eq_mk {d : BigDecimal} (h : Normal d) :
    ∃ neg I F, Parts I F ∧ d = mkDec neg I F := by
  -- the point stands `scale` digits from the end of `intVal`
  obtain ⟨n, hn⟩ : ∃ n, n = d.totalDigits - d.scale := ⟨_, rfl⟩
  have hsl := h.scale_le
  have hlen := h.len
  have hIF : d.intVal.take n ++ d.intVal.drop n = d.intVal := List.take_append_drop n _
  have hdig := h.digits
  rw [← hIF] at hdig
  refine ⟨decide (d.sign = -1), d.intVal.take n, d.intVal.drop n,
    ⟨(allDigits_append.mp hdig).1, (allDigits_append.mp hdig).2, ?_, ?_⟩, ?_⟩
  · cases hv : d.intVal with
    | nil => simp
    | cons a r =>
      cases n with
      | zero => simp
      | succ m => rw [List.take_succ_cons, List.head?_cons, ← List.head?_cons (l := r), ← hv]; exact h.lead (by omega)
  · by_cases h0 : d.scale = 0
    · rw [List.drop_of_length_le (by omega)]; simp
    · rw [List.getLast?_drop, if_neg (by omega)]; exact h.trail (by omega)
  · unfold mkDec
    rw [hIF, List.length_take, List.length_drop]
    cases d with
    | mk s iv td sc =>
      simp only [BigDecimal.mk.injEq] at *
      refine ⟨?_, trivial, by omega, by omega⟩
      rcases h.sign with ⟨h0, ht⟩ | ⟨h1, ht⟩
      · simp only at h0 ht; subst h0; subst ht; simp [List.length_eq_zero_iff.mp hlen]
      · simp only at h1 ht
        have : iv ≠ [] := by intro e; rw [e] at hlen; simp at hlen; omega
        rcases h1 with e | e <;> simp [e, this]

theorem decVal_mk (neg : Bool) (I F : List Char) :
    decVal (mkDec neg I F) = ((if neg then -1 else 1) * ((natOf (I ++ F) : Nat) : Int), F.length) := by
  unfold decVal mkDec
  cases h : I ++ F <;> simp [natOf]

/-- the three-way comparison of two magnitudes, with `toCompare`'s results -/
def natCmp (a b : Nat) : Int := if a < b then -1 else if b < a then 1 else 0

theorem lex_step_lt (a b P nx ny : Nat) (h : a < b) (hx : nx < P) : a * P + nx < b * P + ny := by
  have h1 : (a + 1) * P ≤ b * P := Nat.mul_le_mul_right _ h
  rw [Nat.add_mul, Nat.one_mul] at h1
  omega

theorem natCmp_lex (a b P x y : Nat) (hx : x < P) (hy : y < P) :
    natCmp (a * P + x) (b * P + y) = if a < b then -1 else if b < a then 1 else natCmp x y := by
  unfold natCmp
  by_cases h1 : a < b
  · rw [if_pos h1, if_pos (lex_step_lt a b P x y h1 hx)]
  · by_cases h2 : b < a
    · have := lex_step_lt b a P y x h2 hy
      rw [if_neg h1, if_pos h2, if_neg (by omega), if_pos this]
    · rw [if_neg h1, if_neg h2, show a = b by omega]
      simp only [Nat.add_lt_add_iff_left]

theorem natCmp_mul_right (x y c : Nat) (hc : 0 < c) : natCmp (x * c) (y * c) = natCmp x y := by
  unfold natCmp
  have h1 : x * c < y * c ↔ x < y := Nat.mul_lt_mul_right hc
  have h2 : y * c < x * c ↔ y < x := Nat.mul_lt_mul_right hc
  simp [h1, h2]

theorem natCmp_sign (a b : Nat) : (if natCmp a b > 0 then 1 else if natCmp a b < 0 then -1 else 0) = natCmp a b := by
  unfold natCmp
  split
  · rfl
  · split <;> rfl

theorem cross_cons (c : Char) (x : List Char) (hx : AllDigits x) (n : Nat) :
    natOf (c :: x) * 10 ^ (n + 1) = digitVal c * (10 ^ (x.length + n) * 10) + natOf x * 10 ^ n * 10 ∧
      natOf x * 10 ^ n * 10 < 10 ^ (x.length + n) * 10 := by
  constructor
  · rw [natOf_cons, Nat.pow_succ, Nat.pow_add, Nat.add_mul]; ac_rfl
  · rw [Nat.pow_add]
    exact (Nat.mul_lt_mul_right (by omega)).mpr ((Nat.mul_lt_mul_right (Nat.pow_pos (by omega))).mpr (natOf_lt x hx))

/-- `compareString` on two digit strings is the order of the fractions `0.x` and `0.y` they write (that is,
`cmpSpec (natOf x, |x|) (natOf y, |y|)`), provided the longer one does not end in '0' -/
theorem cs_spec (x y : List Char) (hx : AllDigits x) (hy : AllDigits y)
    (h1 : x.length < y.length → y.getLast? ≠ some '0') (h2 : y.length < x.length → x.getLast? ≠ some '0') :
    compareString x y = natCmp (natOf x * 10 ^ y.length) (natOf y * 10 ^ x.length) := by
  induction x generalizing y with
  | nil =>
    cases y with
    | nil => rfl
    | cons d y =>
      have := natOf_pos_of_last (d :: y) (by simp) hy (h1 (by simp))
      simp only [compareString, natCmp, natOf_nil, Nat.zero_mul, List.length_nil, Nat.pow_zero, Nat.mul_one, if_pos this]
  | cons c x ih =>
    cases y with
    | nil =>
      have := natOf_pos_of_last (c :: x) (by simp) hx (h2 (by simp))
      simp only [compareString, natCmp, natOf_nil, Nat.zero_mul, List.length_nil, Nat.pow_zero, Nat.mul_one, if_pos this,
        if_neg (Nat.not_lt_zero _)]
    | cons d y =>
      obtain ⟨hc, hx'⟩ := allDigits_cons hx
      obtain ⟨hd, hy'⟩ := allDigits_cons hy
      have ih' := ih y hx' hy'
        (fun h => getLast?_tail (h1 (by simpa using h))) (fun h => getLast?_tail (h2 (by simpa using h)))
      -- both cross products are (leading digit)·P + (cross product of the tails)·10, with P = 10^(|x|+|y|)·10
      obtain ⟨ex, bx⟩ := cross_cons c x hx' y.length
      obtain ⟨ey, by'⟩ := cross_cons d y hy' x.length
      rw [Nat.add_comm y.length] at ey by'
      rw [List.length_cons, List.length_cons, ex, ey, natCmp_lex _ _ _ _ _ bx by', natCmp_mul_right _ _ 10 (by omega), ← ih']
      show (if c.toNat < d.toNat then -1 else if d.toNat < c.toNat then 1 else compareString x y) = _
      simp only [digit_toNat c hc, digit_toNat d hd, Nat.add_lt_add_iff_right]

/-- the magnitude part of `toCompare` (same non-zero sign); of `compareString`'s result only the sign is looked at -/
def magCmp (l r : BigDecimal) : Int :=
  if l.totalDigits - l.scale > r.totalDigits - r.scale then 1
  else if l.totalDigits - l.scale < r.totalDigits - r.scale then -1
  else if compareString l.intVal r.intVal > 0 then 1
  else if compareString l.intVal r.intVal < 0 then -1
  else 0

theorem int_digits_gt (l r : BigDecimal) (hl : Normal l) (hr : Normal r)
    (h : l.totalDigits - l.scale > r.totalDigits - r.scale) :
    natOf r.intVal * 10 ^ l.scale < natOf l.intVal * 10 ^ r.scale := by
  have h1 := hl.ge_pow (by omega)
  have h2 := hr.lt_pow
  have hA : 10 ^ (l.totalDigits - 1) * 10 ^ r.scale ≤ natOf l.intVal * 10 ^ r.scale := Nat.mul_le_mul_right _ h1
  have hB : natOf r.intVal * 10 ^ l.scale < 10 ^ r.totalDigits * 10 ^ l.scale :=
    (Nat.mul_lt_mul_right (Nat.pow_pos (by omega))).mpr h2
  rw [← Nat.pow_add] at hA hB
  have := hr.scale_le
  have hC : 10 ^ (r.totalDigits + l.scale) ≤ 10 ^ (l.totalDigits - 1 + r.scale) :=
    Nat.pow_le_pow_right (by omega) (by omega)
  omega

theorem magCmp_spec (l r : BigDecimal) (hl : Normal l) (hr : Normal r) :
    magCmp l r = natCmp (natOf l.intVal * 10 ^ r.scale) (natOf r.intVal * 10 ^ l.scale) := by
  unfold magCmp
  by_cases h1 : l.totalDigits - l.scale > r.totalDigits - r.scale
  · have := int_digits_gt l r hl hr h1
    rw [if_pos h1]; unfold natCmp
    rw [if_neg (by omega), if_pos this]
  · rw [if_neg h1]
    by_cases h2 : l.totalDigits - l.scale < r.totalDigits - r.scale
    · have := int_digits_gt r l hr hl h2
      rw [if_pos h2]; unfold natCmp
      rw [if_pos this]
    · -- the same number `k` of integer digits: both magnitudes are 10^k times the fraction their digits write
      have hls := hl.scale_le
      have hrs := hr.scale_le
      obtain ⟨k, hk⟩ : ∃ k, k = l.totalDigits - l.scale := ⟨_, rfl⟩
      rw [if_neg h2, cs_spec _ _ hl.digits hr.digits
            (fun h => hr.trail (by rw [hl.len, hr.len] at h; omega))
            (fun h => hl.trail (by rw [hl.len, hr.len] at h; omega)), natCmp_sign, hl.len, hr.len,
          show r.totalDigits = r.scale + k by omega, show l.totalDigits = l.scale + k by omega,
          Nat.pow_add, Nat.pow_add, ← Nat.mul_assoc, ← Nat.mul_assoc, natCmp_mul_right _ _ _ (Nat.pow_pos (by omega))]

theorem toCompare_eq (l r : BigDecimal) :
    toCompare l r = if l.sign ≠ r.sign then (if l.sign > r.sign then 1 else -1) else l.sign * magCmp l r := by
  unfold toCompare magCmp
  by_cases h : l.sign ≠ r.sign
  · rw [if_pos h, if_pos h]
  · rw [if_neg h, if_neg h]
    by_cases h0 : l.sign = 0
    · rw [if_pos h0, h0, Int.zero_mul]
    · rw [if_neg h0]
      simp only [apply_ite (l.sign * ·), Int.one_mul, Int.neg_mul, Int.mul_one, Int.mul_neg, Int.mul_zero]

theorem sign_cmp (s t : Int) (A B : Nat) (hs : s = 0 ∨ s = 1 ∨ s = -1) (ht : t = 0 ∨ t = 1 ∨ t = -1)
    (pA : s ≠ 0 → 0 < A) (pB : t ≠ 0 → 0 < B) :
    (if s ≠ t then (if s > t then 1 else -1) else s * natCmp A B) =
      if s * (A : Int) < t * B then -1 else if t * (B : Int) < s * A then 1 else 0 := by
  unfold natCmp
  rcases hs with rfl | rfl | rfl <;> rcases ht with rfl | rfl | rfl <;>
    simp only [Int.zero_mul, Int.one_mul, Int.neg_mul] <;> omega

theorem toCompare_spec (l r : BigDecimal) (hl : Normal l) (hr : Normal r) :
    toCompare l r = ordInt (cmpSpec (decVal l) (decVal r)) := by
  rw [toCompare_eq, magCmp_spec l r hl hr, ordInt_cmpSpec,
    sign_cmp l.sign r.sign _ _ hl.sign_cases hr.sign_cases
      (fun h => Nat.mul_pos (hl.pos h) (Nat.pow_pos (by omega))) (fun h => Nat.mul_pos (hr.pos h) (Nat.pow_pos (by omega)))]
  simp only [decVal, Int.natCast_mul, Int.natCast_pow, Int.mul_assoc]
  rfl

theorem compareString_eq_zero (x y : List Char) (h : compareString x y = 0) : x = y := by
  fun_induction compareString x y with
  | case1 => rfl
  | case6 c x d y p q ih => rw [Char.toNat_inj.mp (by omega : c.toNat = d.toNat), ih h]
  | _ => cases h

theorem toCompare_eq_zero (l r : BigDecimal) (hl : Normal l) (hr : Normal r) (h : toCompare l r = 0) : l = r := by
  revert h
  fun_cases toCompare l r with
  | case3 hs h0 => exact fun _ => by rw [hl.zero h0, hr.zero (by omega)]
  | case8 hs h0 k1 k2 c1 c2 =>
    -- neither string is above the other: the same digits, hence the same totalDigits, and by `k1`, `k2` the same scale
    have e := compareString_eq_zero l.intVal r.intVal (by omega)
    have t : l.totalDigits = r.totalDigits := by rw [← hl.len, ← hr.len, e]
    have s : l.scale = r.scale := by have := hl.scale_le; have := hr.scale_le; omega
    cases l; cases r
    simp only [BigDecimal.mk.injEq] at *
    exact fun _ => ⟨by omega, e, t, s⟩
  -- every other branch returns 1, -1 or ± the sign, which is not 0
  | _ => omega

theorem toCompare_eq_zero_iff {l r : BigDecimal} (hl : Normal l) (hr : Normal r) : toCompare l r = 0 ↔ l = r :=
  ⟨toCompare_eq_zero l r hl hr, fun e => by rw [e, toCompare_spec r r hr hr, cmpSpec_refl]; rfl⟩

/-- Every way of writing the value of a normal decimal as `i · 10^-n` is the normal one with some zeros appended:
the last fraction digit of the normal form is not zero, so no power of ten can be taken out of it. -/
theorem Normal.valEq_iff_scaleUp {d : BigDecimal} (hd : Normal d) (t : Nat) (i : Int) (n : Nat) :
    valEq (scaleUp (decVal d) t) (i, n) ↔ ∃ j, (i, n) = scaleUp (decVal d) j := by
  rw [valEq_scaleUp]
  unfold valEq scaleUp decVal
  simp only [Prod.mk.injEq]
  constructor
  · intro h
    by_cases hk : d.scale ≤ n
    · obtain ⟨j, rfl⟩ : ∃ j, n = d.scale + j := ⟨n - d.scale, by omega⟩
      refine ⟨j, ?_, rfl⟩
      rw [Int.pow_add, ← Int.mul_assoc, Int.mul_right_comm] at h
      exact (Int.eq_of_mul_eq_mul_right (Int.ne_of_gt (pow10_pos d.scale)) h).symm
    · exfalso
      obtain ⟨j, hj⟩ : ∃ j, d.scale = n + (j + 1) := ⟨d.scale - n - 1, by omega⟩
      -- m * 10^n = i * 10^(n+j+1)  ⇒  m = i * 10^j * 10
      have e : i * 10 ^ d.scale = (i * 10 ^ j * 10) * 10 ^ n := by
        rw [hj, Int.pow_add, Int.pow_succ]; ac_rfl
      rw [e] at h
      have hm := Int.eq_of_mul_eq_mul_right (Int.ne_of_gt (pow10_pos n)) h
      have hsl := hd.scale_le
      have hmod := natOf_mod10 _ (hd.ne_nil (by omega)) hd.digits (hd.trail (by omega))
      have hs : d.sign = 1 ∨ d.sign = -1 := by have := hd.sign; omega
      obtain ⟨P, hP⟩ : ∃ P : Int, P = i * 10 ^ j := ⟨_, rfl⟩
      rw [← hP] at hm
      rcases hs with h1 | h1 <;> rw [h1] at hm <;> omega
  · rintro ⟨j, rfl, rfl⟩
    rw [Int.pow_add]; ac_rfl

theorem fractionDigits_spec (d : BigDecimal) (hd : Normal d) (t fd : Nat) :
    d.scale ≤ fd ↔ fractionDigitsOk (scaleUp (decVal d) t) fd := by
  constructor
  · intro h
    exact ⟨_, _, (hd.valEq_iff_scaleUp t _ _).mpr ⟨0, rfl⟩, h⟩
  · rintro ⟨i, n, hv, hn⟩
    obtain ⟨j, e⟩ := (hd.valEq_iff_scaleUp t i n).mp hv
    injection e with _ e
    exact Nat.le_trans (e ▸ Nat.le_add_right _ j) hn

theorem totalDigits_spec (d : BigDecimal) (hd : Normal d) (t td : Nat) :
    d.totalDigits ≤ td ↔ totalDigitsOk (scaleUp (decVal d) t) td := by
  have hsl := hd.scale_le
  -- `|sign · natOf intVal · 10^j|` is `natOf intVal · 10^j`, unless it is zero
  have habs : ∀ j, ((decVal d).1 * 10 ^ j).natAbs ≤ natOf d.intVal * 10 ^ j ∧
      (d.sign ≠ 0 → ((decVal d).1 * 10 ^ j).natAbs = natOf d.intVal * 10 ^ j) := fun j => by
    unfold decVal
    rcases hd.sign_cases with h0 | h0 | h0 <;> rw [h0] <;> simp [Int.natAbs_mul, Int.natAbs_pow]
  constructor
  · intro h
    refine ⟨_, _, (hd.valEq_iff_scaleUp t _ _).mpr ⟨0, rfl⟩, ?_, by show d.scale + 0 ≤ td; omega⟩
    have h1 := hd.lt_pow
    have h2 : 10 ^ d.totalDigits ≤ 10 ^ td := Nat.pow_le_pow_right (by omega) h
    have := (habs 0).1
    show ((decVal d).1 * 10 ^ 0).natAbs < _
    omega
  · rintro ⟨i, n, hv, hi, hn⟩
    obtain ⟨j, e⟩ := (hd.valEq_iff_scaleUp t i n).mp hv
    injection e with e1 e2
    change n = d.scale + j at e2
    by_cases hc : d.scale < d.totalDigits
    · -- integer digits present: |i| = natOf intVal * 10^j ≥ 10^(totalDigits-1)
      have hge := hd.ge_pow hc
      have hs : d.sign ≠ 0 := by have := hd.sign; omega
      rw [e1, (habs j).2 hs] at hi
      have : natOf d.intVal * 1 ≤ natOf d.intVal * 10 ^ j := Nat.mul_le_mul_left _ (Nat.pow_pos (by omega))
      have : 10 ^ (d.totalDigits - 1) < 10 ^ td := by omega
      have := (Nat.pow_lt_pow_iff_right (by omega : 1 < 10)).mp this
      omega
    · omega

theorem scan_other (c : Char) (rest : List Char) (dot : Bool) (fd : Nat) (acc : List Char) (td : Nat) (hd : c ≠ '.') :
    scan (c :: rest) dot fd acc td = if isDigit c then scan rest dot fd (c :: acc) (td + 1) else .error .invChars := by
  have h1 : (c == '.') = false := Bool.eq_false_iff.mpr (fun h => hd (beq_iff_eq.mp h))
  simp only [scan, h1, scan_test]
  cases isDigit c <;> rfl

theorem scan_digits (ds rest : List Char) (dot : Bool) (fd : Nat) (acc : List Char) (td : Nat)
    (h : AllDigits ds) : scan (ds ++ rest) dot fd acc td = scan rest dot fd (ds.reverse ++ acc) (td + ds.length) := by
  induction ds generalizing acc td with
  | nil => simp
  | cons c r ih =>
    obtain ⟨hc, hr⟩ := allDigits_cons h
    rw [List.cons_append, scan_other _ _ _ _ _ _ (fun e => by rw [e, not_digit_dot] at hc; cases hc), if_pos hc, ih _ _ hr]
    simp [Nat.add_assoc, Nat.add_comm 1]

theorem scan_dot (rest : List Char) (dot : Bool) (fd : Nat) (acc : List Char) (td : Nat) :
    scan ('.' :: rest) dot fd acc td = if dot then .error .twoManyDecPoint else scan rest true rest.length acc td := by
  cases dot <;> simp [scan]

theorem scan_run (l : List Char) (dot : Bool) (fd : Nat) (acc : List Char) (td : Nat) :
    scan l dot fd acc td =
      scan (l.dropWhile isDigit) dot fd ((l.takeWhile isDigit).reverse ++ acc) (td + (l.takeWhile isDigit).length) := by
  conv => lhs; rw [← List.takeWhile_append_dropWhile (p := isDigit) (l := l)]
  exact scan_digits _ _ _ _ _ _ (takeWhile_all isDigit l)

/-- the shape `digits* ('.' digits*)?` -/
def lexBody (l : List Char) : Bool :=
  match l.dropWhile isDigit with
  | [] => true
  | '.' :: f => f.all isDigit
  | _ => false

theorem scan_error (l : List Char) (h : lexBody l = false) : ∃ e, scan l false 0 [] 0 = .error e := by
  unfold lexBody at h
  rw [scan_run]
  cases hR : l.dropWhile isDigit with
  | nil => rw [hR] at h; cases h
  | cons c r =>
    by_cases hc : c = '.'
    · -- a second point, or something else that is no digit, after the point
      subst hc
      rw [hR] at h
      rw [scan_dot, if_neg Bool.false_ne_true, scan_run]
      cases hR' : r.dropWhile isDigit with
      | nil => exact absurd hR' (not_all_digits r h)
      | cons d r' =>
        by_cases hd : d = '.'
        · subst hd; exact ⟨_, scan_dot _ _ _ _ _⟩
        · exact ⟨_, by rw [scan_other _ _ _ _ _ _ hd, dropWhile_head isDigit r d r' hR']; rfl⟩
    · exact ⟨_, by rw [scan_other _ _ _ _ _ _ hc, dropWhile_head isDigit l c r hR]; rfl⟩

theorem scan_form (I F : List Char) (t : Nat) (tail : List Char) (hI : AllDigits I) (hF : AllDigits F)
    (htail : (tail = [] ∧ F = [] ∧ t = 0) ∨ tail = '.' :: (F ++ zeros t)) :
    scan (I ++ tail) false 0 [] 0 = .ok (F.length + t, zeros t ++ (F.reverse ++ I.reverse), I.length + F.length + t) := by
  rw [scan_digits _ _ _ _ _ _ hI]
  rcases htail with ⟨rfl, rfl, rfl⟩ | rfl
  · simp [scan, zeros]
  · rw [scan_dot, if_neg Bool.false_ne_true, ← List.append_nil (F ++ zeros t),
      scan_digits _ [] _ _ _ _ (allDigits_append.mpr ⟨hF, allDigits_zeros t⟩)]
    simp [scan, zeros, Nat.add_assoc]

theorem stripTrail_zeros (F acc : List Char) (t td : Nat) (hF : F.getLast? ≠ some '0') :
    stripTrail (F.length + t) (zeros t ++ (F.reverse ++ acc)) (td + t) = (F.length, F.reverse ++ acc, td) := by
  induction t with
  | zero =>
    cases hr : F.reverse with
    | nil =>
      have : F = [] := by simpa using hr
      subst this; cases acc <;> rfl
    | cons c r =>
      have hc : c ≠ '0' := fun e => hF (by rw [← List.head?_reverse, hr, e]; rfl)
      have : F.length = r.length + 1 := by rw [← List.length_reverse, hr]; rfl
      rw [this]
      simp [stripTrail, zeros, hc]
  | succ t ih =>
    rw [← Nat.add_assoc, ← Nat.add_assoc]
    simp only [zeros, List.replicate_succ, List.cons_append, stripTrail, beq_self_eq_true, if_true, Nat.add_sub_cancel]
    exact ih

theorem takeSign_minus (r : List Char) : takeSign ('-' :: r) = (-1, r, true) := rfl

theorem takeSign_plus (r : List Char) : takeSign ('+' :: r) = (1, r, true) := rfl

theorem takeSign_nil : takeSign [] = (1, [], false) := rfl

theorem takeSign_other (c : Char) (r : List Char) (h1 : c ≠ '-') (h2 : c ≠ '+') :
    takeSign (c :: r) = (1, c :: r, false) := by
  unfold takeSign
  split
  · rename_i heq; injection heq with a _; exact absurd a h1
  · rename_i heq; injection heq with a _; exact absurd a h2
  · rfl

theorem unsigned_minus (r : List Char) : unsigned ('-' :: r) = r := rfl

theorem unsigned_plus (r : List Char) : unsigned ('+' :: r) = r := rfl

theorem unsigned_other (c : Char) (r : List Char) (h1 : c ≠ '-') (h2 : c ≠ '+') : unsigned (c :: r) = c :: r := by
  unfold unsigned
  split
  · rename_i heq; injection heq with a _; exact absurd a h2
  · rename_i heq; injection heq with a _; exact absurd a h1
  · rfl

theorem isNeg_minus (r : List Char) : isNeg ('-' :: r) = true := rfl

theorem isNeg_other (c : Char) (r : List Char) (h1 : c ≠ '-') : isNeg (c :: r) = false := by
  unfold isNeg
  split
  · rename_i heq; injection heq with a _; exact absurd a h1
  · rfl

/-- `takeSign` in the Spec's terms.  The second part says that the `signSeen &&` in the first guard of `parseBody` /
`parseIntBody` may be dropped: without a sign character `unsigned b = b`, which is not empty. -/
theorem takeSign_eq (b : List Char) (hb : b ≠ []) :
    ∃ seen, takeSign b = (if isNeg b then -1 else 1, unsigned b, seen) ∧
      (seen && (unsigned b).isEmpty) = (unsigned b).isEmpty := by
  cases b with
  | nil => exact absurd rfl hb
  | cons c r =>
    by_cases h1 : c = '-'
    · subst h1; exact ⟨true, rfl, rfl⟩
    · by_cases h2 : c = '+'
      · subst h2; exact ⟨true, rfl, rfl⟩
      · rw [takeSign_other c r h1 h2, unsigned_other c r h1 h2, isNeg_other c r h1]; exact ⟨false, rfl, rfl⟩

/-- The specification of a parser's result `x` has two halves: `x` is a value exactly if `q`, and a value satisfies
`P`.  This is the case where `x` is an error (and `q` false); `spec_ok` is the case where it is a value. -/
theorem spec_error {α : Type} {e : Exc} {q : Bool} {P : α → Prop} (hq : q = false) :
    ((∃ d, (Except.error e : Except Exc α) = .ok d) ↔ q = true) ∧
      ∀ d, (Except.error e : Except Exc α) = .ok d → P d :=
  ⟨⟨fun ⟨_, h⟩ => (nomatch h), fun h => (nomatch hq.symm.trans h)⟩, fun _ h => (nomatch h)⟩

theorem spec_ok {α : Type} {x : α} {q : Bool} {P : α → Prop} (hq : q = true) (hx : P x) :
    ((∃ d, (Except.ok x : Except Exc α) = .ok d) ↔ q = true) ∧ ∀ d, (Except.ok x : Except Exc α) = .ok d → P d :=
  ⟨⟨fun _ => hq, fun _ => ⟨x, rfl⟩⟩, fun d h => by injection h with h; exact h ▸ hx⟩

/-- `parseBody` after the sign and the leading zeros, without its early exit for nothing left: on `[]` the two loops
give the same record. -/
def parseDigits (sg : Int) (b2 : List Char) : Except Exc BigDecimal :=
  match scan b2 false 0 [] 0 with
  | .error e => .error e
  | .ok (fd, acc, td) =>
    match stripTrail fd acc td with
    | (fd', acc', td') => .ok ⟨if td' == 0 then 0 else sg, acc'.reverse, td', fd'⟩

theorem parseBody_eq (rep : Bool) (b : List Char) (hb : b ≠ []) :
    parseBody rep b =
      if (unsigned b).isEmpty then .error .invChars
      else if rep && unsigned b == ['.'] then .error .invChars
      else parseDigits (if isNeg b then -1 else 1) ((unsigned b).dropWhile isZeroCh) := by
  obtain ⟨seen, h, hs⟩ := takeSign_eq b hb
  unfold parseBody
  rw [h]
  show (if (seen && (unsigned b).isEmpty) = true then _ else _) = _
  rw [hs]
  cases h0 : (unsigned b).dropWhile isZeroCh <;> rfl

theorem parseDigits_ok (neg : Bool) (I F : List Char) (t : Nat) (tail : List Char) (hI : AllDigits I) (hF : AllDigits F)
    (htr : F.getLast? ≠ some '0') (htail : (tail = [] ∧ F = [] ∧ t = 0) ∨ tail = '.' :: (F ++ zeros t)) :
    parseDigits (if neg then -1 else 1) (I ++ tail) = .ok (mkDec neg I F) := by
  unfold parseDigits
  rw [scan_form I F t tail hI hF htail]
  simp only
  rw [stripTrail_zeros F _ t _ htr]
  unfold mkDec
  cases h : I ++ F with
  | nil => obtain ⟨rfl, rfl⟩ := List.append_eq_nil_iff.mp h; rfl
  | cons a r =>
    have : I.length + F.length = r.length + 1 := by rw [← List.length_append, h]; rfl
    simp [this, h]

theorem parseDigits_error (sg : Int) (l : List Char) (h : lexBody l = false) : ∃ e, parseDigits sg l = .error e := by
  obtain ⟨e, he⟩ := scan_error l h
  unfold parseDigits
  rw [he]
  exact ⟨e, rfl⟩

theorem lexBody_split (l : List Char) (h : lexBody l = true) :
    ∃ F t, AllDigits F ∧ F.getLast? ≠ some '0' ∧
      ((l.dropWhile isDigit = [] ∧ F = [] ∧ t = 0) ∨ l.dropWhile isDigit = '.' :: (F ++ zeros t)) := by
  revert h
  fun_cases lexBody l with
  | case1 e => exact fun _ => ⟨[], 0, nofun, by simp, Or.inl ⟨e, rfl, rfl⟩⟩
  | case2 f e =>
    intro h
    obtain ⟨F, t, rfl, hF⟩ := trailZeros_split f
    exact ⟨F, t, (allDigits_append.mp ((allDigits_iff_all _).mpr h)).1, hF, Or.inr e⟩
  | case3 => exact nofun

theorem read_split (s X R : List Char) (hu : unsigned s = X ++ R) (hX : AllDigits X)
    (hR : ∀ c r, R = c :: r → isDigit c = false) : intPart s = X ∧ afterInt s = R := by
  unfold intPart afterInt
  rw [hu, List.takeWhile_append_of_pos hX, List.dropWhile_append_of_pos hX]
  cases R with
  | nil => exact ⟨List.append_nil X, rfl⟩
  | cons c r =>
    have := Bool.eq_false_iff.mp (hR c r rfl)
    rw [List.takeWhile_cons_of_neg this, List.dropWhile_cons_of_neg this]
    exact ⟨List.append_nil X, rfl⟩

theorem read_zeros (b : List Char) :
    ∃ k, unsigned b = zeros k ++ (unsigned b).dropWhile isZeroCh ∧
      ((unsigned b).dropWhile isZeroCh).head? ≠ some '0' ∧
      intPart b = zeros k ++ ((unsigned b).dropWhile isZeroCh).takeWhile isDigit ∧
      afterInt b = ((unsigned b).dropWhile isZeroCh).dropWhile isDigit := by
  obtain ⟨k, h1, h2⟩ := dropZeros_split (unsigned b)
  refine ⟨k, h1, h2, read_split b _ _ ?_ (allDigits_append.mpr ⟨allDigits_zeros k, takeWhile_all isDigit _⟩)
    (dropWhile_head isDigit _)⟩
  rw [List.append_assoc, List.takeWhile_append_dropWhile]
  exact h1

theorem read_val (c : List Char) (k t : Nat) (I F : List Char) (hip : intPart c = zeros k ++ I)
    (hfp : fracPart c = F ++ zeros t) :
    val c = scaleUp ((if isNeg c then -1 else 1) * ((natOf (I ++ F) : Nat) : Int), F.length) t := by
  unfold val scaleUp
  rw [hip, hfp, List.append_assoc, natOf_zeros_append, ← List.append_assoc, natOf_pad]
  cases isNeg c <;> simp [Int.natCast_mul, Int.neg_mul, zeros]

theorem isDecimalLex_eq (b : List Char) :
    isDecimalLex b = (lexBody (unsigned b) && !(unsigned b).isEmpty && !(unsigned b == ['.'])) := by
  unfold isDecimalLex lexBody intPart afterInt
  generalize unsigned b = u
  have hu : u.takeWhile isDigit ++ u.dropWhile isDigit = u := List.takeWhile_append_dropWhile
  have hI := takeWhile_all isDigit u
  generalize u.takeWhile isDigit = I at hu hI ⊢
  cases hR : u.dropWhile isDigit with
  | nil =>
    rw [hR, List.append_nil] at hu
    subst hu
    have : (I == ['.']) = false := by
      apply Bool.eq_false_iff.mpr; intro e; rw [beq_iff_eq] at e; subst e
      exact absurd (hI '.' (by simp)) (by decide)
    simp [this]
  | cons c r =>
    rw [hR] at hu
    subst hu
    by_cases hc : c = '.'
    · subst hc
      cases I <;> cases r <;> simp
    · split
      · rename_i h; cases h
      · rename_i h; injection h with h _; exact absurd h hc
      · simp

/-- Both parsers at once: the unrepaired one (`rep = false`) also accepts a lone point (defect F10). -/
theorem parseBody_spec (rep : Bool) (b : List Char) (hb : b ≠ []) :
    ((∃ d, parseBody rep b = .ok d) ↔
      (lexBody (unsigned b) && !(unsigned b).isEmpty && !(rep && unsigned b == ['.'])) = true) ∧
    ∀ d, parseBody rep b = .ok d → Normal d ∧ ∃ t, val b = scaleUp (decVal d) t := by
  obtain ⟨k, hk, hhead, hip, haf⟩ := read_zeros b
  have hlex : lexBody (unsigned b) = lexBody ((unsigned b).dropWhile isZeroCh) := by
    unfold lexBody; rw [show (unsigned b).dropWhile isDigit = afterInt b from rfl, haf]
  rw [parseBody_eq rep b hb, hlex]
  generalize (unsigned b).dropWhile isZeroCh = b2 at hk hhead hip haf ⊢
  by_cases c1 : (unsigned b).isEmpty = true
  · rw [if_pos c1]; exact spec_error (by simp [c1])
  · rw [if_neg c1, Bool.eq_false_iff.mpr c1]
    by_cases c2 : (rep && unsigned b == ['.']) = true
    · rw [if_pos c2]; exact spec_error (by simp [c2])
    · rw [if_neg c2, Bool.eq_false_iff.mpr c2]
      cases hl : lexBody b2 with
      | false =>
        obtain ⟨e, he⟩ := parseDigits_error (if isNeg b then -1 else 1) b2 hl
        rw [he]; exact spec_error rfl
      | true =>
        obtain ⟨F, t, hF, htr, hshape⟩ := lexBody_split b2 hl
        have hI := takeWhile_all isDigit b2
        have hres := parseDigits_ok (isNeg b) _ F t _ hI hF htr hshape
        rw [List.takeWhile_append_dropWhile] at hres
        rw [hres]
        refine spec_ok rfl ⟨normal_mk ⟨hI, hF, ?_, htr⟩, t, ?_⟩
        · rw [List.head?_takeWhile]
          exact fun e => hhead (Option.filter_eq_some_iff.mp e).1
        · rw [decVal_mk]
          refine read_val b k t _ F hip ?_
          unfold fracPart
          rw [haf]
          rcases hshape with ⟨h1, rfl, rfl⟩ | h1 <;> rw [h1] <;> rfl

theorem parseBody_lex (b : List Char) (hb : b ≠ []) :
    (∃ d, parseBody true b = .ok d) ↔ isDecimalLex b = true := by
  rw [isDecimalLex_eq]; exact (parseBody_spec true b hb).1

theorem isWhitespace_eq : isWhitespace = isWs := rfl

/-- The two white-space tests in front of both parsers, which go on with the body parser `K`. -/
def guarded {α : Type} (K : List Char → Except Exc α) (s : List Char) : Except Exc α :=
  if s.isEmpty then .error .emptyString else if (s.dropWhile isWs).isEmpty then .error .wsString else K (trimWs s)

theorem parseG_unfold (rep : Bool) : parseDecimalG rep = guarded (parseBody rep) := rfl

theorem trim_guard {α : Type} (K : List Char → Except Exc α) (s : List Char) :
    (trimWs s ≠ [] → guarded K s = K (trimWs s)) ∧ ∀ r, guarded K s = .ok r → K (trimWs s) = .ok r ∧ trimWs s ≠ [] := by
  unfold guarded
  by_cases h1 : s.isEmpty = true
  · rw [if_pos h1, List.isEmpty_iff.mp h1]
    exact ⟨fun ht => absurd rfl ht, fun r h => (nomatch h)⟩
  · rw [if_neg h1]
    by_cases h2 : (s.dropWhile isWs).isEmpty = true
    · rw [if_pos h2]
      refine ⟨fun ht => absurd ?_ ht, fun r h => (nomatch h)⟩
      unfold trimWs; rw [List.isEmpty_iff.mp h2]; rfl
    · rw [if_neg h2]
      -- `trimWs s` is `trim isWs s` by definition
      exact ⟨fun _ => rfl, fun r h => ⟨h, trim_ne_nil isWs s (fun e => h2 (by rw [e]; rfl))⟩⟩

theorem trim_accepts {α : Type} (K : List Char → Except Exc α) (q : List Char → Bool) (hq : q [] = false)
    (hK : ∀ b, b ≠ [] → ((∃ r, K b = .ok r) ↔ q b = true)) (s : List Char) :
    (∃ r, guarded K s = .ok r) ↔ q (trimWs s) = true := by
  obtain ⟨h1, h2⟩ := trim_guard K s
  constructor
  · rintro ⟨r, h⟩
    obtain ⟨hb, hne⟩ := h2 r h
    exact (hK _ hne).mp ⟨r, hb⟩
  · intro h
    have hne : trimWs s ≠ [] := by intro e; rw [e, hq] at h; cases h
    rw [h1 hne]
    exact (hK _ hne).mpr h

theorem parse_ok (rep : Bool) (s : List Char) (d : BigDecimal) (h : parseDecimalG rep s = .ok d) :
    Normal d ∧ ∃ t, val (trimWs s) = scaleUp (decVal d) t := by
  obtain ⟨hb, hne⟩ := (trim_guard _ s).2 d h
  exact (parseBody_spec rep _ hne).2 d hb

theorem read_signed (neg : Bool) (a : Char) (w : List Char) (ha : isDigit a = true)
    (hl : ∀ x, (a :: w).getLast? = some x → isWs x = false) :
    let c := (if neg then ['-'] else []) ++ a :: w
    unsigned c = a :: w ∧ isNeg c = neg ∧ startsWithPlus c = false ∧ trimWs c = c := by
  have hd := digit_not_sign a ha
  -- `trimWs c` is `trim isWs c` by definition
  cases neg with
  | true =>
    exact ⟨rfl, rfl, rfl, trim_id isWs _ (fun x hx => by injection hx with hx; rw [← hx]; rfl)
      (by show ∀ x, ('-' :: a :: w).getLast? = some x → _; rw [List.getLast?_cons_cons]; exact hl)⟩
  | false =>
    refine ⟨unsigned_other _ _ hd.1 hd.2, isNeg_other _ _ hd.1, ?_,
      trim_id isWs _ (fun x hx => by injection hx with hx; rw [← hx]; exact digit_not_ws a ha) hl⟩
    show startsWithPlus (a :: w) = false
    unfold startsWithPlus
    split
    · rename_i heq; injection heq with e _; exact absurd e hd.2
    · rfl

theorem read_shape (neg : Bool) (I F : List Char) (hI : AllDigits I) (hne : I ≠ []) (hF : AllDigits F) (hneF : F ≠ []) :
    let c := (if neg then ['-'] else []) ++ I ++ '.' :: F
    isNeg c = neg ∧ intPart c = I ∧ afterInt c = '.' :: F ∧ fracPart c = F ∧ startsWithPlus c = false ∧
      trimWs c = c := by
  intro c
  obtain ⟨i0, I', rfl⟩ := List.exists_cons_of_ne_nil hne
  -- the last character is the last digit of `F`
  have hlast : (i0 :: (I' ++ '.' :: F)).getLast? = F.getLast? := by
    rw [← List.cons_append, List.getLast?_append, List.getLast?_cons, Option.some_or]
    obtain ⟨a, r, rfl⟩ := List.exists_cons_of_ne_nil hneF
    rw [List.getLast?_cons]; rfl
  obtain ⟨h1, h2, h3, h4⟩ := read_signed neg i0 (I' ++ '.' :: F) (hI i0 (by simp))
    (fun x hx => digit_not_ws x (hF x (List.mem_of_getLast? (hlast ▸ hx))))
  have hc : c = (if neg then ['-'] else []) ++ i0 :: (I' ++ '.' :: F) := by simp [c]
  rw [← hc] at h1 h2 h3 h4
  obtain ⟨hip, hai⟩ := read_split c (i0 :: I') ('.' :: F) h1 hI
    (fun x r e => by injection e with e _; rw [← e]; exact not_digit_dot)
  exact ⟨h2, hip, hai, by unfold fracPart; rw [hai]; rfl, h3, h4⟩

theorem canonOf_mk (neg : Bool) (I F : List Char) :
    canonOf (mkDec neg I F) =
      (if neg && !(I ++ F).isEmpty then ['-'] else []) ++ (zeros (if I.isEmpty then 1 else 0) ++ I) ++
        '.' :: (F ++ zeros (if F.isEmpty then 1 else 0)) := by
  unfold canonOf mkDec
  cases neg <;> cases I <;> cases F <;> simp [zeros]

theorem read_canon (neg : Bool) (I F : List Char) (hp : Parts I F) :
    isNeg (canonOf (mkDec neg I F)) = (neg && !(I ++ F).isEmpty) ∧
      intPart (canonOf (mkDec neg I F)) = zeros (if I.isEmpty then 1 else 0) ++ I ∧
      afterInt (canonOf (mkDec neg I F)) = '.' :: (F ++ zeros (if F.isEmpty then 1 else 0)) ∧
      fracPart (canonOf (mkDec neg I F)) = F ++ zeros (if F.isEmpty then 1 else 0) ∧
      startsWithPlus (canonOf (mkDec neg I F)) = false ∧ trimWs (canonOf (mkDec neg I F)) = canonOf (mkDec neg I F) := by
  rw [canonOf_mk]
  exact read_shape _ _ _ (allDigits_append.mpr ⟨allDigits_zeros _, hp.dI⟩) (by cases I <;> simp [zeros])
    (allDigits_append.mpr ⟨hp.dF, allDigits_zeros _⟩) (by cases F <;> simp [zeros])

theorem canon_trim (d : BigDecimal) (hd : Normal d) : trimWs (canonOf d) = canonOf d ∧ canonOf d ≠ [] := by
  obtain ⟨neg, I, F, hp, rfl⟩ := hd.eq_mk
  exact ⟨(read_canon neg I F hp).2.2.2.2.2, by rw [canonOf_mk]; simp⟩

theorem canon_val (d : BigDecimal) (hd : Normal d) : ∃ u, val (canonOf d) = scaleUp (decVal d) u := by
  obtain ⟨neg, I, F, hp, rfl⟩ := hd.eq_mk
  obtain ⟨hneg, hip, _, hfp, _⟩ := read_canon neg I F hp
  refine ⟨if F.isEmpty then 1 else 0, ?_⟩
  rw [read_val _ _ _ I F hip hfp, decVal_mk, hneg]
  cases h : I ++ F with
  | nil => simp [natOf]
  | cons a r => simp

theorem canon_lex (d : BigDecimal) (hd : Normal d) :
    isDecimalLex (canonOf d) = true ∧ isCanonicalDecimal (canonOf d) = true := by
  obtain ⟨neg, I, F, hp, rfl⟩ := hd.eq_mk
  obtain ⟨hneg, hip, haf, hfp, hplus, _⟩ := read_canon neg I F hp
  have hl : isDecimalLex (canonOf (mkDec neg I F)) = true := by
    unfold isDecimalLex
    rw [haf]; simp only
    rw [(allDigits_iff_all _).mp (allDigits_append.mpr ⟨hp.dF, allDigits_zeros _⟩), hip]
    cases I <;> simp [zeros]
  refine ⟨hl, ?_⟩
  unfold isCanonicalDecimal
  simp only
  have hpt : hasPoint (canonOf (mkDec neg I F)) = true := by unfold hasPoint; rw [haf]; rfl
  rw [hl, hplus, hpt, hip, hfp, hneg, List.append_assoc, natOf_zeros_append, ← List.append_assoc, natOf_pad]
  simp only [Bool.true_and, Bool.not_false, Bool.and_eq_true, Bool.not_eq_true', Bool.or_eq_true, beq_iff_eq, bne_iff_ne, ne_eq]
  refine ⟨⟨⟨⟨by cases I <;> simp [zeros], by cases F <;> simp [zeros]⟩, ?_⟩, ?_⟩, ?_⟩
  · cases I with
    | nil => left; rfl
    | cons a r => right; simpa [zeros] using hp.lead
  · cases hF : F with
    | nil => left; rfl
    | cons a r => right; rw [← hF]; simpa [zeros, hF] using hp.trail
  · -- a negative sign is printed only in front of digits that are not all zero
    cases hne : (I ++ F).isEmpty with
    | true => simp
    | false =>
      have := (normal_mk (neg := neg) hp).pos (by cases neg <;> simp [mkDec, hne])
      have h10 : 0 < 10 ^ (if F.isEmpty = true then 1 else 0) := Nat.pow_pos (by omega)
      have := Nat.mul_pos this h10
      simp [mkDec] at this ⊢
      omega

theorem parse_canon (d : BigDecimal) (hd : Normal d) : parseDecimalG true (canonOf d) = .ok d := by
  obtain ⟨ht, hne⟩ := canon_trim d hd
  rw [parseG_unfold, (trim_guard _ _).1 (by rw [ht]; exact hne), ht]
  obtain ⟨d', hd'⟩ := (parseBody_lex (canonOf d) hne).mpr (canon_lex d hd).1
  obtain ⟨hn', t', hv'⟩ := (parseBody_spec true _ hne).2 d' hd'
  obtain ⟨u, hv⟩ := canon_val d hd
  have : cmpSpec (decVal d') (decVal d) = .eq := by
    rw [← cmpSpec_scaleUp (decVal d') (decVal d) t' u, ← hv', ← hv]; exact cmpSpec_refl _
  have h0 : toCompare d' d = 0 := by rw [toCompare_spec d' d hn' hd, this]; rfl
  rw [hd', toCompare_eq_zero d' d hn' hd h0]

theorem canonOf_inj {l r : BigDecimal} (hl : Normal l) (hr : Normal r) (h : canonOf l = canonOf r) : l = r :=
  Except.ok.inj ((parse_canon l hl).symm.trans (h ▸ parse_canon r hr))

theorem canonical_some (s c : List Char) (h : canonical s = some c) : ∃ d, parseDecimal s = .ok d ∧ c = canonOf d := by
  unfold canonical canonicalG at h
  unfold parseDecimal
  cases hp : parseDecimalG true s with
  | error e => rw [hp] at h; cases h
  | ok d => rw [hp] at h; injection h with h; exact ⟨d, rfl, h.symm⟩

theorem all_scan_test (l : List Char) :
    l.all (fun c => !(c.toNat < '0'.toNat || c.toNat > '9'.toNat)) = l.all isDigit := by
  congr 1; funext c; rw [scan_test]; simp

/-- normal form of a parsed integer: sign and magnitude without leading zeros -/
structure NormalInt (r : Int × List Char) : Prop where
  digits : AllDigits r.2
  sign : (r.1 = 0 ∧ r.2 = []) ∨ ((r.1 = 1 ∨ r.1 = -1) ∧ r.2 ≠ [])
  lead : r.2.head? ≠ some '0'

theorem parseIntBody_eq (b : List Char) (hb : b ≠ []) :
    parseIntBody b =
      if (unsigned b).isEmpty then .error .invChars
      else if ((unsigned b).dropWhile isZeroCh).isEmpty then .ok (0, [])
      else if ((unsigned b).dropWhile isZeroCh).all isDigit then
        .ok (if isNeg b then -1 else 1, (unsigned b).dropWhile isZeroCh)
      else .error .invChars := by
  obtain ⟨seen, h, hs⟩ := takeSign_eq b hb
  unfold parseIntBody
  rw [h]
  show (if (seen && (unsigned b).isEmpty) = true then _ else _) = _
  rw [hs]
  simp only [all_scan_test]

theorem sign_mul (neg : Bool) (n : Int) : (if neg then -n else n) = (if neg then -1 else 1) * n := by
  cases neg <;> simp

theorem neg_cast_zero : -((0 : Nat) : Int) = ((0 : Nat) : Int) := by simp

theorem parseIntBody_spec (b : List Char) (hb : b ≠ []) :
    ((∃ r, parseIntBody b = .ok r) ↔ isIntegerLex b = true) ∧
    (∀ r, parseIntBody b = .ok r → NormalInt r ∧ intVal b = r.1 * ((natOf r.2 : Nat) : Int)) := by
  obtain ⟨k, hk, hhead, hip, haf⟩ := read_zeros b
  unfold isIntegerLex intVal
  rw [parseIntBody_eq b hb, hip, haf]
  generalize (unsigned b).dropWhile isZeroCh = b2 at hk hhead ⊢
  by_cases c1 : (unsigned b).isEmpty = true
  · obtain ⟨ek, eb⟩ := List.append_eq_nil_iff.mp (hk ▸ List.isEmpty_iff.mp c1)
    rw [if_pos c1, ek, eb]
    exact spec_error rfl
  · rw [if_neg c1]
    by_cases c3 : b2.isEmpty = true
    · have eb : b2 = [] := List.isEmpty_iff.mp c3
      subst eb
      have hz : zeros k ≠ [] := fun ez => c1 (by rw [hk, ez]; rfl)
      rw [if_pos c3]
      refine spec_ok (by simp [hz]) ⟨⟨fun c hc => (nomatch hc), Or.inl ⟨rfl, rfl⟩, by simp⟩, ?_⟩
      rw [List.takeWhile_nil, List.append_nil, natOf_zeros]
      simp
    · rw [if_neg c3]
      have hne : b2 ≠ [] := fun e => c3 (by rw [e]; rfl)
      cases hall : b2.all isDigit with
      | true =>
        obtain ⟨t1, t2⟩ := all_digits_split b2 hall
        rw [t1, t2, natOf_zeros_append, if_pos rfl]
        exact spec_ok (by simp [hne])
          ⟨⟨(allDigits_iff_all b2).mpr hall, Or.inr ⟨by cases isNeg b <;> simp, hne⟩, hhead⟩, sign_mul _ _⟩
      | false =>
        rw [if_neg Bool.false_ne_true]
        exact spec_error (by simp [not_all_digits b2 hall])

theorem parseInt_unfold : parseBigInteger = guarded parseIntBody := rfl

theorem parseInt_spec (s : List Char) (r : Int × List Char) (h : parseBigInteger s = .ok r) :
    NormalInt r ∧ intVal (trimWs s) = r.1 * ((natOf r.2 : Nat) : Int) := by
  obtain ⟨hb, hne⟩ := (trim_guard _ s).2 r h
  exact (parseIntBody_spec _ hne).2 r hb

def asDec (r : Int × List Char) : BigDecimal := ⟨r.1, r.2, r.2.length, 0⟩

theorem asDec_normal (r : Int × List Char) (h : NormalInt r) : Normal (asDec r) where
  digits := h.digits
  len := rfl
  scale_le := Nat.zero_le _
  sign := by
    rcases h.sign with ⟨h1, h2⟩ | ⟨h1, h2⟩
    · left; exact ⟨h1, by simp [asDec, h2]⟩
    · right; exact ⟨h1, by simp only [asDec]; exact List.length_pos_iff.mpr h2⟩
  lead := fun _ => h.lead
  trail := fun h0 => by simp [asDec] at h0

theorem compareValuesInt_eq (l r : Int × List Char) (hl : NormalInt l) :
    compareValuesInt l r = toCompare (asDec l) (asDec r) := by
  have sl : l.1 = 0 ∨ l.1 = 1 ∨ l.1 = -1 := by
    rcases hl.sign with ⟨h, _⟩ | ⟨h | h, _⟩ <;> simp [h]
  unfold toCompare asDec
  simp only [Nat.sub_zero]
  -- in each branch of `compareValuesInt` its tests decide `toCompare` as well; what is left is
  -- `if l.1 > 0 then 1 else -1` against `1 * l.1`, where `l.1` is 1 or -1
  fun_cases compareValuesInt l r <;> simp only [*, if_true, if_false] <;> omega

/-- body of `XMLBigInteger::getCanonicalRepresentation` after a successful parse -/
def canonIntOf (r : Int × List Char) : List Char := if r.1 = 0 then ['0'] else if r.1 = -1 then '-' :: r.2 else r.2

theorem canonicalInt_ok (s : List Char) (r : Int × List Char) (h : parseBigInteger s = .ok r) :
    canonicalInt s = some (canonIntOf r) := by
  unfold canonicalInt canonIntOf
  rw [h]
  simp only
  split
  · rfl
  · split <;> rfl

theorem canonicalInt_some (s c : List Char) (h : canonicalInt s = some c) :
    ∃ r, parseBigInteger s = .ok r ∧ c = canonIntOf r := by
  cases hp : parseBigInteger s with
  | error e => unfold canonicalInt at h; rw [hp] at h; cases h
  | ok r => rw [canonicalInt_ok s r hp] at h; injection h with h; exact ⟨r, rfl, h.symm⟩

theorem parseInt_canonOf (r : Int × List Char) (hn : NormalInt r) : parseBigInteger (canonIntOf r) = .ok r := by
  obtain ⟨sg, m⟩ := r
  rcases hn.sign with ⟨h0, hm⟩ | ⟨hsg, hm⟩
  · simp only at h0 hm; subst h0; subst hm; rfl
  · simp only at hsg hm
    obtain ⟨a, r, rfl⟩ := List.exists_cons_of_ne_nil hm
    obtain ⟨hu, hneg, _, ht⟩ := read_signed (decide (sg = -1)) a r (hn.digits a (by simp))
      (fun x hx => digit_not_ws x (hn.digits x (List.mem_of_getLast? hx)))
    have hc : canonIntOf (sg, a :: r) = (if decide (sg = -1) then ['-'] else []) ++ a :: r := by
      rcases hsg with rfl | rfl <;> rfl
    rw [← hc] at hu hneg ht
    have hne : canonIntOf (sg, a :: r) ≠ [] := fun e => by rw [e] at hu; cases hu
    rw [parseInt_unfold, (trim_guard _ _).1 (by rw [ht]; exact hne), ht, parseIntBody_eq _ hne, hu,
      dropZeros_id _ hn.lead, hneg, (allDigits_iff_all _).mp hn.digits]
    rcases hsg with rfl | rfl <;> rfl

end XV.Lemmas.Decimal
