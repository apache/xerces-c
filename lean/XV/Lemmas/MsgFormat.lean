import XV.Model.MsgFormat
/-!
`inner_le`: in the message-formatting model (`XV.Model.MsgFormat`) `curOutInd` never passes `maxChars`, if the
brace copy is guarded or the text has the shape of the shipped messages.

The two shape tests of the model are read as one, `bareAfter`, whose flag says whether a token has been replaced
yet; `inner_le` carries that flag along the recursion of `inner`.  After a `{` the tests look two characters ahead,
and "no character", "one character" and "two characters that are no token" all do the same thing, so `bareAfter`
has one equation for a `{`, phrased with `getD`/`drop` (the default `0` is no `}`, so a missing character is no
token), and one for any other character; `XV.Lemmas.MsgTables` reads a packed message through the same two.
-/
namespace XV.Lemmas.MsgFormat
open XV.Model.MsgFormat

theorem isTok_zero_left (e : Nat) : isTok 0 e = false := by simp [isTok, c0]

theorem isTok_zero_right (d : Nat) : isTok d 0 = false := by simp [isTok, cClose]

/-- `tokenThenBare` while no token has been replaced yet (`seen = false`), `hasBare` from then on: the one
replacement that may have filled the buffer is what makes a later bare brace dangerous. -/
def bareAfter : Bool → List Nat → Bool
  | false => tokenThenBare
  | true => hasBare

theorem bareAfter_cons_ne (seen : Bool) {c : Nat} (hc : c ≠ cOpen) (rest : List Nat) :
    bareAfter seen (c :: rest) = bareAfter seen rest := by
  cases seen <;> match rest with
  | [] | [_] | _ :: _ :: _ => simp [bareAfter, hasBare, tokenThenBare, hc]

theorem bareAfter_cons_open (seen : Bool) (rest : List Nat) :
    bareAfter seen (cOpen :: rest) =
      if isTok (rest.getD 0 0) (rest.getD 1 0) then bareAfter true (rest.drop 2) else seen || bareAfter seen rest := by
  cases seen <;> match rest with
  | [] | [_] | _ :: _ :: _ => simp [bareAfter, hasBare, tokenThenBare, isTok_zero_right]

theorem inner_cons_ne (guarded : Bool) (maxChars : Nat) (rep : Nat → Nat) {c : Nat} (hc : c ≠ cOpen)
    (rest : List Nat) (out : Nat) :
    inner guarded maxChars rep (c :: rest) out =
      if out < maxChars then inner guarded maxChars rep rest (out + 1) else out := by
  match rest with
  | [] | [_] | _ :: _ :: _ => simp [inner, hc]

/-- `curOutInd` never passes `maxChars` if the brace copy is guarded (the repair), or — the unguarded loop on the
shipped messages — no bare brace is still to come that could meet a full buffer: none at all once a token has been
replaced (`seen`), none after a token while the rest of the text still fits. -/
theorem inner_le (guarded : Bool) (maxChars : Nat) (rep : Nat → Nat) (src : List Nat) (out : Nat) :
    ∀ (seen : Bool), out ≤ maxChars →
      (guarded = true ∨ (bareAfter seen src = false ∧ (seen = false → out + src.length ≤ maxChars))) →
      inner guarded maxChars rep src out ≤ maxChars := by
  fun_induction inner guarded maxChars rep src out with
  | case1 | case3 => exact fun _ ho _ => ho
  | case2 c rest out hc hlt ih =>
    intro seen _ h
    rw [bareAfter_cons_ne _ hc, List.length_cons] at h
    exact ih seen hlt (h.imp_right fun h => ⟨h.1, fun hs => by have := h.2 hs; omega⟩)
  | case6 => intro _ _ _; omega
  | case7 c out hc d e rest' ht out' hlt ih =>
    intro seen _ h
    obtain rfl : c = cOpen := by simpa using hc
    simp only [bareAfter_cons_open, List.getD_cons_zero, List.getD_cons_succ, ht, if_true, List.drop_succ_cons,
      List.drop_zero] at h
    exact ih true (by omega) (h.imp_right fun h => ⟨h.1, nofun⟩)
  -- a brace that opens no token, in each of the three ways the look-ahead finds that out (`*`: the failed `isTok d e`)
  | case4 c out hc ih | case5 c out hc d ih | case8 c out hc d e rest' ht ih =>
    intro seen ho h
    obtain rfl : c = cOpen := by simpa using hc
    rw [bareAfter_cons_open, List.length_cons] at h
    simp only [List.getD_cons_zero, List.getD_cons_succ, List.getD_nil, isTok_zero_right, *, Bool.false_eq_true,
      if_false, Bool.or_eq_false_iff] at h
    unfold bare
    split
    · exact ho
    · next hg =>
      split
      · rcases h with h | ⟨⟨hs, _⟩, hl⟩
        · simp only [h, Bool.true_and, decide_eq_true_eq] at hg; omega
        · have := hl hs; omega
      · exact ih _ seen (by omega) (h.imp_right fun h => ⟨h.1.2, fun hs => by have := h.2 hs; omega⟩)

end XV.Lemmas.MsgFormat
