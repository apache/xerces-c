/-
The tree under the views of C14.  In a well-formed store the walks that recurse on fuel (`ancestors`, `docOrder`, `deepLast`) satisfy
their recursion equations (`fuel_fix`), and the document order of a subtree splits around the block of each of its nodes
(`block_decomp`): the pointer walks of the code (next sibling or an ancestor's; previous sibling's last descendant or the parent)
find the neighbours of that block.  A search loop over such a walk is `find?` on the rest of the list (`walk_find`); the cache of a
tag-name list is a `Cursor` into a filtered list.  Last, what the store updates of C13 do to what the views observe.
-/
import XV.Lemmas.DomClone
import XV.Spec.Views
namespace XV.Lemmas.Views
open XV.Model.Dom XV.Spec.Dom XV.Model.Views XV.Spec.Views XV.Lemmas.Dom

theorem flatMap_congr {α β : Type} (l : List α) (f g : α → List β) (h : ∀ a, a ∈ l → f a = g a) :
    l.flatMap f = l.flatMap g := by
  rw [List.flatMap_def, List.flatMap_def, List.map_congr_left h]

theorem nodup_middle {α : Type} {l1 l2 : List α} {x : α} (h : (l1 ++ x :: l2).Nodup) : x ∉ l1 ∧ x ∉ l2 :=
  have h' := List.nodup_append.mp h
  ⟨fun hm => h'.2.2 x hm x (List.mem_cons_self ..) rfl, (List.nodup_cons.mp h'.2.1).1⟩

theorem nodup_split {α : Type} {L : List α} {x : α} (hnd : L.Nodup) (hx : x ∈ L) :
    ∃ pre rest, L = pre ++ x :: rest ∧ x ∉ pre ∧ x ∉ rest := by
  obtain ⟨pre, rest, hL⟩ := List.append_of_mem hx
  exact ⟨pre, rest, hL, nodup_middle (hL ▸ hnd)⟩

theorem mem_kids {s : Store} {n c : NodeId} (h : c ∈ kids s n) : ∃ rn, s.get n = some rn ∧ c ∈ rn.children := by
  unfold kids parentKids at h
  cases hn : s.get n with
  | none => rw [hn] at h; cases h
  | some rn => rw [hn] at h; exact ⟨rn, rfl, h⟩

theorem kids_eq {s : Store} {n : NodeId} {rn : NodeRec} (h : s.get n = some rn) : kids s n = rn.children := by
  unfold kids parentKids; rw [h]

theorem kids_dead {s : Store} {n : NodeId} (h : s.get n = none) : kids s n = [] := by
  unfold kids parentKids; rw [h]

theorem parentOf_dead {s : Store} {n : NodeId} (h : s.get n = none) : parentOf s n = none := by
  unfold parentOf; rw [h]; rfl

theorem parent_of_kid {s : Store} (h : WF s) {n c : NodeId} (hc : c ∈ kids s n) : parentOf s c = some n := by
  obtain ⟨rn, hn, hcm⟩ := mem_kids hc
  obtain ⟨rc, hrc, hp⟩ := h.childParent n rn c hn hcm
  unfold parentOf; rw [hrc]; exact hp

theorem kid_of_parent {s : Store} (h : WF s) {x q : NodeId} (hq : parentOf s x = some q) : x ∈ kids s q := by
  obtain ⟨rx, hx, hp⟩ := parentOf_eq_some.mp hq
  obtain ⟨rq, hrq, hm⟩ := h.parentChild x rx q hx hp
  rw [kids_eq hrq]; exact hm

theorem kids_nodup {s : Store} (h : WF s) (n : NodeId) : (kids s n).Nodup := by
  cases hn : s.get n with
  | none => rw [kids_dead hn]; exact List.nodup_nil
  | some rn => rw [kids_eq hn]; exact h.nodupChildren n rn hn

theorem kid_lt_size {s : Store} (h : WF s) {n c : NodeId} (hc : c ∈ kids s n) : c < s.size := by
  obtain ⟨rc, hrc, _⟩ := parentOf_eq_some.mp (parent_of_kid h hc)
  exact lt_size_of_get s c rc hrc

theorem parent_lt_size {s : Store} (h : WF s) {x q : NodeId} (hq : parentOf s x = some q) : q < s.size := by
  obtain ⟨rq, hrq, _⟩ := mem_kids (kid_of_parent h hq)
  exact lt_size_of_get s q rq hrq

/-- `μ` measures the walks that step from `x` to the nodes `next x` lists: it goes down along every step and, on the ids of the store,
stays below `s.size`, the fuel the walks of the model start with. -/
def Descends (s : Store) (next : NodeId → List NodeId) (μ : NodeId → Nat) : Prop :=
  (∀ x c, c ∈ next x → μ c < μ x) ∧ ∀ x, x < s.size → μ x < s.size

/-- The bounded ranking of `exists_bounded_rank` decreases towards the children; its complement decreases towards the parent. -/
theorem exists_descends {s : Store} (h : WF s) :
    (∃ μ, Descends s (kids s) μ) ∧ ∃ μ, Descends s (fun x => (parentOf s x).toList) μ := by
  obtain ⟨μ, hrank, hb⟩ := exists_bounded_rank s h
  have hμ : ∀ x c, c ∈ kids s x → μ c < μ x := fun x c hc =>
    have ⟨rc, hrc, hp⟩ := parentOf_eq_some.mp (parent_of_kid h hc)
    hrank c rc x hrc hp
  refine ⟨⟨μ, hμ, hb⟩, fun y => s.size - 1 - μ y, fun x q hq => ?_, fun x hx => Nat.lt_of_le_of_lt (Nat.sub_le ..) (Nat.sub_one_lt_of_lt hx)⟩
  have hq : parentOf s x = some q := Option.mem_toList.mp hq
  have := hμ q x (kid_of_parent h hq)
  have := hb q (parent_lt_size h hq)
  show s.size - 1 - μ q < s.size - 1 - μ x
  omega

theorem down_induction {s : Store} (h : WF s) (P : NodeId → Prop)
    (step : ∀ n, (∀ c, c ∈ kids s n → P c) → P n) : ∀ n, P n :=
  have ⟨μ, hμ, _⟩ := (exists_descends h).1
  fun n => (measure μ).wf.induction n fun x ih => step x fun c hc => ih c (hμ x c hc)

/-- The walks of the model recurse with a fuel argument: `F (f+1) x` is computed (`step`) from the values `F f c`
at the nodes `c` that `next` lists for `x`.  Along a descending measure the fuel `s.size` is enough: there `F` satisfies the
recursion equation without the fuel going down.  The measure bounds nothing for an id outside the store; there (`hdead`) the
step does not look at the recursive calls and gives what no fuel at all gives. -/
theorem fuel_fix {α : Type} {s : Store} {next : NodeId → List NodeId} (hd : ∃ μ, Descends s next μ)
    (F : Nat → NodeId → α) (step : (NodeId → α) → NodeId → α)
    (hF : ∀ f x, F (f + 1) x = step (F f) x)
    (hstep : ∀ g g' x, (∀ c, c ∈ next x → g c = g' c) → step g x = step g' x)
    (hdead : ∀ x, s.get x = none → ∀ g, step g x = F 0 x) : ∀ x, F s.size x = step (F s.size) x := by
  obtain ⟨μ, hμ, hb⟩ := hd
  have key : ∀ f x, μ x < f → F f x = F (f + 1) x := by
    intro f
    induction f with
    | zero => intro x hx; exact absurd hx (Nat.not_lt_zero _)
    | succ f ih =>
      intro x hx
      rw [hF, hF]
      exact hstep _ _ x fun c hc => ih c (Nat.lt_of_lt_of_le (hμ x c hc) (Nat.le_of_lt_succ hx))
  intro x
  by_cases hx : x < s.size
  · rw [← hF]; exact key _ x (hb x hx)
  · have e := hdead x (get_ge_size s x (Nat.le_of_not_lt hx))
    rw [e]
    cases s.size with
    | zero => rfl
    | succ k => rw [hF, e]

theorem ancestors_unfold {s : Store} (h : WF s) (x : NodeId) :
    ancestors s x = match parentOf s x with
      | none => []
      | some q => q :: ancestors s q :=
  fuel_fix (exists_descends h).2 (ancestorsFuel s)
    (fun g x => match parentOf s x with
      | none => []
      | some q => q :: g q) (fun _ _ => rfl)
    (fun g g' x hg => by
      cases hq : parentOf s x with
      | none => rfl
      | some q => simp only [hg q (Option.mem_toList.mpr hq)])
    (fun x hx g => by simp only [parentOf_dead hx]; rfl) x

theorem ancestors_cons {s : Store} (h : WF s) {x q : NodeId} (hq : parentOf s x = some q) :
    ancestors s x = q :: ancestors s q := by
  rw [ancestors_unfold h x, hq]

theorem ancestors_nil {s : Store} (h : WF s) {x : NodeId} (hq : parentOf s x = none) : ancestors s x = [] := by
  rw [ancestors_unfold h x, hq]

theorem docOrder_unfold {s : Store} (h : WF s) (n : NodeId) :
    docOrder s n = n :: (kids s n).flatMap (docOrder s) :=
  fuel_fix (exists_descends h).1 (docOrderFuel s)
    (fun g n => n :: (kids s n).flatMap g) (fun _ _ => rfl)
    (fun g g' x hg => by rw [flatMap_congr _ g g' hg])
    (fun x hx g => by rw [kids_dead hx]; rfl) n

theorem lastKid_mem {s : Store} {x l : NodeId} (h : lastKid s x = some l) : l ∈ kids s x :=
  List.mem_of_getLast? h

theorem deepLast_unfold {s : Store} (h : WF s) (x : NodeId) :
    deepLast s x = match lastKid s x with
      | none => x
      | some l => deepLast s l :=
  fuel_fix (exists_descends h).1 (deepLastFuel s)
    (fun g x => match lastKid s x with
      | none => x
      | some l => g l) (fun _ _ => rfl)
    (fun g g' x hg => by
      cases hl : lastKid s x with
      | none => rfl
      | some l => simp only [hg l (lastKid_mem hl)])
    (fun x hx g => by simp only [lastKid, kids_dead hx]; rfl) x

theorem anc_of_kid {s : Store} (h : WF s) {n c : NodeId} (hc : c ∈ kids s n) : AncOrSelf s n c :=
  .step (parent_of_kid h hc) .refl

/-- Acyclicity: on the way up the rank never goes down, and from a node to its parent it goes up. -/
theorem not_anc_parent {s : Store} (h : WF s) {x q : NodeId} (hq : parentOf s x = some q) : ¬ AncOrSelf s x q := by
  obtain ⟨μ, hμ, _⟩ := (exists_descends h).1
  have mono : ∀ {a y}, AncOrSelf s a y → μ y ≤ μ a := by
    intro a y ha
    induction ha with
    | refl => exact Nat.le_refl _
    | step hq' _ ih => exact Nat.le_trans (Nat.le_of_lt (hμ _ _ (kid_of_parent h hq'))) ih
  exact fun ha => Nat.lt_irrefl _ (Nat.lt_of_lt_of_le (hμ q x (kid_of_parent h hq)) (mono ha))

theorem anc_antisymm {s : Store} (h : WF s) {a b : NodeId} (h1 : AncOrSelf s a b) (h2 : AncOrSelf s b a) : a = b := by
  cases h2 with
  | refl => rfl
  | step hq h2 => exact absurd (anc_trans h1 h2) (not_anc_parent h hq)

theorem sibling_not_anc {s : Store} (h : WF s) {p c1 c2 : NodeId} (h1 : c1 ∈ kids s p) (h2 : c2 ∈ kids s p)
    (hne : c1 ≠ c2) : ¬ AncOrSelf s c1 c2 :=
  fun ha => not_anc_parent h (parent_of_kid h h1) (anc_parent (parent_of_kid h h2) ha hne)

theorem anc_of_mem_ancestorsFuel {s : Store} {a : NodeId} (f : Nat) (b : NodeId) (hm : a ∈ ancestorsFuel s f b) :
    AncOrSelf s a b := by
  fun_induction ancestorsFuel s f b with
  | case1 | case2 => nomatch hm
  | case3 f b q hq ih => exact .step hq ((List.mem_cons.mp hm).elim (fun e => e ▸ .refl) ih)

theorem mem_chain_iff {s : Store} (h : WF s) {a b : NodeId} : a ∈ b :: ancestors s b ↔ AncOrSelf s a b := by
  constructor
  · exact fun hm => (List.mem_cons.mp hm).elim (fun e => e ▸ .refl) (anc_of_mem_ancestorsFuel _ b)
  · intro ha
    induction ha with
    | refl => exact List.mem_cons_self ..
    | step hq _ ih => rw [ancestors_cons h hq]; exact List.mem_cons_of_mem _ ih

theorem isAncOf_iff {s : Store} (h : WF s) (a b : NodeId) : isAncOf s a b = true ↔ AncOrSelf s a b := by
  unfold isAncOf
  rw [Bool.or_eq_true, beq_iff_eq, List.contains_iff_mem, ← mem_chain_iff h, List.mem_cons, eq_comm]

theorem not_isAncOf_parent {s : Store} (h : WF s) {x q : NodeId} (hq : parentOf s x = some q) : isAncOf s x q = false :=
  Bool.eq_false_iff.mpr fun hb => not_anc_parent h hq ((isAncOf_iff h x q).mp hb)

theorem mem_docOrder_self {s : Store} (h : WF s) (n : NodeId) : n ∈ docOrder s n := by
  rw [docOrder_unfold h]; exact List.mem_cons_self ..

theorem mem_docOrder_anc {s : Store} (h : WF s) : ∀ (r x : NodeId), x ∈ docOrder s r → AncOrSelf s r x := by
  intro r
  refine down_induction h (fun r => ∀ x, x ∈ docOrder s r → AncOrSelf s r x) ?_ r
  intro n ih x hx
  rw [docOrder_unfold h] at hx
  rcases List.mem_cons.mp hx with rfl | hx
  · exact .refl
  · obtain ⟨c, hc, hxc⟩ := List.mem_flatMap.mp hx
    exact anc_trans (anc_of_kid h hc) (ih c hc x hxc)

theorem pairwise_idxOf (l : List NodeId) (hnd : l.Nodup) : l.Pairwise (fun a b => l.idxOf a < l.idxOf b) := by
  rw [List.pairwise_iff_getElem]
  intro i j hi hj hij
  rw [hnd.idxOf_getElem i hi, hnd.idxOf_getElem j hj]
  exact hij

/-- A node comes before its descendants, and the subtree of a child before the subtrees of the later
children: a relation that holds in these two situations holds between any two nodes in document order. -/
theorem docOrder_pairwise {s : Store} (h : WF s) (R : NodeId → NodeId → Prop)
    (hdown : ∀ n c y, c ∈ kids s n → AncOrSelf s c y → R n y)
    (hside : ∀ n a b x y, a ∈ kids s n → b ∈ kids s n → (kids s n).idxOf a < (kids s n).idxOf b →
      AncOrSelf s a x → AncOrSelf s b y → R x y) : ∀ r, (docOrder s r).Pairwise R := by
  refine down_induction h (fun r => (docOrder s r).Pairwise R) ?_
  intro n ih
  rw [docOrder_unfold h, List.pairwise_cons]
  constructor
  · intro y hy
    obtain ⟨c, hc, hyc⟩ := List.mem_flatMap.mp hy
    exact hdown n c y hc (mem_docOrder_anc h c y hyc)
  · refine List.pairwise_flatMap.mpr ⟨ih, (pairwise_idxOf _ (kids_nodup h n)).imp_of_mem ?_⟩
    intro a b ha hb hlt x hx y hy
    exact hside n a b x y ha hb hlt (mem_docOrder_anc h a x hx) (mem_docOrder_anc h b y hy)

theorem docOrder_nodup {s : Store} (h : WF s) : ∀ r, (docOrder s r).Nodup :=
  docOrder_pairwise h (· ≠ ·)
    (fun n c y hc hy e => not_anc_parent h (parent_of_kid h hc) (e ▸ hy))
    (fun n a b x y ha hb hlt hx hy e => by
      have hne : a ≠ b := fun e => Nat.lt_irrefl _ (e ▸ hlt)
      subst e
      rcases anc_linear hx hy with hab | hba
      · exact sibling_not_anc h ha hb hne hab
      · exact sibling_not_anc h hb ha (Ne.symm hne) hba)

theorem tail_docOrder_lt_size {s : Store} (h : WF s) {r x : NodeId} (hx : x ∈ (docOrder s r).tail) : x < s.size := by
  rw [docOrder_unfold h] at hx
  obtain ⟨c, hc, hxc⟩ := List.mem_flatMap.mp hx
  cases mem_docOrder_anc h c x hxc with
  | refl => exact kid_lt_size h hc
  | step hq _ => exact kid_lt_size h (kid_of_parent h hq)

/-- Whatever the root is, every node after it is a child of some node, so an id of the store. -/
theorem docOrder_length_le {s : Store} (h : WF s) (r : NodeId) : (docOrder s r).length ≤ s.size + 1 := by
  have := ((docOrder_nodup h r).sublist (List.tail_sublist _)).length_le_of_subset (l₂ := List.range s.size)
    fun x hx => List.mem_range.mpr (tail_docOrder_lt_size h hx)
  rw [List.length_tail, List.length_range] at this
  exact Nat.le_add_of_sub_le this

theorem docOrder_ne_nil {s : Store} (h : WF s) (n : NodeId) : docOrder s n ≠ [] := by
  rw [docOrder_unfold h]; exact List.cons_ne_nil _ _

theorem docOrder_head {s : Store} (h : WF s) (y : NodeId) : (docOrder s y).head? = some y := by
  rw [docOrder_unfold h]; rfl

theorem head?_flatMap_self {α : Type} {l : List α} {f : α → List α} (hf : ∀ a, a ∈ l → (f a).head? = some a) :
    (l.flatMap f).head? = l.head? := by
  cases l with
  | nil => rfl
  | cons a t => rw [List.flatMap_cons, List.head?_append, hf a (List.mem_cons_self ..)]; rfl

theorem getLast?_flatMap_some {α β : Type} {l : List α} {f : α → List β} {g : α → β}
    (hf : ∀ a, a ∈ l → (f a).getLast? = some (g a)) : (l.flatMap f).getLast? = l.getLast?.map g := by
  cases hl : l.getLast? with
  | none => rw [List.getLast?_eq_none_iff.mp hl]; rfl
  | some y =>
    obtain ⟨init, rfl⟩ := List.getLast?_eq_some_iff.mp hl
    rw [List.flatMap_append, List.getLast?_append, List.flatMap_cons, List.flatMap_nil, List.append_nil, hf y (by simp)]
    rfl

theorem docOrder_getLast {s : Store} (h : WF s) : ∀ y, (docOrder s y).getLast? = some (deepLast s y) := by
  refine down_induction h (fun y => (docOrder s y).getLast? = some (deepLast s y)) ?_
  intro n ih
  rw [docOrder_unfold h, deepLast_unfold h, List.getLast?_cons, getLast?_flatMap_some ih]
  show some (((lastKid s n).map (deepLast s)).getD n) = _
  cases lastKid s n <;> rfl

theorem succIn_eq_nextSibIn (l : List NodeId) (x : NodeId) : succIn l x = nextSibIn l x := by
  fun_induction succIn l x <;> simp_all [nextSibIn]

theorem predIn_eq_prevSibIn (l : List NodeId) (x : NodeId) : predIn l x = prevSibIn l x := by
  fun_induction predIn l x <;> simp_all [prevSibIn]

theorem succIn_split (pre rest : List NodeId) (x : NodeId) (hx : x ∉ pre) :
    succIn (pre ++ x :: rest) x = rest.head? := by
  induction pre with
  | nil => simp [succIn]
  | cons a t ih =>
    have hne : a ≠ x := fun e => hx (e ▸ List.mem_cons_self ..)
    simp only [List.cons_append, succIn, if_neg hne]
    exact ih (fun hm => hx (List.mem_cons_of_mem _ hm))

theorem predIn_not_mem (l : List NodeId) (x : NodeId) (hx : x ∉ l) : predIn l x = none := by
  fun_induction predIn l x with
  | case1 | case2 => rfl
  | case3 => exact absurd (List.mem_cons_of_mem _ (List.mem_cons_self ..)) hx
  | case4 _ _ _ _ _ ih => exact ih fun hm => hx (List.mem_cons_of_mem _ hm)

theorem predIn_split : ∀ (l1 l2 : List NodeId) (x : NodeId), x ∉ l1 → x ∉ l2 →
    predIn (l1 ++ x :: l2) x = l1.getLast?
  | [], l2, x, _, h2 => by
    cases l2 with
    | nil => rfl
    | cons b t =>
      have hb : b ≠ x := fun e => h2 (e ▸ List.mem_cons_self ..)
      simp only [List.nil_append, predIn, if_neg hb, List.getLast?_nil]
      exact predIn_not_mem (b :: t) x h2
  | [a], l2, x, _, _ => by simp [predIn]
  | a :: b :: t, l2, x, h1, h2 => by
    have hb : b ≠ x := fun e => h1 (e ▸ List.mem_cons_of_mem _ (List.mem_cons_self ..))
    have := predIn_split (b :: t) l2 x (fun hm => h1 (List.mem_cons_of_mem _ hm)) h2
    simp only [List.cons_append, predIn, if_neg hb, List.getLast?_cons_cons] at this ⊢
    exact this

theorem succIn_reverse {L : List NodeId} (hnd : L.Nodup) {y : NodeId} (hy : y ∈ L) : succIn L.reverse y = predIn L y := by
  obtain ⟨pre, rest, hL, h1, h2⟩ := nodup_split hnd hy
  have hr : L.reverse = rest.reverse ++ y :: pre.reverse := by rw [hL]; simp
  rw [hr, succIn_split _ _ y (fun hm => h2 (List.mem_reverse.mp hm)), hL, predIn_split pre rest y h1 h2, List.head?_reverse]

theorem nextSibIn_split (l1 l2 : List NodeId) (x : NodeId) (hx : x ∉ l1) :
    nextSibIn (l1 ++ x :: l2) x = l2.head? := by
  rw [← succIn_eq_nextSibIn, succIn_split l1 l2 x hx]

theorem prevSibIn_not_mem (l : List NodeId) (x : NodeId) (hx : x ∉ l) : prevSibIn l x = none := by
  rw [← predIn_eq_prevSibIn, predIn_not_mem l x hx]

theorem prevSibIn_split (l1 l2 : List NodeId) (x : NodeId) (h1 : x ∉ l1) (h2 : x ∉ l2) :
    prevSibIn (l1 ++ x :: l2) x = l1.getLast? := by
  rw [← predIn_eq_prevSibIn, predIn_split l1 l2 x h1 h2]

theorem ne_of_not_mem {x : NodeId} {pre : List NodeId} (hx : x ∉ pre) : ∀ a, a ∈ pre → (a != x) = true :=
  fun a ha => by simpa using fun e : a = x => hx (e ▸ ha)

theorem dropWhile_ne_split (pre rest : List NodeId) (x : NodeId) (hx : x ∉ pre) :
    (pre ++ x :: rest).dropWhile (· != x) = x :: rest := by
  rw [List.dropWhile_append_of_pos (ne_of_not_mem hx)]; simp

theorem takeWhile_ne_split (pre rest : List NodeId) (x : NodeId) (hx : x ∉ pre) :
    (pre ++ x :: rest).takeWhile (· != x) = pre := by
  rw [List.takeWhile_append_of_pos (ne_of_not_mem hx)]; simp

theorem idxOf_split (pre rest : List NodeId) (x : NodeId) (hx : x ∉ pre) : (pre ++ x :: rest).idxOf x = pre.length := by
  rw [List.idxOf_append, if_neg hx]; simp

theorem kids_split {s : Store} (h : WF s) {x q : NodeId} (hq : parentOf s x = some q) :
    ∃ l1 l2, kids s q = l1 ++ x :: l2 ∧ x ∉ l1 ∧ x ∉ l2 :=
  nodup_split (kids_nodup h q) (kid_of_parent h hq)

theorem nextSib_split {s : Store} {x q : NodeId} (hq : parentOf s x = some q) {l1 l2 : List NodeId}
    (hl : kids s q = l1 ++ x :: l2) (h1 : x ∉ l1) : nextSib s x = l2.head? := by
  unfold nextSib; rw [hq]; simp only; rw [hl, nextSibIn_split l1 l2 x h1]

theorem prevSib_split {s : Store} {x q : NodeId} (hq : parentOf s x = some q) {l1 l2 : List NodeId}
    (hl : kids s q = l1 ++ x :: l2) (h1 : x ∉ l1) (h2 : x ∉ l2) : prevSib s x = l1.getLast? := by
  unfold prevSib; rw [hq]; simp only; rw [hl, prevSibIn_split l1 l2 x h1 h2]

theorem sibsAfter_split {s : Store} {n p : NodeId} (hp : parentOf s n = some p) {l1 l2 : List NodeId}
    (hl : kids s p = l1 ++ n :: l2) (h1 : n ∉ l1) : sibsAfter s n = l2 := by
  unfold sibsAfter
  rw [hp]
  simp only
  rw [hl, dropWhile_ne_split l1 l2 n h1]
  rfl

theorem nextRaw_true (s : Store) (r x : NodeId) :
    nextRaw s r (some x) true = (firstKid s x).or (nextRaw s r (some x) false) := by
  simp only [nextRaw, firstKid, Bool.true_and, Bool.false_and, Bool.false_eq_true, if_false]
  cases kids s x <;> rfl

/-- Every node `x` of the subtree of `r` splits the document order of `r` into what precedes its block, its block and
what follows; the pointer walks "next sibling, else an ancestor's next sibling (below the root)" and "previous sibling's
last descendant, else the parent" find the neighbours of the block. -/
theorem block_decomp {s : Store} (h : WF s) {r x : NodeId} (hx : AncOrSelf s r x) :
    ∃ pre post, docOrder s r = pre ++ docOrder s x ++ post ∧
      nextRaw s r (some x) false = post.head? ∧ prevRaw s r x = pre.getLast? := by
  induction hx with
  | refl => exact ⟨[], [], by simp, by simp [nextRaw], by simp [prevRaw]⟩
  | @step x q hq ha ih =>
    obtain ⟨preq, postq, heq, hnq, _⟩ := ih
    obtain ⟨l1, l2, hl, hx1, hx2⟩ := kids_split h hq
    have hxr : x ≠ r := fun e => not_anc_parent h hq (e ▸ ha)
    refine ⟨preq ++ q :: l1.flatMap (docOrder s), l2.flatMap (docOrder s) ++ postq, ?_, ?_, ?_⟩
    · rw [heq, docOrder_unfold h q, hl]
      simp [List.flatMap_append, List.append_assoc]
    · have : nextRaw s r (some x) false = (nextSib s x).or (nextRaw s r (some q) false) := by
        simp only [nextRaw, Bool.false_and, Bool.false_eq_true, if_false, if_neg hxr, ancestors_cons h hq, climbNext]
        cases nextSib s x <;> rfl
      rw [this, nextSib_split hq hl hx1, hnq, List.head?_append, head?_flatMap_self fun y _ => docOrder_head h y]
    · unfold prevRaw
      rw [if_neg hxr, prevSib_split hq hl hx1 hx2, List.getLast?_append, List.getLast?_cons,
        getLast?_flatMap_some fun y _ => docOrder_getLast h y, hq]
      cases l1.getLast? <;> rfl

theorem anc_mem_docOrder {s : Store} (h : WF s) {r x : NodeId} (ha : AncOrSelf s r x) : x ∈ docOrder s r := by
  obtain ⟨pre, post, heq, _⟩ := block_decomp h ha
  rw [heq, docOrder_unfold h x]
  exact List.mem_append_left _ (List.mem_append_right _ (List.mem_cons_self ..))

theorem mem_docOrder_iff {s : Store} (h : WF s) (r x : NodeId) : x ∈ docOrder s r ↔ AncOrSelf s r x :=
  ⟨mem_docOrder_anc h r x, anc_mem_docOrder h⟩

theorem block_decomp' {s : Store} (h : WF s) {r x : NodeId} (hx : x ∈ docOrder s r) :
    ∃ pre post, docOrder s r = pre ++ x :: ((kids s x).flatMap (docOrder s) ++ post) ∧
      x ∉ pre ∧ x ∉ (kids s x).flatMap (docOrder s) ++ post ∧
      nextRaw s r (some x) false = post.head? ∧ prevRaw s r x = pre.getLast? := by
  obtain ⟨pre, post, heq, h2⟩ := block_decomp h (mem_docOrder_anc h r x hx)
  have heq' : docOrder s r = pre ++ x :: ((kids s x).flatMap (docOrder s) ++ post) := by
    rw [heq, docOrder_unfold h x]; simp
  have hnd := nodup_middle (heq' ▸ docOrder_nodup h r)
  exact ⟨pre, post, heq', hnd.1, hnd.2, h2⟩

/-- nextNode(node, true) is the successor in document order below the root -/
theorem nextRaw_true_spec {s : Store} (h : WF s) {r x : NodeId} (hx : x ∈ docOrder s r) :
    nextRaw s r (some x) true = succIn (docOrder s r) x := by
  obtain ⟨pre, post, heq, hx1, _, hn, _⟩ := block_decomp' h hx
  rw [heq, succIn_split pre _ x hx1, List.head?_append, head?_flatMap_self fun y _ => docOrder_head h y, nextRaw_true, hn]
  rfl

theorem afterBlock_split {s : Store} (h : WF s) {x : NodeId} {pre post : List NodeId} (hx1 : x ∉ pre) :
    afterBlock (pre ++ x :: ((kids s x).flatMap (docOrder s) ++ post)) (docOrder s x) = post := by
  rw [docOrder_unfold h x]
  unfold afterBlock
  simp only
  rw [dropWhile_ne_split pre _ x hx1]
  simp

/-- nextNode(node, false) is the first node after the subtree of `node` -/
theorem nextRaw_false_spec {s : Store} (h : WF s) {r x : NodeId} (hx : x ∈ docOrder s r) :
    nextRaw s r (some x) false = (afterBlock (docOrder s r) (docOrder s x)).head? := by
  obtain ⟨pre, post, heq, hx1, _, hn, _⟩ := block_decomp' h hx
  rw [heq, afterBlock_split h hx1, hn]

theorem prevRaw_spec {s : Store} (h : WF s) {r x : NodeId} (hx : x ∈ docOrder s r) :
    prevRaw s r x = predIn (docOrder s r) x := by
  obtain ⟨pre, post, heq, hx1, hx2, _, hp⟩ := block_decomp' h hx
  rw [heq, predIn_split pre _ x hx1 hx2, hp]

/-- The shape the search loops of the model share (`nextLoop`, `prevLoop`, `nextMatching`): no candidate ends the search with `d`,
a candidate that satisfies `p` ends it with `found`, any other candidate is passed on. -/
def examine {β : Type} (p : NodeId → Bool) (found : NodeId → β) (d : β) (rest : NodeId → β) : Option NodeId → β
  | none => d
  | some z => if p z = true then found z else rest z

/-- A loop that examines one candidate after the other, the next candidate being the successor in the duplicate-free list `L`,
computes `find? p` on the part `C` of `L` that starts at its first candidate. -/
theorem walk_find {β : Type} {L : List NodeId} (hnd : L.Nodup) (nxt : NodeId → Option NodeId)
    (hnxt : ∀ y, y ∈ L → nxt y = succIn L y) (p : NodeId → Bool) (found : NodeId → β) (d : β) (loop : Nat → NodeId → β)
    (hloop : ∀ f y, loop (f + 1) y = examine p found d (loop f) (nxt y)) :
    ∀ (C pre : List NodeId) (f : Nat), L = pre ++ C → C.length ≤ f →
      examine p found d (loop f) C.head? = ((C.find? p).map found).getD d := by
  intro C
  induction C with
  | nil => intro _ _ _ _; rfl
  | cons z C ih =>
    intro pre f hL hf
    obtain ⟨f, rfl⟩ : ∃ f', f = f' + 1 := ⟨f - 1, by simp at hf; omega⟩
    show (if p z = true then found z else loop (f + 1) z) = _
    by_cases hz : p z = true
    · rw [if_pos hz, List.find?_cons_of_pos hz]; rfl
    · rw [if_neg hz, List.find?_cons_of_neg hz, hloop, hnxt z (by rw [hL]; simp), hL,
        succIn_split pre C z (nodup_middle (hL ▸ hnd)).1]
      exact ih (pre ++ [z]) f (by rw [hL]; simp) (Nat.le_of_succ_le_succ hf)

theorem nextLoop_succ (s : Store) (it : Iter) (f : Nat) (a : Option NodeId) (fwd : Bool) :
    nextLoop s it (f + 1) a fwd =
      examine (iterAccepts s it.w it.filt) (fun x => ({ it with cur := some x, fwd := true }, some x)) ({ it with fwd := true }, none)
        (fun x => nextLoop s it f (some x) true) (if !fwd && a.isSome then it.cur else nextRaw s it.root a true) := by
  show (match (if !fwd && a.isSome then it.cur else nextRaw s it.root a true) with
    | none => _
    | some x => _) = _
  cases (if !fwd && a.isSome then it.cur else nextRaw s it.root a true) <;> rfl

theorem prevLoop_succ (s : Store) (it : Iter) (f : Nat) (a : NodeId) (fwd : Bool) :
    prevLoop s it (f + 1) a fwd =
      examine (iterAccepts s it.w it.filt) (fun x => ({ it with cur := some x, fwd := false }, some x)) ({ it with fwd := false }, none)
        (fun x => prevLoop s it f x false) (if fwd then it.cur else prevRaw s it.root a) := by
  show (match (if fwd then it.cur else prevRaw s it.root a) with
    | none => _
    | some x => _) = _
  cases (if fwd then it.cur else prevRaw s it.root a) <;> rfl

/-- What matchNodeOrParent finds on the chain of `c`, a node of the root's subtree: `node`, if `node` is a proper descendant of the root
and an inclusive ancestor of `c`; otherwise nothing. -/
theorem matchChain_spec {s : Store} (h : WF s) {root node c : NodeId} (hc : AncOrSelf s root c) :
    ((node ≠ root ∧ AncOrSelf s root node ∧ AncOrSelf s node c) → matchChain root node (c :: ancestors s c) = some node) ∧
    (¬ (node ≠ root ∧ AncOrSelf s root node ∧ AncOrSelf s node c) → matchChain root node (c :: ancestors s c) = none) := by
  induction hc with
  | refl =>
    unfold matchChain
    rw [if_pos rfl]
    exact ⟨fun ⟨hne, h1, h2⟩ => absurd (anc_antisymm h h2 h1) hne, fun _ => rfl⟩
  | @step c q hq ha ih =>
    have hcr : c ≠ root := fun e => not_anc_parent h hq (e ▸ ha)
    unfold matchChain
    rw [if_neg hcr]
    by_cases hn : node = c
    · subst hn
      rw [if_pos rfl]
      exact ⟨fun _ => rfl, fun hh => absurd ⟨hcr, .step hq ha, .refl⟩ hh⟩
    · rw [if_neg hn, ancestors_cons h hq]
      exact ⟨fun hcond => ih.1 ⟨hcond.1, hcond.2.1, anc_parent hq hcond.2.2 hn⟩,
        fun hcond => ih.2 fun hh => hcond ⟨hh.1, hh.2.1, .step hq hh.2.2⟩⟩

theorem mem_tail_docOrder {s : Store} (h : WF s) (root node : NodeId) :
    node ∈ (docOrder s root).tail ↔ node ≠ root ∧ AncOrSelf s root node := by
  have hnd := docOrder_nodup h root
  rw [← mem_docOrder_iff h root node]
  rw [docOrder_unfold h] at hnd ⊢
  rw [List.tail_cons, List.mem_cons]
  exact ⟨fun hm => ⟨fun e => (List.nodup_cons.mp hnd).1 (e ▸ hm), Or.inr hm⟩, fun ⟨hne, hm⟩ => hm.resolve_left hne⟩

/-- The two nodes the removal fix-up can move an iterator to, the predecessor of `node` and the first node after its block, lie in the
root's subtree and outside the block of `node`. -/
theorem remove_targets {s : Store} (h : WF s) {r node : NodeId} (hn : node ∈ docOrder s r) :
    (∀ y, predIn (docOrder s r) node = some y → y ∈ docOrder s r ∧ y ∉ docOrder s node) ∧
    (∀ y, (afterBlock (docOrder s r) (docOrder s node)).head? = some y → y ∈ docOrder s r ∧ y ∉ docOrder s node) := by
  obtain ⟨pre, post, heq, hnx, hpv⟩ := block_decomp h (mem_docOrder_anc h r node hn)
  have hnd := List.nodup_append.mp (heq ▸ docOrder_nodup h r)
  constructor
  · intro y hy
    rw [← prevRaw_spec h hn, hpv] at hy
    have hyp : y ∈ pre := List.mem_of_getLast? hy
    exact ⟨by rw [heq]; simp [hyp], fun hyb => (List.nodup_append.mp hnd.1).2.2 y hyp y hyb rfl⟩
  · intro y hy
    rw [← nextRaw_false_spec h hn, hnx] at hy
    have hyp : y ∈ post := List.mem_of_head? hy
    exact ⟨by rw [heq]; simp [hyp], fun hyb => hnd.2.2 y (List.mem_append_right _ hyb) y hyp rfl⟩

theorem upRight_eq_climbNext (s : Store) (root : NodeId) (l : List NodeId) : upRight s root l = climbNext s root l := by
  fun_induction upRight s root l <;> simp_all [climbNext]

/-- one turn of the tree walk of nextMatchingElementAfter = nextNode(node, true) of the iterator -/
theorem deepStep_eq (s : Store) (root cur : NodeId) : deepStep s root cur = nextRaw s root (some cur) true := by
  -- With children both take the first child.  Without, what nextRaw does inline (`n = root`? next sibling? else climb over the
  -- ancestors) is by definition the first turn of the climb started at the node itself, `climbNext s root (cur :: ancestors s cur)`,
  -- and that is deepStep's `upRight` on the same list; deepStep's middle branch only gives that turn's answer early.
  fun_cases deepStep s root cur <;> cases hn : nextSib s cur <;> simp_all [nextRaw, upRight_eq_climbNext, climbNext]

def afterIn (l : List NodeId) (c : NodeId) : List NodeId := (l.dropWhile (· != c)).drop 1

theorem afterIn_split (pre rest : List NodeId) (c : NodeId) (hc : c ∉ pre) : afterIn (pre ++ c :: rest) c = rest := by
  unfold afterIn
  rw [dropWhile_ne_split pre rest c hc]; rfl

/-- the candidate test of nextMatchingElementAfter -/
def deepP (s : Store) (dl : DeepList) (n : NodeId) : Bool := decide (n ≠ dl.root) && tagMatches s dl.tag n

theorem nextMatching_succ (s : Store) (dl : DeepList) (f : Nat) (y : NodeId) :
    nextMatching s dl (f + 1) y = examine (deepP s dl) some none (nextMatching s dl f) (nextRaw s dl.root (some y) true) := by
  show (match deepStep s dl.root y with
    | none => none
    | some n => if n ≠ dl.root ∧ tagMatches s dl.tag n then some n else nextMatching s dl f n) = _
  rw [deepStep_eq]
  cases nextRaw s dl.root (some y) true with
  | none => rfl
  | some z => simp only [examine, deepP, Bool.and_eq_true, decide_eq_true_eq]

theorem filter_after {p : NodeId → Bool} {L : List NodeId} (hnd : L.Nodup) {c m : NodeId} {R : List NodeId}
    (hR : (afterIn L c).filter p = m :: R) : m ∈ L ∧ (afterIn L m).filter p = R := by
  obtain ⟨l1, l2, hrest, _, _, hl2⟩ := List.filter_eq_cons_iff.mp hR
  obtain ⟨pre, hL⟩ : afterIn L c <:+ L := (List.drop_suffix 1 _).trans (List.dropWhile_suffix _)
  have hL2 : L = (pre ++ l1) ++ m :: l2 := by rw [← hL, hrest, List.append_assoc]
  refine ⟨by rw [hL2]; simp, ?_⟩
  rw [hL2, afterIn_split _ l2 m (nodup_middle (hL2 ▸ hnd)).1]
  exact hl2

theorem afterIn_subset_tail (L : List NodeId) (c : NodeId) : ∀ x, x ∈ afterIn L c → x ∈ L.tail := by
  cases L with
  | nil => exact fun _ hx => hx
  | cons a t =>
    intro x hx
    unfold afterIn at hx
    rw [List.dropWhile_cons] at hx
    split at hx
    · exact (List.dropWhile_sublist _).subset (List.mem_of_mem_drop hx)
    · exact hx

/-- What `p` selects after the cursor.  `afterIn L c` is `Pos.ahead L ⟨some c, true⟩` of the Spec (by `rfl`): what an iterator that
stands after `c` has in front of it. -/
def restOf (L : List NodeId) (p : NodeId → Bool) : Option NodeId → List NodeId
  | some c => (afterIn L c).filter p
  | none => []

/-- `(cur, idx)` is a cursor into the sublist `L.tail.filter p` of `L`: `idx` of its elements lie behind the cursor, the last of
them being `cur` itself (while there is none, `cur` is any node of `L` in front of all of them), the others are what `p` selects
after `cur`.  The cache of a tag-name list (fCurrentNode, fCurrentIndexPlus1) is such a cursor into the matching elements below
the root. -/
def Cursor (L : List NodeId) (p : NodeId → Bool) (cur : Option NodeId) (idx : Nat) : Prop :=
  ∃ done, L.tail.filter p = done ++ restOf L p cur ∧ idx = done.length ∧ (∀ c, cur = some c → c ∈ L) ∧
    (done ≠ [] → done.getLast? = cur)

theorem cursor_root (r : NodeId) (t : List NodeId) (p : NodeId → Bool) : Cursor (r :: t) p (some r) 0 :=
  ⟨[], congrArg _ (afterIn_split [] t r List.not_mem_nil).symm, rfl, fun _ hc => Option.some.inj hc ▸ List.mem_cons_self ..,
    fun hne => absurd rfl hne⟩

theorem cursor_none {L : List NodeId} {p : NodeId → Bool} (h : L.tail.filter p = []) : Cursor L p none 0 :=
  ⟨[], h, rfl, fun _ hc => (nomatch hc), fun hne => absurd rfl hne⟩

theorem cursor_mem {L : List NodeId} {p : NodeId → Bool} {c : NodeId} {i : Nat} (hc : Cursor L p (some c) i) : c ∈ L :=
  have ⟨_, _, _, hmem, _⟩ := hc
  hmem c rfl

theorem cursor_val {L : List NodeId} {p : NodeId → Bool} {cur : Option NodeId} {i : Nat} (hc : Cursor L p cur (i + 1)) :
    ∃ m, cur = some m ∧ (L.tail.filter p)[i]? = some m := by
  obtain ⟨done, hM, hi, _, hlast⟩ := hc
  have hne : done ≠ [] := fun e => by rw [e] at hi; cases hi
  cases hm : done.getLast? with
  | none => exact absurd (List.getLast?_eq_none_iff.mp hm) hne
  | some m =>
    refine ⟨m, (hlast hne).symm.trans hm, ?_⟩
    rw [hM, List.getElem?_append_left (by omega), ← hm, List.getLast?_eq_getElem?, ← hi]
    rfl

theorem cursor_end {L : List NodeId} {p : NodeId → Bool} {cur : Option NodeId} {i : Nat} (hc : Cursor L p cur i)
    (hr : restOf L p cur = []) : i = (L.tail.filter p).length := by
  obtain ⟨done, hM, rfl, _⟩ := hc
  rw [hM, hr, List.append_nil]

theorem cursor_step {L : List NodeId} (hnd : L.Nodup) {p : NodeId → Bool} {c m : NodeId} {R : List NodeId} {i : Nat}
    (hc : Cursor L p (some c) i) (hR : restOf L p (some c) = m :: R) :
    Cursor L p (some m) (i + 1) ∧ restOf L p (some m) = R := by
  obtain ⟨done, hM, rfl, _⟩ := hc
  obtain ⟨hm, hRm⟩ := filter_after hnd hR
  exact ⟨⟨done ++ [m], by rw [hM, hR, List.append_assoc]; exact congrArg _ (congrArg _ hRm.symm), by simp,
    fun _ h => Option.some.inj h ▸ hm, fun _ => List.getLast?_concat⟩, hRm⟩

theorem cursor_congr {L : List NodeId} {p p' : NodeId → Bool} (hp : ∀ x, x ∈ L.tail → p' x = p x)
    {cur : Option NodeId} {i : Nat} (hc : Cursor L p cur i) : Cursor L p' cur i := by
  obtain ⟨done, hM, hi, hmem, hlast⟩ := hc
  refine ⟨done, ?_, hi, hmem, hlast⟩
  rw [List.filter_congr hp, hM]
  cases cur with
  | none => rfl
  | some c => exact congrArg _ (List.filter_congr fun x hx => (hp x (afterIn_subset_tail L c x hx)).symm)

theorem docOrderFuel_congr (s s' : Store) (hk : ∀ x, kids s' x = kids s x) :
    ∀ f r, docOrderFuel s' f r = docOrderFuel s f r := by
  intro f
  induction f with
  | zero => intro r; rfl
  | succ f ih =>
    intro r
    unfold docOrderFuel
    rw [hk r, flatMap_congr _ _ _ fun c _ => ih c]

theorem kids_alloc (s : Store) (mk : NodeRec) (hmk : mk.children = []) (x : NodeId) :
    kids (s.alloc mk).1 x = kids s x := by
  unfold kids parentKids
  rw [get_alloc]
  by_cases hx : x = s.size
  · rw [if_pos hx, get_ge_size s x (by rw [hx]; exact Nat.le_refl _)]; exact hmk
  · rw [if_neg hx]

theorem docOrder_alloc (s : Store) (h : WF s) (mk : NodeRec) (hmk : mk.children = []) (r : NodeId) :
    docOrder (s.alloc mk).1 r = docOrder s r := by
  have := docOrder_unfold h r
  unfold docOrder at this ⊢
  rw [size_alloc, docOrderFuel_congr s _ (kids_alloc s mk hmk), this]
  rfl

theorem kids_setDataOf (s : Store) (t : NodeId) (d : List Nat) (x : NodeId) : kids (setDataOf s t d) x = kids s x := by
  unfold kids parentKids
  rw [get_setDataOf]; cases s.get x <;> rfl

theorem docOrder_setDataOf (s : Store) (t : NodeId) (d : List Nat) (r : NodeId) :
    docOrder (setDataOf s t d) r = docOrder s r := by
  unfold docOrder
  rw [size_setDataOf, docOrderFuel_congr s _ (kids_setDataOf s t d)]

theorem tagMatches_alloc (s : Store) (mk : NodeRec) (tag : List Nat) (x : NodeId) (hx : x < s.size) :
    tagMatches (s.alloc mk).1 tag x = tagMatches s tag x := by
  unfold tagMatches
  rw [get_alloc, if_neg (Nat.ne_of_lt hx)]

theorem tagMatches_setDataOf (s : Store) (t : NodeId) (d : List Nat) (tag : List Nat) (x : NodeId) :
    tagMatches (setDataOf s t d) tag x = tagMatches s tag x := by
  unfold tagMatches
  rw [get_setDataOf]; cases s.get x <;> rfl

theorem textLike_live {s : Store} {t : NodeId} (ht : textLike s t = true) : (s.get t).isSome = true := by
  unfold textLike at ht
  cases hg : s.get t with
  | none => rw [hg] at ht; cases ht
  | some _ => rfl

theorem textLike_setDataOf (s : Store) (t : NodeId) (d : List Nat) (x : NodeId) :
    textLike (setDataOf s t d) x = textLike s x := by
  unfold textLike
  rw [get_setDataOf]; cases s.get x <;> rfl

theorem dataOf_setDataOf (s : Store) (t : NodeId) (d : List Nat) (x : NodeId) :
    dataOf (setDataOf s t d) x = if x = t ∧ (s.get t).isSome then d else dataOf s x := by
  unfold dataOf
  rw [get_setDataOf]
  by_cases e : x = t
  · subst e; cases s.get x <;> simp
  · cases s.get x <;> simp [e]

theorem lenOf_setDataOf {s : Store} {t : NodeId} (ht : textLike s t = true) (d : List Nat) (x : NodeId) :
    lenOf (setDataOf s t d) x = if x = t then d.length else lenOf s x := by
  unfold lenOf
  rw [textLike_setDataOf, dataOf_setDataOf, kids_setDataOf]
  by_cases e : x = t
  · subst e; simp [ht, textLike_live ht]
  · simp [e]

theorem live_setDataOf (s : Store) (t : NodeId) (d : List Nat) (x : NodeId) :
    ((setDataOf s t d).get x).isSome = (s.get x).isSome := by
  rw [get_setDataOf]; cases s.get x <;> rfl

theorem kids_detach (s : Store) (c x : NodeId) : kids (detach s c) x = (kids s x).filter (fun y => y != c) := by
  unfold kids parentKids
  rw [get_detach]
  cases s.get x <;> rfl

theorem live_detach (s : Store) (c x : NodeId) : ((detach s c).get x).isSome = (s.get x).isSome := by
  rw [get_detach]; cases s.get x <;> rfl

theorem textLike_detach (s : Store) (c x : NodeId) : textLike (detach s c) x = textLike s x := by
  unfold textLike; rw [get_detach]; cases s.get x <;> rfl

theorem dataOf_detach (s : Store) (c x : NodeId) : dataOf (detach s c) x = dataOf s x := by
  unfold dataOf; rw [get_detach]; cases s.get x <;> rfl

theorem filter_ne_not_mem (l : List NodeId) (c : NodeId) (h : c ∉ l) : l.filter (fun y => y != c) = l :=
  List.filter_eq_self.mpr (ne_of_not_mem h)

/-- `htp`: the parent is not character data (such nodes have no removeChild), so its length is the number of its children -/
theorem lenOf_detach {s : Store} (h : WF s) {c p : NodeId} (hp : parentOf s c = some p) (htp : textLike s p = false)
    (x : NodeId) : lenOf (detach s c) x = if x = p then lenOf s p - 1 else lenOf s x := by
  obtain ⟨l1, l2, hl, h1, h2⟩ := kids_split h hp
  unfold lenOf
  rw [textLike_detach, dataOf_detach, kids_detach]
  by_cases e : x = p
  · subst e
    rw [if_pos rfl, hl, htp, List.filter_append, List.filter_cons, filter_ne_not_mem l1 c h1, filter_ne_not_mem l2 c h2]
    simp
  · rw [if_neg e, filter_ne_not_mem _ c fun hm => e (Option.some.inj ((parent_of_kid h hm).symm.trans hp))]

theorem indexIn_lt {s : Store} (h : WF s) {c p : NodeId} (hp : parentOf s c = some p) (htp : textLike s p = false) :
    indexIn s p c < lenOf s p := by
  unfold indexIn lenOf
  rw [htp]
  exact List.idxOf_lt_length_of_mem (kid_of_parent h hp)

theorem length_insertAt (ref : Option NodeId) (ms l : List NodeId) : (insertAt ref ms l).length = l.length + ms.length := by
  rw [(insertAt_perm ref ms l).length_eq, List.length_append, Nat.add_comm]

theorem kids_moveNodes (s : Store) (ms : List NodeId) (p : NodeId) (ref : Option NodeId) (x : NodeId) :
    kids (moveNodes s ms p ref) x =
      if x = p ∧ (s.get p).isSome then insertAt ref ms ((kids s x).filter (fun c => !ms.contains c))
      else (kids s x).filter (fun c => !ms.contains c) := by
  unfold kids parentKids
  rw [get_moveNodes]
  by_cases e : x = p
  · subst e; cases s.get x <;> simp
  · cases s.get x <;> simp [e]

theorem live_moveNodes (s : Store) (ms : List NodeId) (p : NodeId) (ref : Option NodeId) (x : NodeId) :
    ((moveNodes s ms p ref).get x).isSome = (s.get x).isSome := by
  rw [get_moveNodes]; cases s.get x <;> rfl

theorem textLike_moveNodes (s : Store) (ms : List NodeId) (p : NodeId) (ref : Option NodeId) (x : NodeId) :
    textLike (moveNodes s ms p ref) x = textLike s x := by
  unfold textLike; rw [get_moveNodes]; cases s.get x <;> rfl

theorem dataOf_moveNodes (s : Store) (ms : List NodeId) (p : NodeId) (ref : Option NodeId) (x : NodeId) :
    dataOf (moveNodes s ms p ref) x = dataOf s x := by
  unfold dataOf; rw [get_moveNodes]; cases s.get x <;> rfl

theorem lenOf_moveOne {s : Store} (h : WF s) {n p : NodeId} (ref : Option NodeId) (hn : parentOf s n = none)
    (hpl : (s.get p).isSome) (htp : textLike s p = false) (x : NodeId) :
    lenOf (moveNodes s [n] p ref) x = if x = p then lenOf s p + 1 else lenOf s x := by
  have hf : ∀ y, (kids s y).filter (fun c => !([n] : List NodeId).contains c) = kids s y := by
    intro y
    refine List.filter_eq_self.mpr fun a ha => ?_
    have : a ≠ n := fun e => nomatch (parent_of_kid h (e ▸ ha)).symm.trans hn
    simp [this]
  unfold lenOf
  rw [textLike_moveNodes, dataOf_moveNodes, kids_moveNodes, hf]
  by_cases e : x = p
  · subst e
    simp only [hpl, and_self, if_true, htp, Bool.false_eq_true, if_false, length_insertAt]
    rfl
  · simp [e]

end XV.Lemmas.Views
