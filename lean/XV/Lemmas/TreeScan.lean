/- Lemmas for C12 (whole trees): C02's scanning predicates on strings of scalar values vs the serializer model's
checks on UTF-16 units (`--`, `?>`), and the CDATA splitter on units vs on characters.  All of it rests on one fact:
a unit below the surrogates occurs among the units of a character only as that character. -/
import XV.Lemmas.TreeUnits
import XV.Lemmas.Cdata
namespace XV.Lemmas.TreeScan
open XV.Model.TreeSyntax XV.Model.Formatter XV.Model.Cdata XV.Lemmas.TreeUnits XV.Lemmas.Formatter
open XV.Spec.Xml

theorem beq_char_nat (c k : Char) : (c == k) = (c.toNat == k.toNat) := by
  rw [Bool.eq_iff_iff, beq_iff_eq, beq_iff_eq, Char.toNat_inj]

theorem units_ne {c k : Char} (hk : k.toNat < 0xD800) (h : c ≠ k) : ∀ u ∈ scalarUnits c.toNat, u ≠ k.toNat := by
  have hn : c.toNat ≠ k.toNat := fun e => h (Char.toNat_inj.1 e)
  intro u hu
  rcases units_cases c with ⟨h2, _⟩ | ⟨hh, l, h2, _, h3, h4, _⟩
  · rw [h2] at hu; exact List.mem_singleton.1 hu ▸ hn
  · rw [h2] at hu; simp only [List.mem_cons, List.not_mem_nil, or_false] at hu; omega

theorem head?_U (t : Str) (k : Char) (hk : k.toNat < 0xD800) : ((U t).head? == some k.toNat) = (t.head? == some k) := by
  cases t with
  | nil => rfl
  | cons d t' =>
    rw [U_cons, List.head?_cons, Option.some_beq_some, beq_char_nat]
    rcases units_cases d with ⟨h2, _⟩ | ⟨hh, l, h2, _, h3, _⟩
    · rw [h2]; rfl
    · rw [h2, Bool.eq_iff_iff]; simp only [List.cons_append, List.head?_cons, Option.some_beq_some, beq_iff_eq]; omega

theorem getLast?_U (s : Str) (k : Char) (hk : k.toNat < 0xD800) : ((U s).getLast? == some k.toNat) = (s.getLast? == some k) := by
  rcases List.eq_nil_or_concat s with rfl | ⟨p, c, rfl⟩
  · rfl
  · rw [List.concat_eq_append, U_snoc, List.getLast?_concat, Option.some_beq_some, beq_char_nat]
    rcases units_cases c with ⟨h2, _⟩ | ⟨hh, l, h2, _, _, h4, _⟩
    · rw [h2, List.getLast?_concat]; rfl
    · rw [h2, Bool.eq_iff_iff]
      simp only [List.getLast?_append, List.getLast?_cons_cons, List.getLast?_singleton, Option.some_or, Option.some_beq_some,
        beq_iff_eq]
      omega

theorem containsSub2_cons (x y u : Nat) (r : List Nat) :
    XV.Model.Serializer.containsSub [x, y] (u :: r) =
      ((x == u && (r.head? == some y)) || XV.Model.Serializer.containsSub [x, y] r) := by
  cases r with
  | nil => simp [XV.Model.Serializer.containsSub, List.isPrefixOf]
  | cons r0 rt =>
    simp only [XV.Model.Serializer.containsSub, List.isPrefixOf, Bool.and_true, List.head?_cons, Option.some_beq_some,
      BEq.comm (a := y)]

theorem noEarly_units (a b : Char) (ha : a.toNat < 0xD800) (hb : b.toNat < 0xD800) :
    ∀ (v : Str), noEarly [a, b] v = true → XV.Model.Serializer.containsSub [a.toNat, b.toNat] (U v) = false := by
  intro v
  induction v with
  | nil => exact fun _ => rfl
  | cons c t ih =>
    intro h
    simp only [noEarly, Bool.and_eq_true] at h
    rw [U_cons]
    rcases units_cases c with ⟨h2, _⟩ | ⟨hh, l, h2, _, h3, h4, _⟩
    · rw [h2, List.singleton_append, containsSub2_cons, ih h.2, Bool.or_false, head?_U t b hb, ← beq_char_nat]
      -- `a` followed by `b` at the head of `c :: t` is what `noEarly` excludes
      cases t with
      | nil => exact Bool.and_false _
      | cons d t' =>
        rw [Bool.and_eq_false_iff, List.head?_cons, Option.some_beq_some, beq_eq_false_iff_ne, beq_eq_false_iff_ne]
        by_cases hac : a = c
        · by_cases hbd : b = d
          · simp [stripPrefix, hac, hbd] at h
          · exact .inr (Ne.symm hbd)
        · exact .inl hac
    · rw [h2, List.cons_append, List.cons_append, List.nil_append, containsSub2_cons, containsSub2_cons, ih h.2, Bool.or_false,
        show (a.toNat == hh) = false by rw [beq_eq_false_iff_ne]; omega,
        show (a.toNat == l) = false by rw [beq_eq_false_iff_ne]; omega]
      rfl

/-- with `a = '-'`: a comment must not end in `-` -/
theorem noEarly_last (a : Char) (ha : a.toNat < 0xD800) :
    ∀ (v : Str), noEarly [a, a] v = true → (U v).getLast? ≠ some a.toNat := by
  intro v h hl
  have hl' : v.getLast? = some a := by simpa [getLast?_U v a ha] using congrArg (· == some a.toNat) hl
  obtain ⟨p, rfl⟩ := List.getLast?_eq_some_iff.1 hl'
  clear hl hl'
  induction p with
  | nil => simp [noEarly, stripPrefix] at h
  | cons c t ih => simp only [List.cons_append, noEarly, Bool.and_eq_true] at h; exact ih h.2

theorem endsWith2_snoc (l : List Nat) (x : Nat) : endsWith2 (l ++ [x]) = (l.getLast? == some 93 && x == 93) := by
  fun_induction endsWith2 l with
  | case1 => rfl
  | case2 a => simp [endsWith2]
  | case3 a b => simp [endsWith2]
  | case4 a b c t ih => simpa [endsWith2] using ih

theorem endsWith2C_snoc (l : Str) (x : Char) : endsWith2C (l ++ [x]) = (l.getLast? == some ']' && x == ']') := by
  fun_induction endsWith2C l with
  | case1 => rfl
  | case2 a => simp [endsWith2C]
  | case3 a b => simp [endsWith2C]
  | case4 a b c t ih => simpa [endsWith2C] using ih

theorem endsWith2_U (cur : Str) : endsWith2 (U cur) = endsWith2C cur := by
  rcases List.eq_nil_or_concat cur with rfl | ⟨s, c, rfl⟩
  · rfl
  · rw [List.concat_eq_append, endsWith2C_snoc, U_snoc]
    rcases units_cases c with ⟨h2, _⟩ | ⟨hh, l, h2, hc, _, h4, _⟩
    · rw [h2, endsWith2_snoc, beq_char_nat c]; exact congrArg (· && _) (getLast?_U s ']' (by decide))
    · rw [h2, List.append_cons, endsWith2_snoc, show (l == 93) = false by rw [beq_eq_false_iff_ne]; omega,
        show (c == ']') = false by rw [beq_char_nat, beq_eq_false_iff_ne]; exact fun e => absurd (e ▸ hc) (by decide)]
      simp

theorem splitFixed_skip (a t : List Nat) (h : ∀ u ∈ a, u ≠ 62) (cur : List Nat) :
    splitFixed (a ++ t) cur = splitFixed t (cur ++ a) := by
  induction a generalizing cur with
  | nil => rw [List.nil_append, List.append_nil]
  | cons u r ih =>
    rw [List.cons_append, splitFixed, beq_false_of_ne (h u (List.mem_cons_self ..)), Bool.false_and, if_neg Bool.false_ne_true,
      ih (fun x hx => h x (List.mem_cons_of_mem _ hx)), List.append_assoc, List.singleton_append]

theorem splitFixed_U (v cur : Str) : splitFixed (U v) (U cur) = (splitFixedC v cur).map U := by
  fun_induction splitFixedC v cur with
  | case1 cur => rfl
  | case2 c t cur h ih =>
    simp only [Bool.and_eq_true, beq_iff_eq] at h
    rw [h.1, show U ('>' :: t) = 62 :: U t from rfl, splitFixed, endsWith2_U, h.2, if_pos (by rfl), List.map_cons]
    exact congrArg (U cur :: ·) ih
  | case3 c t cur h ih =>
    rw [U_snoc] at ih
    rw [U_cons, ← ih]
    by_cases hc : c = '>'
    · rw [hc, show scalarUnits '>'.toNat = [62] from rfl, List.singleton_append, splitFixed, endsWith2_U, if_neg (by simpa [hc] using h)]
    · exact splitFixed_skip _ _ (units_ne (k := '>') (by decide) hc) _

end XV.Lemmas.TreeScan
