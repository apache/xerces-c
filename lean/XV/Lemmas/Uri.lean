/-
C19 (URI part) — dot-segment removal in the RFC 2396 §5.2 Spec (XV.Spec.Uri), and the path functions of the models
(XV.Model.Uri), each of which is one of the Spec's steps 6c–6f.

What idempotence (`XV.Props.C19Uri.remove_dots_idempotent`) rests on: the result of 6c–6f has no "." (`NoDot`) and no
occurrence "<segment>/../" (`patFree` in a lemma's name: `removeLeftmost l = none`), and 6f does not fire on it again; on
such a list every step is the identity.  The offset/restart scan of removeDotDotSlash is the Spec's iterated leftmost
removal because its stack is `Settled`.  Last, the resolution cascade of XMLUri is compared with `resolve`, one case for
each of the RFC's steps 2–6, under the two hypotheses the comparison needs (the cascade of XMLURL needs all of
`urlDomain` and is compared in XV.Props.C19Uri).
-/
import XV.Model.Uri
namespace XV.Lemmas.Uri
open XV.Spec.Uri XV.Model.Uri

theorem step6c_cons2 (s t : Seg) (r : List Seg) :
    step6c (s :: t :: r) = if s = "." then step6c (t :: r) else s :: step6c (t :: r) := rfl
theorem step6d_cons2 (s t : Seg) (r : List Seg) : step6d (s :: t :: r) = s :: step6d (t :: r) := rfl
theorem step6f_cons (s : Seg) : ∀ {l : List Seg}, 2 ≤ l.length → step6f (s :: l) = s :: step6f l
  | _ :: _ :: _, _ => rfl
theorem removeLeftmost_cons2 (s d : Seg) (t : List Seg) :
    removeLeftmost (s :: d :: t) =
      if s ≠ ".." ∧ d = ".." ∧ t ≠ [] then some t else (removeLeftmost (d :: t)).map (s :: ·) := rfl

def NoDot (l : List Seg) : Prop := ∀ x ∈ l, x ≠ "."

theorem step6c_ne_nil {l : List Seg} (h : l ≠ []) : step6c l ≠ [] := by
  fun_induction step6c l with
  | case1 | case2 => exact h
  | case3 _ _ ih => exact ih nofun
  | case4 => nofun

theorem noDot_6d_6c (l : List Seg) : NoDot (step6d (step6c l)) := by
  fun_induction step6c l with
  | case1 => nofun
  | case2 s => rw [step6d]; split <;> simp_all [NoDot]
  | case3 _ _ ih => exact ih
  | case4 s t r hs ih =>
    obtain ⟨x, m, hx⟩ := List.exists_cons_of_ne_nil (step6c_ne_nil (l := t :: r) nofun)
    rw [hx] at ih ⊢
    exact List.forall_mem_cons.2 ⟨hs, ih⟩

theorem step6c_of_noDot {l : List Seg} (h : NoDot l) : step6c l = l := by
  fun_induction step6c l with
  | case1 | case2 => rfl
  | case3 => exact absurd rfl (h _ List.mem_cons_self)
  | case4 _ _ _ _ ih => rw [ih fun x hx => h x (List.mem_cons_of_mem _ hx)]

theorem step6d_of_noDot {l : List Seg} (h : NoDot l) : step6d l = l := by
  fun_induction step6d l with
  | case1 | case3 => rfl
  | case2 => exact absurd rfl (h _ List.mem_cons_self)
  | case4 _ _ _ ih => rw [ih fun x hx => h x (List.mem_cons_of_mem _ hx)]

theorem removeLeftmost_some {l l' : List Seg} (h : removeLeftmost l = some l') :
    ∃ pre p t, l = pre ++ p :: ".." :: t ∧ l' = pre ++ t := by
  fun_induction removeLeftmost l generalizing l' with
  | case1 | case2 => cases h
  | case3 s d t hc => cases h; exact ⟨[], s, _, by rw [hc.2.1]; rfl, rfl⟩
  | case4 s d t hc ih =>
    obtain ⟨m, h2, rfl⟩ := Option.map_eq_some_iff.1 h
    obtain ⟨pre, p, t', e, rfl⟩ := ih h2
    exact ⟨s :: pre, p, t', by rw [e]; rfl, rfl⟩

theorem removeLeftmost_length {l l' : List Seg} (h : removeLeftmost l = some l') : l'.length + 2 = l.length := by
  obtain ⟨pre, p, t, rfl, rfl⟩ := removeLeftmost_some h
  simp only [List.length_append, List.length_cons]
  omega

theorem removeLeftmost_mem {l l' : List Seg} (h : removeLeftmost l = some l') : ∀ x ∈ l', x ∈ l := by
  obtain ⟨pre, p, t, rfl, rfl⟩ := removeLeftmost_some h
  intro x hx
  rcases List.mem_append.1 hx with hx | hx <;> simp [hx]

theorem iterate_mem (n : Nat) (l : List Seg) : ∀ x ∈ iterate n l, x ∈ l := by
  fun_induction iterate n l with
  | case1 | case2 => exact fun _ hx => hx
  | case3 _ _ _ h ih => exact fun x hx => removeLeftmost_mem h x (ih x hx)

theorem iterate_patFree (n : Nat) (l : List Seg) (h : l.length ≤ n) : removeLeftmost (iterate n l) = none := by
  fun_induction iterate n l with
  | case1 => cases List.eq_nil_of_length_eq_zero (Nat.le_zero.1 h); rfl
  | case2 _ _ h2 => exact h2
  | case3 _ _ _ h2 ih => exact ih (by have := removeLeftmost_length h2; omega)

theorem iterate_of_patFree (n : Nat) {l : List Seg} (h : removeLeftmost l = none) : iterate n l = l := by
  cases n with
  | zero => rfl
  | succ n => simp [iterate, h]

theorem step6f_append (pre : List Seg) (p d : Seg) : step6f (pre ++ [p, d]) = pre ++ step6f [p, d] := by
  induction pre with
  | nil => rfl
  | cons x pre ih => rw [List.cons_append, step6f_cons x (by simp), ih, List.cons_append]

theorem step6f_pair (p d : Seg) : step6f [p, d] = if p ≠ ".." ∧ d = ".." then [""] else [p, d] := rfl

theorem step6f_cases (l : List Seg) :
    step6f l = l ∨ ∃ pre p, p ≠ ".." ∧ l = pre ++ [p, ".."] ∧ step6f l = pre ++ [""] := by
  rcases List.eq_nil_or_concat l with rfl | ⟨l1, d, rfl⟩
  · exact .inl rfl
  · rcases List.eq_nil_or_concat l1 with rfl | ⟨pre, p, rfl⟩
    · exact .inl rfl
    · rw [List.concat_eq_append, List.concat_eq_append, List.append_assoc, List.singleton_append, step6f_append,
        step6f_pair]
      split
      · next h => exact .inr ⟨pre, p, h.1, by rw [h.2], rfl⟩
      · exact .inl rfl

/-- an occurrence ends before the last segment, and stays one whatever non-empty list stands in that segment's place -/
theorem patFree_append {m : List Seg} (hm : m ≠ []) (x : Seg) :
    ∀ l : List Seg, removeLeftmost (l ++ m) = none → removeLeftmost (l ++ [x]) = none
  | [], _ => rfl
  | [a], _ => by simp [removeLeftmost]
  | a :: b :: l, h => by
    rw [List.cons_append, List.cons_append, removeLeftmost_cons2] at h ⊢
    split at h
    · cases h
    · next hc =>
      rw [if_neg fun c => hc ⟨c.1, c.2.1, by simp [hm]⟩]
      exact Option.map_eq_none_iff.2 (patFree_append hm x (b :: l) (Option.map_eq_none_iff.1 h))

theorem step6f_patFree {l : List Seg} (h : removeLeftmost l = none) : removeLeftmost (step6f l) = none := by
  rcases step6f_cases l with e | ⟨pre, p, _, rfl, e⟩
  · rw [e]; exact h
  · rw [e]; exact patFree_append (m := [p, ".."]) nofun "" pre h

theorem step6f_idem (l : List Seg) : step6f (step6f l) = step6f l := by
  rcases step6f_cases l with e | ⟨pre, p, _, rfl, e⟩
  · rw [e, e]
  · rw [e]
    rcases List.eq_nil_or_concat pre with rfl | ⟨q, z, rfl⟩
    · rfl
    · simp [step6f_append, step6f_pair]

theorem step6f_mem (l : List Seg) : ∀ x ∈ step6f l, x ∈ l ∨ x = "" := by
  rcases step6f_cases l with e | ⟨pre, p, _, rfl, e⟩
  · rw [e]; exact fun x hx => .inl hx
  · rw [e]
    intro x hx
    rcases List.mem_append.1 hx with hx | hx
    · exact .inl (List.mem_append_left _ hx)
    · exact .inr (List.mem_singleton.1 hx)

theorem removeDotSlashGo_eq (out l : List Seg) : removeDotSlashGo out l = out.reverse ++ step6c l := by
  fun_induction removeDotSlashGo out l with
  | case1 | case2 => simp [step6c]
  | case3 _ _ _ ih => exact ih
  | case4 _ s t r hs ih => rw [ih, step6c_cons2, if_neg hs]; simp

theorem removeDotSlash_eq (l : List Seg) : removeDotSlash l = step6c l := by
  simp [removeDotSlash, removeDotSlashGo_eq]

theorem step6d_eq (l : List Seg) : step6d l = if l.getLast? = some "." then l.dropLast ++ [""] else l := by
  fun_induction step6d l with
  | case1 | case2 => rfl
  | case3 s hs => simp [hs]
  | case4 s t r ih =>
    rw [ih]
    simp only [List.getLast?_cons_cons, List.dropLast_cons_cons]
    split <;> simp

theorem trailingDot_eq (l : List Seg) : trailingDot l = step6d l := (step6d_eq l).symm

theorem uri6d_eq (l : List Seg) : uri6d l = step6d l := (step6d_eq l).symm

theorem trailingDotDot_eq (l : List Seg) : trailingDotDot l = step6f l := by
  unfold trailingDotDot
  rcases List.eq_nil_or_concat l with rfl | ⟨l1, d, rfl⟩
  · rfl
  · rcases List.eq_nil_or_concat l1 with rfl | ⟨pre, p, rfl⟩
    · rfl
    · simp only [List.concat_eq_append, List.append_assoc, List.reverse_append,
        List.reverse_cons, List.reverse_nil, List.nil_append, List.cons_append, step6f_append, step6f_pair]
      simp only [and_comm (a := d = "..")]
      split <;> simp

theorem uri6f_fix_eq (l : List Seg) : uri6f true l = some (step6f l) := by
  rw [← trailingDotDot_eq]
  unfold uri6f trailingDotDot
  cases l.reverse with
  | nil => rfl
  | cons d r =>
    cases r with
    | nil => simp
    | cons p r => simp only []; split <;> rfl

theorem removeFirstDot_none {l : List Seg} (h : removeFirstDot l = none) : step6c l = l := by
  fun_induction removeFirstDot l with
  | case1 | case2 => rfl
  | case3 => cases h
  | case4 s t r hs ih => rw [step6c_cons2, if_neg hs, ih (Option.map_eq_none_iff.1 h)]

theorem removeFirstDot_some {l l' : List Seg} (h : removeFirstDot l = some l') :
    step6c l' = step6c l ∧ l'.length < l.length := by
  fun_induction removeFirstDot l generalizing l' with
  | case1 | case2 => cases h
  | case3 t r => cases h; exact ⟨rfl, Nat.lt_succ_self _⟩
  | case4 s t r hs ih =>
    obtain ⟨m, h2, rfl⟩ := Option.map_eq_some_iff.1 h
    obtain ⟨e, hl⟩ := ih h2
    obtain ⟨x, m', rfl⟩ := List.exists_cons_of_ne_nil (l := m) fun hm =>
      step6c_ne_nil (l := t :: r) nofun (by rw [← e, hm]; rfl)
    rw [step6c_cons2, step6c_cons2, if_neg hs, if_neg hs, e]
    exact ⟨rfl, Nat.succ_lt_succ hl⟩

theorem uri6c_eq (n : Nat) (l : List Seg) (h : l.length ≤ n) : uri6c n l = step6c l := by
  fun_induction uri6c n l with
  | case1 => cases List.eq_nil_of_length_eq_zero (Nat.le_zero.1 h); rfl
  | case2 _ _ h2 => exact (removeFirstDot_none h2).symm
  | case3 _ _ _ h2 ih =>
    obtain ⟨e, hl⟩ := removeFirstDot_some h2
    rw [ih (by omega), e]

/-- the stack of `removeDotDotSlashGo` (newest first): below a ".." there is nothing but "..", since a ".." that is not
    the last segment is pushed only onto ".." or onto the empty stack -/
def Settled (done : List Seg) : Prop := done.Pairwise fun s below => s = ".." → below = ".."

/-- no occurrence begins inside a settled stack: the search goes on from its top -/
theorem removeLeftmost_settled : ∀ {p : Seg} {d : List Seg}, Settled (p :: d) → ∀ tail : List Seg,
    removeLeftmost ((p :: d).reverse ++ tail) = (removeLeftmost (p :: tail)).map (d.reverse ++ ·)
  | p, [], _, tail => by simp
  | p, q :: d, h, tail => by
    -- the top `p` goes over to the tail: what is left is a settled stack with top `q`, and `q`, `p` begin no
    -- occurrence, since `p` is ".." only if `q` is
    obtain ⟨hp, hd⟩ := List.pairwise_cons.1 h
    rw [List.reverse_cons, List.append_assoc, List.singleton_append, removeLeftmost_settled hd (p :: tail),
      removeLeftmost_cons2, if_neg fun c => c.1 (hp q List.mem_cons_self c.2.1)]
    cases removeLeftmost (p :: tail) <;> simp

theorem settled_patFree {done : List Seg} (h : Settled done) {tail : List Seg} (ht : tail.length ≤ 1) :
    removeLeftmost (done.reverse ++ tail) = none := by
  cases done with
  | nil => match tail, ht with | [], _ | [_], _ => rfl
  | cons p d =>
    rw [removeLeftmost_settled h]
    match tail, ht with | [], _ | [_], _ => simp [removeLeftmost]

/-- Each step of the scan is a push, which leaves the list `done.reverse ++ rest` as it is, or one leftmost removal. -/
theorem removeDotDotSlashGo_eq (done rest : List Seg) (n : Nat) (hd : Settled done) (hlen : rest.length ≤ n) :
    iterate n (done.reverse ++ rest) = removeDotDotSlashGo done rest := by
  have push : ∀ (s : Seg) (done rest : List Seg), done.reverse ++ s :: rest = (s :: done).reverse ++ rest := by simp
  fun_induction removeDotDotSlashGo done rest generalizing n with
  | case1 done => simpa using iterate_of_patFree n (settled_patFree hd (tail := []) (Nat.zero_le 1))
  | case2 s rest hc p d hp ih =>
    -- ".." after the name `p`, not last: the leftmost occurrence, removed by both
    obtain ⟨m, rfl⟩ : ∃ m, n = m + 1 := ⟨n - 1, by have := List.length_cons ▸ hlen; omega⟩
    rw [iterate, removeLeftmost_settled hd, hc.1, removeLeftmost_cons2, if_pos ⟨hp, rfl, hc.2⟩]
    exact ih m hd.of_cons (Nat.le_of_succ_le_succ hlen)
  | case3 s rest hc p d hp ih =>
    -- ".." onto "..": kept
    rw [push]
    have hp := Decidable.not_not.1 hp
    exact ih n (List.pairwise_cons.2 ⟨fun a ha _ => (List.mem_cons.1 ha).elim (· ▸ hp)
      fun ha => (List.pairwise_cons.1 hd).1 a ha hp, hd⟩) (Nat.le_of_succ_le hlen)
  | case4 s rest hc ih => exact ih n (List.pairwise_singleton ..) (Nat.le_of_succ_le hlen)
  | case5 done s rest hc ih =>
    by_cases hr : rest = []
    · -- the last segment, ".." or not: nothing more is removed
      subst hr
      rw [removeDotDotSlashGo, List.reverse_cons]
      exact iterate_of_patFree n (settled_patFree hd (Nat.le_refl 1))
    · rw [push]
      exact ih n (List.pairwise_cons.2 ⟨fun a _ h => absurd ⟨h, hr⟩ hc, hd⟩) (Nat.le_of_succ_le hlen)

theorem removeDotDotSlash_eq (l : List Seg) : removeDotDotSlash l = step6e l :=
  (removeDotDotSlashGo_eq [] l l.length List.Pairwise.nil (Nat.le_refl _)).symm

theorem weavePaths_eq (baseSegs relSegs : List Seg) :
    weavePathsWith true baseSegs relSegs = removeDotSegments (merge baseSegs relSegs) := by
  simp [weavePathsWith, removeDotSegments, merge, removeDotSlash_eq, trailingDot_eq,
    removeDotDotSlash_eq, trailingDotDot_eq]

theorem uriSteps_eq (buf : List Seg) :
    uri6f true (removeDotDotSlash (uri6d (uri6c buf.length buf))) = some (removeDotSegments buf) := by
  rw [uri6c_eq _ _ (Nat.le_refl _), uri6d_eq, removeDotDotSlash_eq, uri6f_fix_eq]; rfl

/-- On parsed components XMLUri after the fixes D5, D6 (`xmlUriResolve`) departs from RFC 2396 §5.2 in two cases only,
    both of them references with neither scheme, authority nor path: one with a query ("?y": the whole base path is
    kept) and the empty one when the base has a fragment (it is kept).  The other conjuncts of `uriDomain` bound where
    the model is the code. -/
theorem xmlUriResolve_eq_resolve (base rel : Uri)
    (hq : rel.scheme = none → rel.authority = none → rel.segs = [] → rel.query = none)
    (he : rel.scheme = none → rel.authority = none → rel.segs = [] → rel.fragment = none → base.fragment = none) :
    xmlUriResolve base rel = some (resolve base rel) := by
  obtain ⟨bs, ba, bp, bsegs, bq, bf⟩ := base
  obtain ⟨rs, ra, rp, rsegs, rq, rf⟩ := rel
  cases rs with
  | some s => simp [xmlUriResolve, xmlUriResolveWith, resolve]    -- step 3
  | none =>
    cases ra with
    | some a => simp [xmlUriResolve, xmlUriResolveWith, resolve]  -- step 4
    | none =>
      cases rsegs with
      | nil =>
        -- step 2
        obtain rfl : rq = none := hq rfl rfl rfl
        cases rf with
        | none =>
          obtain rfl : bf = none := he rfl rfl rfl rfl
          simp [xmlUriResolve, xmlUriResolveWith, resolve]
        | some f => simp [xmlUriResolve, xmlUriResolveWith, resolve]
      | cons s t =>
        cases rp
        · simp only [xmlUriResolve, xmlUriResolveWith, uriSteps_eq]   -- step 6
          simp [resolve, merge]
        · simp [xmlUriResolve, xmlUriResolveWith, resolve]            -- step 5

end XV.Lemmas.Uri
