/- For C12, whole trees: the concrete syntax tree of the serializer's output is a well-formed document (C02's `WF`).  The
argument is pointwise: `NodeOK` is what `WF` asks of one node of content and of the characters it is written with, and every
node written for a tree that meets `okNode` has it (`ok_toNodes`).  That only the predefined entities are referred to holds of
every tree and is shown apart (`refs_toNodes`).  Then the document: the XML declaration, or else a text that does not begin
like one, and nothing for `semEntities` to follow. -/
import XV.Lemmas.TreeOut
import XV.Lemmas.XmlDoc
namespace XV.Lemmas.TreeWF
open XV.Model.TreeSyntax XV.Model.Formatter XV.Model.Cdata XV.Spec.Escaping XV.Gen.Escapes
open XV.Lemmas.TreeUnits XV.Lemmas.TreeScan XV.Lemmas.TreeOut XV.Lemmas.Formatter
open XV.Spec.Xml

theorem notEsc_char (cfg : Cfg) (k : Nat) (h : escd cfg .CharEscapes k = false) : k ≠ 38 ∧ k ≠ 60 ∧ k ≠ 62 ∧ k ≠ 13 := by
  have := (not_escaped cfg (by decide) k h).1
  simpa only [scanRow_char, decide_eq_false_iff_not, not_or] using this

theorem notEsc_attr (cfg : Cfg) (k : Nat) (h : escd cfg .AttrEscapes k = false) :
    k ≠ 38 ∧ k ≠ 60 ∧ k ≠ 34 ∧ k ≠ 10 ∧ k ≠ 13 ∧ k ≠ 9 := by
  have := (not_escaped cfg (by decide) k h).1
  simpa only [scanRow_attr, decide_eq_false_iff_not, not_or] using this

theorem toNat_ne (c : Char) (k : Char) (h : c.toNat ≠ k.toNat) : (c != k) = true :=
  bne_iff_ne.2 fun e => h (e ▸ rfl)

theorem hexChars_ok (x : Nat) (h : (48 ≤ x ∧ x ≤ 57) ∨ (65 ≤ x ∧ x ≤ 70)) : isHexC (Char.ofNat x) = true := by
  simp only [isHexC, toNat_ofNat_lt x (by omega), Bool.or_eq_true, inR_iff]; omega

theorem lex_hexRef (n : Nat) : lexCharRef ⟨true, hexStr n⟩ = true := by
  simp only [lexCharRef, hexStr, asciiStr, hexDigits, if_true, Bool.and_eq_true, Bool.not_eq_true', List.isEmpty_eq_false_iff,
    ne_eq, List.map_eq_nil_iff]
  exact ⟨hexFuel_ne_nil 15 n, List.all_eq_true.2 (List.forall_mem_map.2 fun x hx => hexChars_ok x (hexFuel_mem 16 n x hx))⟩

theorem digitVal_hexChar : ∀ d, d < 16 → digitVal (Char.ofNat (hexChar d)) = d := by decide

theorem value_hexFuel (f n : Nat) (h : n < 16 ^ f) :
    ((hexFuel f n).map Char.ofNat).foldl (fun acc c => acc * 16 + digitVal c) 0 = n := by
  fun_induction hexFuel f n with
  | case1 n => exact (Nat.lt_one_iff.1 h).symm
  | case2 f n h16 => simp [digitVal_hexChar n h16]
  | case3 f n h16 ih =>
    have hm : n / 16 < 16 ^ f := Nat.div_lt_of_lt_mul (by rw [Nat.pow_succ] at h; omega)
    simp only [List.map_append, List.foldl_append, ih hm, List.map_cons, List.map_nil, List.foldl_cons,
      List.foldl_nil, digitVal_hexChar (n % 16) (Nat.mod_lt _ (by decide))]
    omega

theorem value_hexRef (k : Nat) (h : k < 18446744073709551616) : (⟨true, hexStr k⟩ : CharRef).value = k := by
  simp only [CharRef.value, hexStr, asciiStr, hexDigits, if_true]
  exact value_hexFuel 16 k (by simpa using h)

theorem legal_refChar (v11 : Bool) (k : Nat) (h : XV.Spec.XmlChar.isLiteralChar (ver v11) k = true) :
    XV.Spec.XmlChar.isRefChar (ver v11) k = true := by
  cases v11
  · exact h
  · exact (Bool.and_eq_true_iff.1 h).1

theorem sem_hexRef (v11 : Bool) (c : Char) (h : legalC v11 c = true) : semCharRef (ver v11) ⟨true, hexStr c.toNat⟩ = true := by
  have hr := char_range c
  unfold semCharRef
  rw [value_hexRef _ (by omega)]
  exact legal_refChar v11 _ h

theorem noEarly_cons (N : Str) (x : Char) (r : Str) :
    noEarly N (x :: r) = ((stripPrefix N (x :: r ++ N)).isNone && noEarly N r) := rfl

theorem noEarly_snoc (l : Str) (c : Char) (hc : (c == '>' && endsWith2C l) = false) (hl : noEarly [']', ']', '>'] l = true) :
    noEarly [']', ']', '>'] (l ++ [c]) = true := by
  fun_induction endsWith2C l with
  | case1 => simp [noEarly, stripPrefix]
  | case2 a => simp [noEarly, stripPrefix]
  | case3 a b =>
    simp only [List.cons_append, List.nil_append, noEarly, stripPrefix]
    simp
    rintro rfl rfl rfl
    exact absurd hc (by decide)
  | case4 a b d t ih =>
    rw [noEarly_cons, Bool.and_eq_true] at hl
    rw [List.cons_append, noEarly_cons, Bool.and_eq_true]
    -- whether `]]>` stands at the head is seen from the first three characters
    exact ⟨by simpa [stripPrefix] using hl.1, ih hc hl.2⟩

theorem splitFixedC_noEarly (v cur : Str) (h : noEarly [']', ']', '>'] cur = true) :
    ∀ p ∈ splitFixedC v cur, noEarly [']', ']', '>'] p = true := by
  fun_induction splitFixedC v cur with
  | case1 cur => intro p hp; cases List.mem_singleton.1 hp; exact h
  | case2 c t cur _ ih => exact fun p hp => (List.mem_cons.1 hp).elim (· ▸ h) (ih (by decide) p)
  | case3 c t cur hc ih => exact ih (noEarly_snoc cur c (by simpa using hc) h)

theorem splitFixedC_flatten (v cur : Str) : (splitFixedC v cur).flatten = cur ++ v := by
  fun_induction splitFixedC v cur with
  | case1 cur => simp
  | case2 c t cur h ih => simp only [Bool.and_eq_true, beq_iff_eq] at h; simp [ih, h.1]
  | case3 c t cur h ih => simp [ih]

theorem pieces_all (P : Char → Bool) (v : Str) (h : v.all P = true) : ∀ p ∈ splitFixedC v [], p.all P = true :=
  fun p hp => List.all_eq_true.2 fun c hc =>
    List.all_eq_true.1 h c ((splitFixedC_flatten v []).trans (List.nil_append v) ▸ List.mem_flatten.2 ⟨p, hp, hc⟩)

theorem toAttrs_map (cfg : Cfg) (as : List (Str × Str)) : toAttrs cfg as = as.map (toAttr cfg) := by
  induction as with
  | nil => rfl
  | cons a t ih => rw [toAttrs, ih]; rfl

/-! `]]>` never appears as three literal characters: `>` is always written `&gt;` -/

def noGtLeaf : Node → Bool
  | .leaf (.ch c) => c != '>'
  | _ => true

theorem noCdataEnd_of_noGt (ns : List Node) (h : ns.all noGtLeaf = true) : noCdataEnd ns = true := by
  fun_induction noCdataEnd ns with
  | case1 a b c rest ih =>
    simp only [List.all_cons, Bool.and_eq_true, noGtLeaf, bne_iff_ne, ne_eq] at h
    rw [ih (by simpa [noGtLeaf] using h.2), beq_false_of_ne h.2.2.1, Bool.and_false]; rfl
  | case2 n rest _ ih => rw [List.all_cons, Bool.and_eq_true] at h; exact ih h.2
  | case3 => rfl

theorem printable_legal (v11 : Bool) (c : Char) (h : 32 ≤ c.toNat ∧ c.toNat < 127) : legalC v11 c = true :=
  legal_of_class (.rng 32 126) (by decide +kernel) v11 c (Bool.and_eq_true_iff.2 ⟨decide_eq_true h.1, decide_eq_true (Nat.le_of_lt_succ h.2)⟩)

theorem asciiStr_legal (v11 : Bool) (l : List Nat) (h : ∀ x ∈ l, 32 ≤ x ∧ x < 127) : (asciiStr l).all (legalC v11) = true := by
  simp only [asciiStr, List.all_map, List.all_eq_true]
  intro x hx
  have := h x hx
  exact printable_legal v11 _ (by rw [toNat_ofNat_lt x (by omega)]; exact this)

theorem lit_legal (v11 : Bool) (s : Str) (h : s.all (fun c => decide (32 ≤ c.toNat) && decide (c.toNat < 127)) = true) :
    s.all (legalC v11) = true := by
  simp only [List.all_eq_true] at h ⊢
  intro c hc
  have := h c hc
  simp only [Bool.and_eq_true, decide_eq_true_eq] at this
  exact printable_legal v11 c this

theorem escStr_legal (cfg : Cfg) (esc : EscapeFlags) (v11 : Bool) (v : Str) (h : v.all (legalC v11) = true) :
    (escStr cfg esc v).all (legalC v11) = true := by
  rw [escStr, List.all_flatMap]
  refine List.all_eq_true.2 fun c hc => ?_
  split
  · exact asciiStr_legal v11 _ (refText_mem c.toNat)
  · rw [List.all_cons, List.all_eq_true.1 h c hc]; rfl

/-- what `WF` asks of one node of element content and of the characters it is written with.  `noGt`: no `>` stands
literally, so that no `]]>` arises between neighbours.  A run of content is in order when each of its nodes is
(`NodeOK.all`), so the nodes of a tree are dealt with one by one. -/
structure NodeOK (v11 : Bool) (n : Node) : Prop where
  lex : lexNode n = true
  sem : semNode (ver v11) n = true
  noGt : noGtLeaf n = true
  legal : (renderToks n.toks).all (legalC v11) = true

theorem NodeOK.all {v11 : Bool} : ∀ {ns : List Node}, (∀ n ∈ ns, NodeOK v11 n) →
    lexNodes ns = true ∧ semNodes (ver v11) ns = true ∧ ns.all noGtLeaf = true ∧ (renderNodes ns).all (legalC v11) = true
  | [], _ => ⟨rfl, rfl, rfl, rfl⟩
  | n :: r, h => by
    obtain ⟨hn, hr⟩ := List.forall_mem_cons.1 h
    obtain ⟨h1, h2, h3, h6⟩ := NodeOK.all hr
    refine ⟨?_, ?_, ?_, ?_⟩
    · rw [lexNodes, hn.lex, h1]; rfl
    · rw [semNodes, hn.sem, h2]; rfl
    · rw [List.all_cons, hn.noGt, h3]; rfl
    · rw [renderNodes, Node.toksL, XV.Lemmas.Infoset.renderToks_append, List.all_append, hn.legal]; exact h6

theorem NodeOK.leaf {v11 : Bool} {l : Leaf} (hlex : lexLeaf l = true) (hsem : semLeaf (ver v11) l = true)
    (hgt : noGtLeaf (.leaf l) = true) (hlegal : (renderLeaf l).all (legalC v11) = true) : NodeOK v11 (.leaf l) :=
  ⟨hlex, hsem, hgt, by rw [Node.toks, renderToks, renderToks, List.append_nil]; exact hlegal⟩

theorem ok_refLeaf (v11 : Bool) (c : Char) (h : legalC v11 c = true) : NodeOK v11 (.leaf (refLeaf c)) := by
  have hl : (renderLeaf (refLeaf c)).all (legalC v11) = true := by
    rw [render_refLeaf]; exact asciiStr_legal v11 _ (refText_mem c.toNat)
  rcases ref_cases c with ⟨p, hp, _, hr, _⟩ | ⟨hr, _⟩
  · rw [hr] at hl ⊢
    exact .leaf ((by decide : ∀ p ∈ stdNames, isName p.2 = true) p hp) rfl rfl hl
  · rw [hr] at hl ⊢
    exact .leaf (lex_hexRef _) (sem_hexRef v11 c h) rfl hl

theorem ok_textLeaf (cfg : Cfg) (v11 : Bool) (c : Char) (h : legalC v11 c = true) : NodeOK v11 (.leaf (textLeaf cfg c)) := by
  unfold textLeaf
  cases he : escd cfg .CharEscapes c.toNat with
  | true => exact ok_refLeaf v11 c h
  | false =>
    have hn := notEsc_char cfg _ he
    rw [if_neg Bool.false_ne_true]
    refine .leaf ?_ rfl (toNat_ne c '>' hn.2.2.1) (by rw [show renderLeaf (.ch c) = [c] from rfl, List.all_cons, h]; rfl)
    exact Bool.and_eq_true_iff.2 ⟨toNat_ne c '<' hn.2.1, toNat_ne c '&' hn.1⟩

theorem ok_attPiece (cfg : Cfg) (v11 : Bool) (c : Char) (h : legalC v11 c = true) :
    lexPiece .dq (attPiece cfg c) = true ∧ semPiece (ver v11) (attPiece cfg c) = true := by
  unfold attPiece
  cases he : escd cfg .AttrEscapes c.toNat with
  | true =>
    rw [if_pos rfl]
    rcases ref_cases c with ⟨p, hp, _, _, hr⟩ | ⟨_, hr, _⟩
    · rw [hr]; exact ⟨(by decide : ∀ p ∈ stdNames, isName p.2 = true) p hp, rfl⟩
    · rw [hr]; exact ⟨lex_hexRef _, sem_hexRef v11 c h⟩
  | false =>
    have hn := notEsc_attr cfg _ he
    exact ⟨Bool.and_eq_true_iff.2 ⟨toNat_ne c '"' hn.2.2.1, toNat_ne c '&' hn.1⟩, toNat_ne c '<' hn.2.1⟩

/-- the attributes of a tag: `lexTag`, `semTag` apart from the distinct names, and the characters -/
theorem ok_toAttrs (cfg : Cfg) (v11 : Bool) : ∀ (as : List (Str × Str)), as.all (okAttr v11) = true →
    (toAttrs cfg as).all lexAttr = true ∧ (toAttrs cfg as).all (fun a => a.val.all (semPiece (ver v11))) = true ∧
      (renderAttrs (toAttrs cfg as)).all (legalC v11) = true
  | [], _ => ⟨rfl, rfl, rfl⟩
  | a :: t, h => by
    simp only [List.all_cons, Bool.and_eq_true, okAttr] at h
    have hv : ∀ c ∈ a.2, lexPiece .dq (attPiece cfg c) = true ∧ semPiece (ver v11) (attPiece cfg c) = true :=
      fun c hc => ok_attPiece cfg v11 c (List.all_eq_true.1 h.1.2 c hc)
    obtain ⟨i1, i2, i3⟩ := ok_toAttrs cfg v11 t h.2
    refine ⟨?_, ?_, ?_⟩
    · rw [toAttrs, List.all_cons, i1, Bool.and_true]
      simp only [lexAttr, toAttr, sp1, eq0, lexEq, allS, Bool.and_eq_true, h.1.1]
      exact ⟨⟨⟨⟨by decide, by decide⟩, trivial⟩, by decide⟩, List.all_eq_true.2 (List.forall_mem_map.2 fun c hc => (hv c hc).1)⟩
    · rw [toAttrs, List.all_cons, i2, Bool.and_true]
      exact List.all_eq_true.2 (List.forall_mem_map.2 fun c hc => (hv c hc).2)
    · simp (disch := decide) only [toAttrs, renderAttrs, renderAttr_toAttr, List.all_append, lit_legal, i3,
        name_legal v11 a.1 h.1.1, escStr_legal cfg _ v11 _ h.1.2, Bool.and_self]

theorem NodeOK.elem (cfg : Cfg) {v11 : Bool} {n : Str} {as : List (Str × Str)} {kids : List Node} (b : Bool)
    (hn : isName n = true) (has : as.all (okAttr v11) = true) (hd : noDup (as.map (·.1)) = true)
    (hk : ∀ x ∈ kids, NodeOK v11 x) : NodeOK v11 (mkElem cfg n as kids b) := by
  obtain ⟨k1, k2, k3, k6⟩ := NodeOK.all hk
  obtain ⟨a1, a2, a4⟩ := ok_toAttrs cfg v11 as has
  have hnames : noDup ((toAttrs cfg as).map (·.name)) = true := by rw [toAttrs_map, List.map_map]; exact hd
  have hnl := name_legal v11 n hn
  cases b with
  | true =>
    refine ⟨?_, ?_, rfl, ?_⟩
    · simp [mkElem, lexNode, lexTag, hn, a1, allS]
    · simp [mkElem, semNode, semTag, hnames, a2]
    · simp (disch := decide) only [render_mkElem, if_true, List.all_append, lit_legal, hnl, a4, Bool.and_self]
  | false =>
    refine ⟨?_, ?_, rfl, ?_⟩
    · simp [mkElem, lexNode, lexTag, hn, a1, allS, k1]
    · simp [mkElem, semNode, semTag, hnames, a2, k2, noCdataEnd_of_noGt _ k3]
    · simp (disch := decide) only [render_mkElem, Bool.false_eq_true, if_false, List.all_append, lit_legal, hnl, a4, k6, Bool.and_self]

mutual
theorem ok_toNodes (cfg : Cfg) (v11 : Bool) : (n : CNode) → okNode v11 n = true → ∀ x ∈ toNodes cfg n, NodeOK v11 x
  | .text v, h => by
    rw [toNodes]; exact List.forall_mem_map.2 fun c hc => ok_textLeaf cfg v11 c (List.all_eq_true.1 h c hc)
  | .cdata v, h => by
    simp only [okNode, Bool.and_eq_true] at h
    rw [toNodes]
    refine List.forall_mem_map.2 fun p hp => .leaf (splitFixedC_noEarly v [] rfl p hp) rfl rfl ?_
    simp (disch := decide) only [renderLeaf, List.all_append, lit_legal, pieces_all _ v h.1 p hp,
      Bool.and_self]
  | .comment v, h => by
    obtain ⟨hl, _, he⟩ := okNode_comment h
    rw [toNodes]
    refine List.forall_mem_singleton.2 (.leaf he rfl rfl ?_)
    simp (disch := decide) only [renderLeaf, List.all_append, lit_legal, hl, Bool.and_self]
  | .pi t d, h => by
    obtain ⟨hn, ht, hl, _, he, hh⟩ := okNode_pi h
    rw [toNodes]
    refine List.forall_mem_singleton.2 (.leaf ?_ ht rfl ?_)
    · cases d with
      | nil => simp [lexLeaf, lexPI, hn, allS, noEarly]
      | cons c r => simp [lexLeaf, lexPI, hn, allS, sp1, he, hh]; decide
    · rw [show renderLeaf (.pi t (if d.isEmpty then [] else sp1) d) = ['<', '?'] ++ t ++ (if d.isEmpty then [] else sp1) ++ d ++ ['?', '>'] from
        by simp [renderLeaf]]
      simp (disch := decide) only [List.all_append, apply_ite (List.all · (legalC v11)), sp1, lit_legal,
        name_legal v11 t hn, hl, ite_self, Bool.and_self]
  | .elem n as kids, h => by
    obtain ⟨hn, has, hd, hk⟩ := okNode_elem h
    rw [toNodes]
    exact List.forall_mem_singleton.2 (.elem cfg _ hn has hd (ok_toNodesL cfg v11 kids hk))
theorem ok_toNodesL (cfg : Cfg) (v11 : Bool) : (ns : List CNode) → okNodes v11 ns = true → ∀ x ∈ toNodesL cfg ns, NodeOK v11 x
  | [], _ => nofun
  | n :: t, h => by
    simp only [okNodes, Bool.and_eq_true] at h
    rw [toNodesL]
    exact List.forall_mem_append.2 ⟨ok_toNodes cfg v11 n h.1, ok_toNodesL cfg v11 t h.2⟩
end

theorem lex_toNodesL (cfg : Cfg) (v11 : Bool) : (ns : List CNode) → okNodes v11 ns = true → lexNodes (toNodesL cfg ns) = true :=
  fun ns h => (NodeOK.all (ok_toNodesL cfg v11 ns h)).1

theorem sem_toNodesL (cfg : Cfg) (v11 : Bool) : (ns : List CNode) → okNodes v11 ns = true → semNodes (ver v11) (toNodesL cfg ns) = true :=
  fun ns h => (NodeOK.all (ok_toNodesL cfg v11 ns h)).2.1

def allLegal (v11 : Bool) (s : Str) : Bool := s.all (legalC v11)

theorem legal_toNodesL (cfg : Cfg) (v11 : Bool) : (ns : List CNode) → okNodes v11 ns = true →
    allLegal v11 (renderNodes (toNodesL cfg ns)) = true :=
  fun ns h => (NodeOK.all (ok_toNodesL cfg v11 ns h)).2.2.2

def allPre (l : List Str) : Bool := l.all (fun n => predefined.contains n)

theorem allPre_append (a b : List Str) : allPre (a ++ b) = (allPre a && allPre b) := by simp [allPre]

theorem allPre_flatMap {α : Type} (f : α → List Str) (l : List α) : allPre (l.flatMap f) = l.all fun x => allPre (f x) := by
  simp [allPre, List.all_flatMap]

theorem refs_all : ∀ {ns : List Node}, (∀ n ∈ ns, allPre (contentRefs n) = true ∧ allPre (attRefs n) = true) →
    allPre (contentRefsL ns) = true ∧ allPre (attRefsL ns) = true
  | [], _ => ⟨rfl, rfl⟩
  | n :: r, h => by
    obtain ⟨hn, hr⟩ := List.forall_mem_cons.1 h
    rw [contentRefsL, attRefsL, allPre_append, allPre_append, hn.1, hn.2, (refs_all hr).1, (refs_all hr).2]
    exact ⟨rfl, rfl⟩

theorem refs_textLeaf (cfg : Cfg) (c : Char) : allPre (contentRefs (.leaf (textLeaf cfg c))) = true := by
  unfold textLeaf
  split
  · rcases ref_cases c with ⟨p, hp, _, hr, _⟩ | ⟨hr, _⟩
    · rw [hr]; exact (by decide : ∀ p ∈ stdNames, allPre [p.2] = true) p hp
    · rw [hr]; rfl
  · rfl

theorem pieceRefs_cons (p : AttPiece) (ps : List AttPiece) : pieceRefs (p :: ps) = pieceRefs [p] ++ pieceRefs ps := by
  cases p <;> simp [pieceRefs]

theorem refs_attPiece (cfg : Cfg) (c : Char) : allPre (pieceRefs [attPiece cfg c]) = true := by
  unfold attPiece
  split
  · rcases ref_cases c with ⟨p, hp, _, _, hr⟩ | ⟨_, hr, _⟩
    · rw [hr]; exact (by decide : ∀ p ∈ stdNames, allPre [p.2] = true) p hp
    · rw [hr]; rfl
  · rfl

theorem refs_attPieces (cfg : Cfg) (v : Str) : allPre (pieceRefs (v.map (attPiece cfg))) = true := by
  induction v with
  | nil => rfl
  | cons c t ih =>
    rw [List.map_cons, pieceRefs_cons, allPre_append, refs_attPiece, ih]; rfl

theorem refs_toAttrs {n : Str} (cfg : Cfg) (as : List (Str × Str)) : allPre (tagAttRefs ⟨n, toAttrs cfg as, []⟩) = true := by
  rw [tagAttRefs, toAttrs_map, List.flatMap_map, allPre_flatMap]
  exact List.all_eq_true.2 fun a _ => refs_attPieces cfg a.2

mutual
theorem refs_toNodes (cfg : Cfg) : (n : CNode) → ∀ x ∈ toNodes cfg n, allPre (contentRefs x) = true ∧ allPre (attRefs x) = true
  | .text v => by rw [toNodes]; exact List.forall_mem_map.2 fun c _ => ⟨refs_textLeaf cfg c, rfl⟩
  | .cdata v => by rw [toNodes]; exact List.forall_mem_map.2 fun _ _ => ⟨rfl, rfl⟩
  | .comment v => by rw [toNodes]; exact List.forall_mem_singleton.2 ⟨rfl, rfl⟩
  | .pi t d => by rw [toNodes]; exact List.forall_mem_singleton.2 ⟨rfl, rfl⟩
  | .elem n as kids => by
    have ih := refs_all (refs_toNodesL_pointwise cfg kids)
    have ha := refs_toAttrs (n := n) cfg as
    rw [toNodes]
    refine List.forall_mem_singleton.2 ?_
    simp only [mkElem, apply_ite contentRefs, apply_ite attRefs, contentRefs, attRefs, apply_ite allPre, allPre_append, ha, ih,
      show allPre [] = true from rfl, ite_self, Bool.and_self, and_self]
theorem refs_toNodesL_pointwise (cfg : Cfg) : (ns : List CNode) → ∀ x ∈ toNodesL cfg ns, allPre (contentRefs x) = true ∧ allPre (attRefs x) = true
  | [] => nofun
  | n :: t => by rw [toNodesL]; exact List.forall_mem_append.2 ⟨refs_toNodes cfg n, refs_toNodesL_pointwise cfg t⟩
end

theorem refs_toNodesL (cfg : Cfg) : (ns : List CNode) →
    allPre (contentRefsL (toNodesL cfg ns)) = true ∧ allPre (attRefsL (toNodesL cfg ns)) = true :=
  fun ns => refs_all (refs_toNodesL_pointwise cfg ns)

/-- references to predefined entities only: the closure finds nothing to check and no edges -/
theorem closure_predefined (env : EntEnv) (v : XV.Spec.XmlChar.Version) (edges : List ((Str × Use) × (Str × Use)))
    (todo : List (Str × Use)) (fuel : Nat) (seen : List (Str × Use)) (h : ∀ x ∈ todo, predefined.contains x.1 = true)
    (hf : todo.length < fuel) : entityClosure env v fuel todo seen edges = .ok edges := by
  fun_induction entityClosure env v fuel todo seen edges
  case case1 => exact absurd hf (Nat.not_lt_zero _)
  case case2 => rfl
  case case3 ih | case4 ih => exact ih (fun y hy => h y (List.mem_cons_of_mem _ hy)) (Nat.lt_of_succ_lt_succ hf)
  -- every other branch is for a name that is not predefined
  all_goals exact absurd (h _ (List.mem_cons_self ..)) ‹_›

theorem semEntities_predefined (env : EntEnv) (v : XV.Spec.XmlChar.Version) (root : Node)
    (h1 : allPre (contentRefs root) = true) (h2 : allPre (attRefs root) = true) : semEntities env v root = .ok () := by
  unfold semEntities
  simp only
  split
  · rfl
  · rw [closure_predefined env v [] _ _ [] (List.all_eq_true.1 (by rw [List.all_append, List.all_map, List.all_map, Bool.and_eq_true]; exact ⟨h1, h2⟩))
      (Nat.lt_add_right 16 (Nat.lt_of_lt_of_le (Nat.lt_add_of_pos_left (by omega)) (Nat.le_mul_of_pos_right _ (Nat.succ_pos _))))]
    rfl

/-- the side conditions on the document as a whole: an encoding name of the right shape when the declaration is
written, and the declaration IS written for an XML 1.1 document (the version must travel with the bytes) -/
def okDocCfg (cfg : Cfg) (xd : Bool) (enc : Str) : Bool := (!xd || lexEncName enc) && (!cfg.xml11 || xd)

theorem okDocCfg_cases {cfg : Cfg} {xd : Bool} {enc : Str} (h : okDocCfg cfg xd enc = true) :
    (xd = true ∧ lexEncName enc = true) ∨ (xd = false ∧ cfg.xml11 = false) := by
  cases xd <;> simp_all [okDocCfg]

theorem version_toDoc (cfg : Cfg) (xd : Bool) (enc n : Str) (as : List (Str × Str)) (kids : List CNode)
    (h : okDocCfg cfg xd enc = true) : (toDoc cfg xd enc n as kids).version = ver cfg.xml11 := by
  rcases okDocCfg_cases h with ⟨rfl, _⟩ | ⟨rfl, hx⟩
  · cases hx : cfg.xml11 <;> simp [toDoc, Doc.version, XmlDecl.ver, toDecl, ver, hx]
  · simp [toDoc, Doc.version, ver, hx]

theorem nameStart_not_q (c : Char) (h : isNameStartC c = true) : ¬ '?' = c := by
  intro e; subst e; revert h; decide

theorem lexDoc_toDoc (cfg : Cfg) (xd : Bool) (enc n : Str) (as : List (Str × Str)) (kids : List CNode)
    (hc : okDocCfg cfg xd enc = true) (hok : okNode cfg.xml11 (.elem n as kids) = true) :
    lexDoc (toDoc cfg xd enc n as kids) = true := by
  rw [XV.Lemmas.Xml.lexDoc_E _ (XV.Lemmas.Xml.entOnlyDoc_of_none rfl)]
  have hl := (ok_toNodes cfg cfg.xml11 (.elem n as kids) hok _ (List.mem_singleton_self _)).lex
  refine ⟨?_, rfl, trivial, by cases kids <;> rfl, hl, rfl⟩
  rcases okDocCfg_cases hc with ⟨rfl, he⟩ | ⟨rfl, _⟩
  · cases hx : cfg.xml11 <;>
      simp [toDoc, lexXmlDecl, toDecl, pseudo, lexPseudo, sp1, eq0, lexEq, allS, he, hx] <;> decide
  · -- without a declaration the text must not look as if it began with one: it begins `<` and a name start character
    have hr : renderToks (toDoc cfg false enc n as kids).toks = renderNodes (toNodes cfg (.elem n as kids)) :=
      render_toDoc cfg false enc n as kids
    cases n with
    | nil => exact absurd (okNode_elem hok).1 nofun
    | cons c t =>
      have hq := nameStart_not_q c (Bool.and_eq_true_iff.1 (okNode_elem hok).1).1
      show startsWithDecl (renderToks (toDoc cfg false enc (c :: t) as kids).toks) = none
      simp [hr, render_elem, startsWithDecl, stripPrefix, hq]

theorem encName_legal (v11 : Bool) (enc : Str) (h : lexEncName enc = true) : enc.all (legalC v11) = true := by
  have hE : ∀ x : Char, isEncNameC x = true → legalC v11 x = true := by
    intro x hx
    refine printable_legal v11 x ?_
    simp only [isEncNameC, isAlphaC, isDigitC, Bool.or_eq_true, inR_iff, beq_char_nat, beq_iff_eq, Char.reduceToNat] at hx
    omega
  cases enc with
  | nil => exact absurd h nofun
  | cons c t =>
    simp only [lexEncName, Bool.and_eq_true] at h
    exact List.all_eq_true.2 fun x hx => hE x ((List.mem_cons.1 hx).elim (fun e => by simp only [e, isEncNameC, h.1, Bool.true_or])
      (List.all_eq_true.1 h.2 x))

theorem semOk_toDoc (cfg : Cfg) (xd : Bool) (enc n : Str) (as : List (Str × Str)) (kids : List CNode)
    (hc : okDocCfg cfg xd enc = true) (hok : okNode cfg.xml11 (.elem n as kids) = true) :
    semOk (toDoc cfg xd enc n as kids) = true := by
  have hv := version_toDoc cfg xd enc n as kids hc
  have hs : semNode _ (toDoc cfg xd enc n as kids).root = true :=
    (ok_toNodes cfg cfg.xml11 (.elem n as kids) hok _ (List.mem_singleton_self _)).sem
  have hr := refs_toNodes cfg (.elem n as kids) _ (List.mem_singleton_self _)
  have hlegal : semLegal (toDoc cfg xd enc n as kids) = true := by
    rw [semLegal, hv, render_toDoc]
    refine (List.all_append (f := legalC cfg.xml11)).trans ?_
    rw [(NodeOK.all (ok_toNodes cfg cfg.xml11 (.elem n as kids) hok)).2.2.2, Bool.and_true]
    rcases okDocCfg_cases hc with ⟨rfl, he⟩ | ⟨rfl, _⟩
    · rw [if_pos rfl, render_toDecl, List.all_append, List.all_append, asciiStr_legal _ _ (decl_ascii _).1,
        encName_legal _ _ he, asciiStr_legal _ _ (decl_ascii true).2]
      rfl
    · rfl
  have hent : semEntities (toDoc cfg xd enc n as kids).env (ver cfg.xml11) (toDoc cfg xd enc n as kids).root = .ok () :=
    semEntities_predefined _ _ _ hr.1 hr.2
  have hbool : semDocBool (toDoc cfg xd enc n as kids) = true := by
    rw [semDocBool, hlegal, hv, hs]; rfl
  rw [semOk, semDoc, hbool, hv, hent]; rfl

theorem wf_toDoc (cfg : Cfg) (xd : Bool) (enc n : Str) (as : List (Str × Str)) (kids : List CNode)
    (hc : okDocCfg cfg xd enc = true) (hok : okNode cfg.xml11 (.elem n as kids) = true) :
    WF (toDoc cfg xd enc n as kids) := ⟨lexDoc_toDoc cfg xd enc n as kids hc hok, semOk_toDoc cfg xd enc n as kids hc hok⟩

end XV.Lemmas.TreeWF
