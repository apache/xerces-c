/- Character classes as range expressions: Boolean combinations of the tests `lo ≤ c ≤ hi`, `c = k`, `c < k`.  As a
function of `c` such an expression is constant between consecutive end points, so "it holds of every `c`" is decided by
evaluating it at 0 and at its end points (`RExp.always_spec`).  The generated tables of XMLChar.cpp, the productions of
the Recommendations as XV.Spec.XmlChar writes them and as XV.Spec.Unescape writes them are all such expressions; that
two of them denote the same class, or one a part of the other, is then one evaluation.  Core Lean only. -/
namespace XV.Lemmas.RangeExp

inductive RExp
  | rng (lo hi : Nat)
  | pt (k : Nat)
  | lt (k : Nat)
  | ff
  | not (a : RExp)
  | op (f : Bool → Bool → Bool) (a b : RExp)

namespace RExp

def eval : RExp → Nat → Bool
  | rng lo hi, c => decide (lo ≤ c) && decide (c ≤ hi)
  | pt k, c => c == k
  | lt k, c => decide (c < k)
  | ff, _ => false
  | not a, c => !a.eval c
  | op f a b, c => f (a.eval c) (b.eval c)

/-- where the value may change: a test `x ≤ c` has the same answer for all `c` between two consecutive points -/
def pts : RExp → List Nat
  | rng lo hi => [lo, hi + 1]
  | pt k => [k, k + 1]
  | lt k => [k]
  | ff => []
  | not a => a.pts
  | op _ a b => a.pts ++ b.pts

abbrev and : RExp → RExp → RExp := op (· && ·)
abbrev or : RExp → RExp → RExp := op (· || ·)
abbrev iff : RExp → RExp → RExp := op (· == ·)
abbrev imp : RExp → RExp → RExp := op (!· || ·)

/-- a table of ranges, as `List.any` reads it -/
def ofRanges : List (Nat × Nat) → RExp
  | [] => ff
  | r :: t => or (rng r.1 r.2) (ofRanges t)

/-- `b` is the last end point at or below `c`: the expression cannot tell them apart -/
theorem eval_floor : ∀ (e : RExp) {c b : Nat}, b ≤ c → (∀ x ∈ e.pts, x ≤ c → x ≤ b) → e.eval c = e.eval b
  | rng lo hi, c, b, hb, hm => by
    have h1 := hm lo (.head _)
    have h2 := hm (hi + 1) (.tail _ (.head _))
    rw [eval, eval, Bool.eq_iff_iff]; simp only [Bool.and_eq_true, decide_eq_true_eq]; omega
  | pt k, c, b, hb, hm => by
    have h1 := hm k (.head _)
    have h2 := hm (k + 1) (.tail _ (.head _))
    rw [eval, eval, Bool.eq_iff_iff, beq_iff_eq, beq_iff_eq]; omega
  | lt k, c, b, hb, hm => by
    have h1 := hm k (.head _)
    rw [eval, eval, Bool.eq_iff_iff, decide_eq_true_eq, decide_eq_true_eq]; omega
  | ff, _, _, _, _ => rfl
  | not a, _, _, hb, hm => congrArg (!·) (eval_floor a hb hm)
  | op f a b, _, _, hb, hm => by
    rw [eval, eval, eval_floor a hb fun x hx => hm x (List.mem_append_left _ hx),
      eval_floor b hb fun x hx => hm x (List.mem_append_right _ hx)]

theorem exists_floor (c : Nat) : ∀ l : List Nat, ∃ b ∈ 0 :: l, b ≤ c ∧ ∀ x ∈ l, x ≤ c → x ≤ b
  | [] => ⟨0, .head _, Nat.zero_le _, nofun⟩
  | y :: l => by
    obtain ⟨b, hb, hbc, hm⟩ := exists_floor c l
    have hb' : b ∈ 0 :: y :: l := (List.mem_cons.1 hb).elim (· ▸ .head _) fun h => .tail _ (.tail _ h)
    by_cases hy : y ≤ c ∧ b < y
    · exact ⟨y, .tail _ (.head _), hy.1, fun x hx hxc => (List.mem_cons.1 hx).elim (fun e => e ▸ Nat.le_refl _)
        fun h => Nat.le_trans (hm x h hxc) (Nat.le_of_lt hy.2)⟩
    · exact ⟨b, hb', hbc, fun x hx hxc => (List.mem_cons.1 hx).elim (fun e => by subst e; omega) fun h => hm x h hxc⟩

def always (e : RExp) : Bool := (0 :: e.pts).all e.eval

theorem always_spec {e : RExp} (h : e.always = true) (c : Nat) : e.eval c = true := by
  obtain ⟨b, hb, hbc, hm⟩ := exists_floor c e.pts
  rw [eval_floor e hbc hm]
  exact List.all_eq_true.1 h b hb

theorem eq_of_always {a b : RExp} (h : (iff a b).always = true) (c : Nat) : a.eval c = b.eval c :=
  eq_of_beq (always_spec h c)

theorem imp_of_always {a b : RExp} (h : (imp a b).always = true) (c : Nat) (ha : a.eval c = true) : b.eval c = true := by
  have := always_spec h c
  rw [eval, ha] at this
  exact this

end RExp
end XV.Lemmas.RangeExp
