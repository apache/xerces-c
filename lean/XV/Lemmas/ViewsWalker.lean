/-
C14 — the forward methods of DOMTreeWalkerImpl (firstChild, nextSibling, parentNode, nextNode; the backward ones have no lemma
here) against the logical view of DOM Traversal 1.2, for a walker whose acceptNode gives the verdicts of the Spec (`StdJudge`).
getFirstChild / getNextSibling return the head of a list of visible nodes: `VBl` (those below a list of children), `R` (those
that follow a node inside its scope, the nearest enclosing node that is the root or not skipped); their fuel suffices by a
measure that counts the steps to come in the walk that enters and leaves every node once.  nextNode() is the successor in
`visibleOrder`: that list splits around the block of a visible node, and the search past the block finds the head of the rest.
-/
import XV.Lemmas.Views
namespace XV.Lemmas.ViewsWalker
open XV.Model.Dom XV.Spec.Dom XV.Model.Views XV.Spec.Views XV.Lemmas.Dom XV.Lemmas.Views

/-- the visible nodes below the children `l`, in document order, with the fuel of `visibleOrder`:
`visibleOrder s w filt root` is `VBl s w filt (kids s root)` by definition -/
def VBl (s : Store) (w filt : Nat) (l : List NodeId) : List NodeId := visibleBelowFuel s w filt (s.size + 1) l

/-- the block of `c` in the logical view: the visible nodes of its subtree, `c` itself first if it is accepted -/
def VBn (s : Store) (w filt : Nat) (c : NodeId) : List NodeId :=
  match verdict s w filt c with
  | .accept => c :: VBl s w filt (kids s c)
  | .skip => VBl s w filt (kids s c)
  | .reject => []

theorem VBn_accept {s : Store} {w filt : Nat} {c : NodeId} (hv : verdict s w filt c = .accept) :
    VBn s w filt c = c :: VBl s w filt (kids s c) := by
  unfold VBn; rw [hv]

theorem VBn_skip {s : Store} {w filt : Nat} {c : NodeId} (hv : verdict s w filt c = .skip) :
    VBn s w filt c = VBl s w filt (kids s c) := by
  unfold VBn; rw [hv]

theorem VBl_eq_flatMap {s : Store} {w filt : Nat} (h : WF s) (l : List NodeId) :
    VBl s w filt l = l.flatMap (VBn s w filt) := by
  have hfix := fuel_fix (exists_descends h).1
    (fun f c => visibleBelowFuel s w filt f (kids s c))
    (fun g c => (kids s c).flatMap fun d =>
      match verdict s w filt d with
      | .accept => d :: g d
      | .skip => g d
      | .reject => []) (fun _ _ => rfl)
    (fun g g' x hg => flatMap_congr _ _ _ fun d hd => by rw [hg d hd])
    (fun x hx g => by rw [kids_dead hx]; rfl)
  show (l.flatMap fun c =>
    match verdict s w filt c with
    | .accept => c :: visibleBelowFuel s w filt s.size (kids s c)
    | .skip => visibleBelowFuel s w filt s.size (kids s c)
    | .reject => []) = _
  refine flatMap_congr _ _ _ fun c _ => ?_
  rw [hfix c]
  rfl

theorem VBl_cons {s : Store} {w filt : Nat} (h : WF s) (c : NodeId) (t : List NodeId) :
    VBl s w filt (c :: t) = VBn s w filt c ++ VBl s w filt t := by
  rw [VBl_eq_flatMap h, VBl_eq_flatMap h t]; rfl

theorem VBl_nil (s : Store) (w filt : Nat) : VBl s w filt [] = [] := rfl

theorem VBl_append {s : Store} {w filt : Nat} (h : WF s) (a b : List NodeId) :
    VBl s w filt (a ++ b) = VBl s w filt a ++ VBl s w filt b := by
  rw [VBl_eq_flatMap h, VBl_eq_flatMap h a, VBl_eq_flatMap h b, List.flatMap_append]

/-- the visible nodes that follow the subtree of `n` up to the end of the nearest enclosing node that is the root or not
skipped, over the chain `n :: ancestors n` -/
def restUp (s : Store) (w filt root : Nat) : List NodeId → List NodeId
  | [] => []
  | n :: anc =>
    if n = root then [] else
    VBl s w filt (sibsAfter s n) ++
      (match anc with
       | p :: _ => if verdict s w filt p = .skip then restUp s w filt root anc else []
       | [] => [])

def R (s : Store) (w filt root n : Nat) : List NodeId := restUp s w filt root (n :: ancestors s n)

theorem R_root (s : Store) (w filt : Nat) (root : NodeId) : R s w filt root root = [] := by
  unfold R restUp; rw [if_pos rfl]

theorem R_unfold {s : Store} (h : WF s) {w filt : Nat} {root n p : NodeId} (hne : n ≠ root) (hp : parentOf s n = some p) :
    R s w filt root n =
      VBl s w filt (sibsAfter s n) ++ if verdict s w filt p = .skip then R s w filt root p else [] := by
  unfold R
  rw [ancestors_cons h hp]
  conv => lhs; unfold restUp
  rw [if_neg hne]

theorem VBn_append_R {s : Store} (h : WF s) {w filt : Nat} {root x q : NodeId} (hne : x ≠ root)
    (hq : parentOf s x = some q) :
    VBl s w filt (x :: sibsAfter s x) ++ (if verdict s w filt q = .skip then R s w filt root q else []) =
      VBn s w filt x ++ R s w filt root x := by
  rw [VBl_cons h, R_unfold h hne hq, List.append_assoc]

/-- getFirstChild(n) of the walker, declaratively.  As in the code (getFirstChild hands over to getNextSibling), below a
skipped `n` whose children lead to no visible node the search runs on past the subtree of `n`: right for a nested call, but
firstChild() from a skipped current node should give null (DOM Traversal 1.2). -/
def specFC (s : Store) (w filt root n : Nat) : Option NodeId :=
  if (kids s n).isEmpty then none
  else (VBl s w filt (kids s n) ++ (if verdict s w filt n = .skip then R s w filt root n else [])).head?

/-- getFirstChild and getNextSibling treat a candidate `c` (a first child, a next sibling) alike: once the nested calls
return what they should, both return the first visible node among `c`, what is below it and what follows it -/
theorem candidate_spec (s : Store) (w filt : Nat) (root c : NodeId) :
    (match verdict s w filt c with
      | .accept => some c
      | .skip => if !(kids s c).isEmpty then specFC s w filt root c else (R s w filt root c).head?
      | .reject => (R s w filt root c).head?) = (VBn s w filt c ++ R s w filt root c).head? ∧
    (match verdict s w filt c with
      | .accept => some c
      | .skip =>
        match specFC s w filt root c with
        | none => if (kids s c).isEmpty then (R s w filt root c).head? else none
        | some d => some d
      | .reject => (R s w filt root c).head?) = (VBn s w filt c ++ R s w filt root c).head? := by
  unfold VBn specFC
  cases verdict s w filt c with
  | accept => exact ⟨rfl, rfl⟩
  | reject => exact ⟨rfl, rfl⟩
  | skip =>
    cases kids s c with
    | nil => exact ⟨rfl, rfl⟩
    | cons d t =>
      refine ⟨rfl, ?_⟩
      simp only [List.isEmpty_cons, Bool.false_eq_true, if_true, if_false]
      cases (VBl s w filt (d :: t) ++ R s w filt root c).head? <;> rfl

/-- The nested calls of getFirstChild / getNextSibling follow the walk that enters and leaves every node of the root's
subtree once: getFirstChild(n) runs when `n` is entered, getNextSibling(n) when it is left, and each calls only what runs
later.  The measures count the steps of that walk still to come.  Once `n` is left (`muNS`) the count follows the recursion
of `restUp`, without the verdicts and up to the root: two steps for every node in the subtree of a later sibling, one for
leaving the parent, then what is to come once the parent is left.  Once `n` is entered (`muFC`) there are two more for every node below
`n` and one for leaving `n`. -/
def stepsUp (s : Store) (root : NodeId) : List NodeId → Nat
  | [] => 0
  | n :: anc => if n = root then 0 else 2 * ((sibsAfter s n).flatMap (docOrder s)).length + 1 + stepsUp s root anc

def muNS (s : Store) (root n : NodeId) : Nat := stepsUp s root (n :: ancestors s n)
def muFC (s : Store) (root n : NodeId) : Nat := 2 * ((kids s n).flatMap (docOrder s)).length + 1 + muNS s root n

theorem muNS_root (s : Store) (root : NodeId) : muNS s root root = 0 := by
  unfold muNS stepsUp; rw [if_pos rfl]

theorem muNS_unfold {s : Store} (h : WF s) {root n p : NodeId} (hne : n ≠ root) (hp : parentOf s n = some p) :
    muNS s root n = 2 * ((sibsAfter s n).flatMap (docOrder s)).length + 1 + muNS s root p := by
  unfold muNS
  rw [ancestors_cons h hp]
  conv => lhs; unfold stepsUp
  rw [if_neg hne]

theorem muNS_lt_muFC (s : Store) (root n : NodeId) : muNS s root n < muFC s root n :=
  Nat.lt_add_of_pos_left (Nat.succ_pos _)

theorem parent_in_tree {s : Store} (h : WF s) {root n : NodeId} (hn : n ∈ docOrder s root) (hne : n ≠ root) :
    ∃ p, parentOf s n = some p ∧ p ∈ docOrder s root := by
  cases mem_docOrder_anc h root n hn with
  | refl => exact absurd rfl hne
  | step hq ha => exact ⟨_, hq, anc_mem_docOrder h ha⟩

theorem kid_facts {s : Store} (h : WF s) {root q x : NodeId} {l1 l2 : List NodeId} (hq : q ∈ docOrder s root)
    (hl : kids s q = l1 ++ x :: l2) :
    x ∈ docOrder s root ∧ x ≠ root ∧ parentOf s x = some q ∧ sibsAfter s x = l2 ∧ nextSib s x = l2.head? ∧
    muNS s root x = 2 * (l2.flatMap (docOrder s)).length + 1 + muNS s root q ∧
    muFC s root x + 2 * (l1.flatMap (docOrder s)).length + 1 = muFC s root q := by
  have hxk : x ∈ kids s q := by rw [hl]; exact List.mem_append_right _ (List.mem_cons_self ..)
  have hp := parent_of_kid h hxk
  have h1 : x ∉ l1 := by have := kids_nodup h q; rw [hl] at this; exact (nodup_middle this).1
  have hxr : x ≠ root := fun e => not_anc_parent h hp (mem_docOrder_anc h x q (e ▸ hq))
  have hsa := sibsAfter_split hp hl h1
  have hm := muNS_unfold (root := root) h hxr hp
  rw [hsa] at hm
  refine ⟨anc_mem_docOrder h (.step hp (mem_docOrder_anc h root q hq)), hxr, hp, hsa, nextSib_split hp hl h1, hm, ?_⟩
  unfold muFC
  rw [hm, hl, List.flatMap_append, List.flatMap_cons, docOrder_unfold h x]
  simp only [List.length_append, List.length_cons]
  omega

/-- the walk from a node of the root's subtree is a part of the walk from the root, which has two steps for each node -/
theorem muFC_lt_fuel {s : Store} (h : WF s) {root n : NodeId} (hn : n ∈ docOrder s root) : muFC s root n < twFuel s := by
  have key : muFC s root n ≤ muFC s root root := by
    have ha := mem_docOrder_anc h root n hn
    clear hn
    induction ha with
    | refl => exact Nat.le_refl _
    | @step x q hq haq ih =>
      obtain ⟨l1, l2, hl, _⟩ := kids_split h hq
      obtain ⟨_, _, _, _, _, _, hm⟩ := kid_facts h (anc_mem_docOrder h haq) hl
      omega
  have h1 := docOrder_length_le h root
  rw [docOrder_unfold h root, List.length_cons] at h1
  unfold muFC at key ⊢
  rw [muNS_root] at key
  unfold twFuel
  rw [Nat.mul_add, Nat.add_mul]
  omega

/-- The walker's acceptNode gives the verdicts of DOM Traversal 1.2 (whatToShow first, then the filter).  This holds for
the acceptNode of that rule (`asIs = false`) always (`XV.Props.C14.walker_std_of_rule`) and for the acceptNode of the code as
it is when the filter does not FILTER_REJECT a node that whatToShow hides (`XV.Props.C14.walker_std_of_code`, `NoHiddenReject`). -/
def StdJudge (s : Store) (wk : Walker) : Prop := ∀ x, wk.judge s x = verdict s wk.w wk.filt x

/-- side condition under which the acceptNode of the code agrees with DOM Traversal 1.2 -/
def NoHiddenReject (s : Store) (w filt : Nat) : Prop :=
  ∀ x r, s.get x = some r → shown w r.kind = false → filterVerdict filt r ≠ .reject

theorem head?_append_of_ne_nil {α : Type} (a b : List α) : (a ++ b).head? = a.head?.or b.head? := List.head?_append

theorem twFirstChild_succ (s : Store) (wk : Walker) (f : Nat) (n : NodeId) :
    twFirstChild s wk (f + 1) n =
      match firstKid s n with
      | none => none
      | some c =>
        match wk.judge s c with
        | .accept => some c
        | .skip => if !(kids s c).isEmpty then twFirstChild s wk f c else twNextSibling s wk f c
        | .reject => twNextSibling s wk f c := by rfl

theorem twNextSibling_succ (s : Store) (wk : Walker) (f : Nat) (n : NodeId) :
    twNextSibling s wk (f + 1) n =
      if n = wk.root then none else
      match nextSib s n with
      | none =>
        match parentOf s n with
        | none => none
        | some p => if wk.judge s p = .skip then twNextSibling s wk f p else none
      | some m =>
        match wk.judge s m with
        | .accept => some m
        | .skip =>
          match twFirstChild s wk f m with
          | none => if (kids s m).isEmpty then twNextSibling s wk f m else none
          | some c => some c
        | .reject => twNextSibling s wk f m := by rfl

/-- getFirstChild / getNextSibling against `specFC` / `R`, for every fuel above the measure: a nested call is always on a
node of smaller measure, so the induction on the fuel covers it. -/
theorem tw_forward {s : Store} (h : WF s) (wk : Walker) (hj : StdJudge s wk) : ∀ f,
    (∀ n, n ∈ docOrder s wk.root → muFC s wk.root n < f →
      twFirstChild s wk f n = specFC s wk.w wk.filt wk.root n) ∧
    (∀ n, n ∈ docOrder s wk.root → muNS s wk.root n < f →
      twNextSibling s wk f n = (R s wk.w wk.filt wk.root n).head?) := by
  intro f
  induction f with
  | zero => exact ⟨fun _ _ hf => absurd hf (Nat.not_lt_zero _), fun _ _ hf => absurd hf (Nat.not_lt_zero _)⟩
  | succ f ih =>
    obtain ⟨ihFC, ihNS⟩ := ih
    constructor
    · intro n hn hf
      rw [twFirstChild_succ]
      unfold specFC firstKid
      cases hk : kids s n with
      | nil => rfl
      | cons c rest =>
        obtain ⟨hc, hcr, hpc, hsa, _, _, mc⟩ := kid_facts h hn (l1 := []) hk
        have := muNS_lt_muFC s wk.root c
        simp only [List.head?_cons, List.isEmpty_cons, Bool.false_eq_true, if_false]
        rw [hj c, ihFC c hc (by omega), ihNS c hc (by omega), ← hsa, VBn_append_R h hcr hpc]
        exact (candidate_spec s _ _ _ c).1
    · intro n hn hf
      rw [twNextSibling_succ]
      by_cases hr : n = wk.root
      · rw [if_pos hr, hr, R_root]; rfl
      · obtain ⟨p, hq, hp⟩ := parent_in_tree h hn hr
        obtain ⟨l1, l2, hl, _, _⟩ := kids_split h hq
        obtain ⟨_, _, _, hsa, hns, mn, _⟩ := kid_facts h hp hl
        rw [if_neg hr, hns, R_unfold h hr hq, hsa]
        cases l2 with
        | nil =>
          simp only [List.head?_nil, hq, VBl_nil, List.nil_append]
          rw [hj p]
          by_cases hv : verdict s wk.w wk.filt p = .skip
          · rw [if_pos hv, if_pos hv]
            exact ihNS p hp (by omega)
          · rw [if_neg hv, if_neg hv]; rfl
        | cons m l2' =>
          obtain ⟨hm, hmr, hpm, hsam, _, mm, _⟩ :=
            kid_facts h hp (l1 := l1 ++ [n]) (l2 := l2') (x := m) (by rw [hl, List.append_assoc]; rfl)
          -- the steps to come once `n` is left begin with those of the subtree of `m`
          have m1 : muFC s wk.root m < muNS s wk.root n := by
            unfold muFC
            rw [mn, mm, List.flatMap_cons, List.length_append, docOrder_unfold h m, List.length_cons]
            omega
          have := muNS_lt_muFC s wk.root m
          simp only [List.head?_cons]
          rw [hj m, ihFC m hm (by omega), ihNS m hm (by omega), ← hsam, VBn_append_R h hmr hpm]
          exact (candidate_spec s _ _ _ m).2

theorem tw_spec {s : Store} (h : WF s) (wk : Walker) (hj : StdJudge s wk) {n : NodeId} (hn : n ∈ docOrder s wk.root) :
    twFirstChild s wk (twFuel s) n = specFC s wk.w wk.filt wk.root n ∧
    twNextSibling s wk (twFuel s) n = (R s wk.w wk.filt wk.root n).head? := by
  have hf := muFC_lt_fuel h hn
  exact ⟨(tw_forward h wk hj _).1 n hn hf, (tw_forward h wk hj _).2 n hn (Nat.lt_trans (muNS_lt_muFC ..) hf)⟩

theorem twParent_root (s : Store) (wk : Walker) : twParent s wk wk.root = none := by
  unfold twParent
  cases ancestors s wk.root with
  | nil => rfl
  | cons p ps => unfold twParentChain; rw [if_pos rfl]

theorem twParent_unfold {s : Store} (h : WF s) (wk : Walker) {n p : NodeId} (hne : n ≠ wk.root)
    (hp : parentOf s n = some p) :
    twParent s wk n = if wk.judge s p = .accept then some p else twParent s wk p := by
  unfold twParent
  rw [ancestors_cons h hp]
  conv => lhs; unfold twParentChain
  rw [if_neg hne]

/-- what C14 states of getParentNode(node); that it is the nearest accepted ancestor is not proved -/
theorem twParent_spec {s : Store} (h : WF s) (wk : Walker) (hj : StdJudge s wk) {n a : NodeId}
    (hn : AncOrSelf s wk.root n) :
    twParent s wk n = some a → AncOrSelf s wk.root a ∧ verdict s wk.w wk.filt a = .accept := by
  induction hn with
  | refl => rw [twParent_root]; exact fun hh => nomatch hh
  | @step x q hq ha ih =>
    have hxr : x ≠ wk.root := fun e => not_anc_parent h hq (e ▸ ha)
    rw [twParent_unfold h wk hxr hq, hj]
    by_cases hv : verdict s wk.w wk.filt q = .accept
    · rw [if_pos hv]; intro hh; cases hh; exact ⟨ha, hv⟩
    · rw [if_neg hv]; exact ih

theorem twClimb_root (s : Store) (wk : Walker) (f : Nat) : twClimb s wk f wk.root = none := by
  cases f with
  | zero => rfl
  | succ f => unfold twClimb; rw [twParent_root]

theorem twClimb_unfold {s : Store} (h : WF s) (wk : Walker) {n p : NodeId} (hne : n ≠ wk.root)
    (hp : parentOf s n = some p) (f : Nat) :
    twClimb s wk (f + 1) n =
      if wk.judge s p = .accept then (twNextSibling s wk (twFuel s) p).or (twClimb s wk f p)
      else twClimb s wk (f + 1) p := by
  conv => lhs; unfold twClimb
  rw [twParent_unfold h wk hne hp]
  by_cases hv : wk.judge s p = .accept
  · rw [if_pos hv, if_pos hv]
    simp only
    cases twNextSibling s wk (twFuel s) p <;> rfl
  · rw [if_neg hv, if_neg hv]
    conv => rhs; unfold twClimb

theorem ancestorsFuel_length (s : Store) : ∀ f x, (ancestorsFuel s f x).length ≤ f := by
  intro f
  induction f with
  | zero => intro x; exact Nat.le_refl 0
  | succ f ih =>
    intro x
    unfold ancestorsFuel
    cases parentOf s x with
    | none => exact Nat.zero_le _
    | some p => exact Nat.succ_le_succ (ih p)

theorem takeWhile_anc {s : Store} (h : WF s) {n c x : NodeId} (hc : parentOf s c = some n) (ha : AncOrSelf s c x) :
    x ≠ c → (ancestors s x).takeWhile (· != n) = (ancestors s x).takeWhile (· != c) ++ [c] := by
  induction ha with
  | refl => intro hne; exact absurd rfl hne
  | @step x q hq haq ih =>
    intro _
    have hqn : q ≠ n := fun e => not_anc_parent h hc (e ▸ haq)
    rw [ancestors_cons h hq, List.takeWhile_cons_of_pos (p := (· != n)) (bne_iff_ne.mpr hqn)]
    by_cases hqc : q = c
    · rw [hqc, List.takeWhile_cons_of_neg (p := (· != c)) (by simp), ancestors_cons h hc,
        List.takeWhile_cons_of_neg (by simp)]
      rfl
    · rw [List.takeWhile_cons_of_pos (p := (· != c)) (bne_iff_ne.mpr hqc), ih hqc]
      rfl

theorem visibleP_child {s : Store} (h : WF s) (w filt : Nat) {n c x : NodeId} (hc : parentOf s c = some n)
    (ha : AncOrSelf s c x) (hne : x ≠ c) :
    visibleP s w filt n x = (visibleP s w filt c x && (verdict s w filt c != .reject)) := by
  unfold visibleP
  rw [takeWhile_anc h hc ha hne, List.all_append]
  simp [Bool.and_assoc]

theorem visibleP_self {s : Store} (h : WF s) (w filt : Nat) {n c : NodeId} (hc : parentOf s c = some n) :
    visibleP s w filt n c = (verdict s w filt c == .accept) := by
  unfold visibleP
  rw [ancestors_cons h hc]
  simp

theorem VBl_eq_filter {s : Store} (h : WF s) (w filt : Nat) :
    ∀ n, VBl s w filt (kids s n) = ((kids s n).flatMap (docOrder s)).filter (visibleP s w filt n) := by
  refine down_induction h (fun n => VBl s w filt (kids s n) =
    ((kids s n).flatMap (docOrder s)).filter (visibleP s w filt n)) ?_
  intro n ih
  rw [VBl_eq_flatMap h, List.filter_flatMap]
  refine flatMap_congr _ _ _ fun c hc => ?_
  have hpc := parent_of_kid h hc
  -- below `c`, visible from `n` = visible from `c`, provided `c` is not rejected
  have hrest : ((kids s c).flatMap (docOrder s)).filter (visibleP s w filt n) =
      (VBl s w filt (kids s c)).filter (fun _ => verdict s w filt c != .reject) := by
    rw [ih c hc, List.filter_filter]
    refine List.filter_congr fun x hx => ?_
    obtain ⟨k, hk, hxk⟩ := List.mem_flatMap.mp hx
    have hkx := mem_docOrder_anc h k x hxk
    rw [visibleP_child h w filt hpc (anc_trans (anc_of_kid h hk) hkx)
      fun e => not_anc_parent h (parent_of_kid h hk) (e ▸ hkx), Bool.and_comm]
  rw [docOrder_unfold h c, List.filter_cons, visibleP_self h w filt hpc, hrest]
  unfold VBn
  cases verdict s w filt c with
  | accept => exact congrArg (c :: ·) (List.filter_eq_self.mpr fun _ _ => rfl).symm
  | skip => exact (List.filter_eq_self.mpr fun _ _ => rfl).symm
  | reject => exact (List.filter_eq_nil_iff.mpr fun _ _ => Bool.false_ne_true).symm

theorem visibleOrder_eq_filter {s : Store} (h : WF s) (w filt : Nat) (root : NodeId) :
    visibleOrder s w filt root = (docOrder s root).tail.filter (visibleP s w filt root) := by
  show VBl s w filt (kids s root) = _
  rw [VBl_eq_filter h w filt root, docOrder_unfold h root]
  rfl

theorem VBl_root_nodup {s : Store} (h : WF s) (w filt : Nat) (root : NodeId) :
    (root :: VBl s w filt (kids s root)).Nodup := by
  have hnd := docOrder_nodup h root
  rw [docOrder_unfold h root] at hnd
  rw [VBl_eq_filter h w filt root]
  exact hnd.sublist (List.Sublist.cons_cons _ List.filter_sublist)

theorem mem_takeWhile_anc {s : Store} (h : WF s) {root a x : NodeId} (ha : AncOrSelf s a x) (hne : a ≠ x)
    (hra : AncOrSelf s root a) (har : a ≠ root) : a ∈ (ancestors s x).takeWhile (· != root) := by
  induction ha with
  | refl => exact absurd rfl hne
  | @step x q hq haq ih =>
    have hqr : (q != root) = true := bne_iff_ne.mpr fun e => har (anc_antisymm h (e ▸ haq) hra)
    rw [ancestors_cons h hq, List.takeWhile_cons, hqr]
    by_cases e : a = q
    · exact e ▸ List.mem_cons_self ..
    · exact List.mem_cons_of_mem _ (ih e)

/-- the half of `visibleP` that looks at the ancestors, as a proposition: no node strictly between the root and `x` is
rejected -/
def OKpath (s : Store) (w filt root x : Nat) : Prop :=
  ∀ a, AncOrSelf s a x → a ≠ x → AncOrSelf s root a → a ≠ root → verdict s w filt a ≠ .reject

theorem mem_visibleOrder {s : Store} (h : WF s) (w filt : Nat) (root x : NodeId) (hx : x ∈ visibleOrder s w filt root) :
    AncOrSelf s root x ∧ x ≠ root ∧ verdict s w filt x = .accept ∧ OKpath s w filt root x := by
  rw [visibleOrder_eq_filter h, List.mem_filter, mem_tail_docOrder h] at hx
  obtain ⟨⟨hne, hrx⟩, hp⟩ := hx
  unfold visibleP at hp
  rw [Bool.and_eq_true, beq_iff_eq, List.all_eq_true] at hp
  exact ⟨hrx, hne, hp.1, fun a hax hax' hra har => bne_iff_ne.mp (hp.2 a (mem_takeWhile_anc h hax hax' hra har))⟩

theorem okpath_parent {s : Store} (h : WF s) {w filt : Nat} {root x q : NodeId} (hq : parentOf s x = some q)
    (hroot : AncOrSelf s root q) (hok : OKpath s w filt root x) :
    OKpath s w filt root q ∧ (q ≠ root → verdict s w filt q ≠ .reject) :=
  ⟨fun a ha _ hra har => hok a (.step hq ha) (fun e => not_anc_parent h hq (e ▸ ha)) hra har,
    fun hqr => hok q (.step hq .refl) (fun e => not_anc_parent h hq (e ▸ .refl)) hroot hqr⟩

/-- The filtered counterpart of `block_decomp`: a node `x` below the root with no rejected node above it splits the logical
view into what precedes its block, the block and what follows; and what nextNode() does when nothing is below `x`,
getNextSibling(x) and failing that the loop over the accepted ancestors, finds the head of what follows. -/
theorem visible_decomp {s : Store} (h : WF s) (wk : Walker) (hj : StdJudge s wk) {x : NodeId}
    (ha : AncOrSelf s wk.root x) :
    x ≠ wk.root → OKpath s wk.w wk.filt wk.root x →
    ∃ pre post, VBl s wk.w wk.filt (kids s wk.root) = pre ++ VBn s wk.w wk.filt x ++ post ∧
      ∀ f, (ancestors s x).length ≤ f →
        (R s wk.w wk.filt wk.root x).head?.or (twClimb s wk (f + 1) x) = post.head? := by
  induction ha with
  | refl => intro hne; exact absurd rfl hne
  | @step x q hq haq ih =>
    intro hxr hok
    obtain ⟨l1, l2, hl, h1, _⟩ := kids_split h hq
    obtain ⟨hokq, hvq⟩ := okpath_parent h hq haq hok
    have hkq : VBl s wk.w wk.filt (kids s q) =
        VBl s wk.w wk.filt l1 ++ VBn s wk.w wk.filt x ++ VBl s wk.w wk.filt l2 := by
      rw [hl, VBl_append h, VBl_cons h, List.append_assoc]
    have hcl : ∀ f, twClimb s wk (f + 1) x =
        if verdict s wk.w wk.filt q = .accept then (R s wk.w wk.filt wk.root q).head?.or (twClimb s wk f q)
        else twClimb s wk (f + 1) q := fun f => by
      rw [twClimb_unfold h wk hxr hq, hj, (tw_spec h wk hj (anc_mem_docOrder h haq)).2]
    rw [R_unfold h hxr hq, sibsAfter_split hq hl h1, ancestors_cons h hq, List.length_cons]
    by_cases hqr : q = wk.root
    · subst hqr
      refine ⟨VBl s wk.w wk.filt l1, VBl s wk.w wk.filt l2, hkq, fun f _ => ?_⟩
      rw [hcl, R_root, twClimb_root, twClimb_root]
      simp only [ite_self, List.append_nil, List.head?_nil, Option.or_none]
    · obtain ⟨preq, postq, hpre, hclimb⟩ := ih hqr hokq
      have hv := hvq hqr
      rw [hpre]
      -- `R x` ends with the scope: below an accepted `q` the search goes on in the loop, which tries `q` first, below a
      -- skipped `q` in getNextSibling itself, and the loop passes `q` over
      cases hvv : verdict s wk.w wk.filt q with
      | reject => exact absurd hvv hv
      | accept =>
        refine ⟨preq ++ q :: VBl s wk.w wk.filt l1, VBl s wk.w wk.filt l2 ++ postq, ?_, fun f hf => ?_⟩
        · simp only [VBn_accept hvv, hkq, List.append_assoc, List.cons_append]
        · obtain ⟨f, rfl⟩ := Nat.exists_eq_succ_of_ne_zero (Nat.ne_of_gt (Nat.zero_lt_of_lt hf))
          simp only [hcl, hvv, reduceCtorEq, if_true, if_false, List.append_nil]
          rw [hclimb f (Nat.le_of_succ_le_succ hf), List.head?_append]
      | skip =>
        refine ⟨preq ++ VBl s wk.w wk.filt l1, VBl s wk.w wk.filt l2 ++ postq, ?_, fun f hf => ?_⟩
        · simp only [VBn_skip hvv, hkq, List.append_assoc]
        · simp only [hcl, hvv, reduceCtorEq, if_true, if_false]
          rw [List.head?_append, List.head?_append, Option.or_assoc, hclimb f (Nat.le_of_succ_le hf)]

/-- the current node is the root or a visible node of the logical view -/
def VisibleCur (s : Store) (wk : Walker) : Prop :=
  wk.cur = wk.root ∨
    (AncOrSelf s wk.root wk.cur ∧ wk.cur ≠ wk.root ∧ verdict s wk.w wk.filt wk.cur = .accept ∧
      OKpath s wk.w wk.filt wk.root wk.cur)

theorem moveTo_snd (wk : Walker) (r : Option NodeId) : (moveTo wk r).2 = r := by
  unfold moveTo; cases r <;> rfl

theorem moveTo_fst (wk : Walker) (r : Option NodeId) :
    (moveTo wk r).1 = { wk with cur := r.getD wk.cur } := by
  unfold moveTo; cases r <;> rfl

theorem nextNode_eq (s : Store) (wk : Walker) :
    wk.nextNode s = moveTo wk ((twFirstChild s wk (twFuel s) wk.cur).or
      ((twNextSibling s wk (twFuel s) wk.cur).or (twClimb s wk (s.size + 1) wk.cur))) := by
  unfold Walker.nextNode
  cases twFirstChild s wk (twFuel s) wk.cur with
  | some n => rfl
  | none =>
    cases twNextSibling s wk (twFuel s) wk.cur with
    | some n => rfl
    | none => rfl

theorem nextNode_value (s : Store) (wk : Walker) :
    (wk.nextNode s).2 =
      (twFirstChild s wk (twFuel s) wk.cur).or ((twNextSibling s wk (twFuel s) wk.cur).or
        (twClimb s wk (s.size + 1) wk.cur)) ∧
    (wk.nextNode s).1 = { wk with cur := ((wk.nextNode s).2).getD wk.cur } := by
  rw [nextNode_eq, moveTo_snd, moveTo_fst]
  exact ⟨rfl, rfl⟩

theorem specFC_of_visibleCur {s : Store} {wk : Walker} (hcur : VisibleCur s wk) :
    specFC s wk.w wk.filt wk.root wk.cur = (VBl s wk.w wk.filt (kids s wk.cur)).head? := by
  unfold specFC
  cases hk : kids s wk.cur with
  | nil => rfl
  | cons c t =>
    rcases hcur with e | ⟨_, _, hv, _⟩
    · rw [e, R_root]; simp only [ite_self, List.append_nil]; rfl
    · rw [hv]; simp only [reduceCtorEq, if_false, List.append_nil]; rfl

theorem walker_nextNode_spec {s : Store} (h : WF s) (wk : Walker) (hj : StdJudge s wk) (hcur : VisibleCur s wk) :
    (wk.nextNode s).2 = succIn (wk.root :: visibleOrder s wk.w wk.filt wk.root) wk.cur := by
  have hcT : wk.cur ∈ docOrder s wk.root := by
    rcases hcur with e | ⟨ha, _⟩
    · rw [e]; exact mem_docOrder_self h _
    · exact anc_mem_docOrder h ha
  rw [nextNode_eq, moveTo_snd, (tw_spec h wk hj hcT).1, (tw_spec h wk hj hcT).2, specFC_of_visibleCur hcur]
  show _ = succIn (wk.root :: VBl s wk.w wk.filt (kids s wk.root)) wk.cur
  rcases hcur with e | ⟨ha, hne, hv, hok⟩
  · rw [e, R_root, twClimb_root]
    unfold succIn
    rw [if_pos rfl]
    simp only [List.head?_nil, Option.or_none]
  · obtain ⟨pre, post, hpre, hcl⟩ := visible_decomp h wk hj ha hne hok
    have hL : wk.root :: VBl s wk.w wk.filt (kids s wk.root) =
        (wk.root :: pre) ++ wk.cur :: (VBl s wk.w wk.filt (kids s wk.cur) ++ post) := by
      rw [hpre, VBn_accept hv]; simp only [List.append_assoc, List.cons_append]
    have hnd := VBl_root_nodup h wk.w wk.filt wk.root
    rw [hL] at hnd ⊢
    rw [succIn_split _ _ _ (nodup_middle hnd).1, hcl _ (ancestorsFuel_length s _ _), List.head?_append]

/-- repeated nextNode(), at most `n` times -/
def walkFrom (s : Store) : Nat → Walker → List NodeId
  | 0, _ => []
  | n + 1, wk =>
    match wk.nextNode s with
    | (wk', some x) => x :: walkFrom s n wk'
    | (_, none) => []

theorem nextNode_of_split {s : Store} (h : WF s) (wk : Walker) (hj : StdJudge s wk) {pre rest : List NodeId}
    (hL : wk.root :: visibleOrder s wk.w wk.filt wk.root = pre ++ wk.cur :: rest) :
    wk.nextNode s = ({ wk with cur := rest.head?.getD wk.cur }, rest.head?) := by
  have hnd : (wk.root :: visibleOrder s wk.w wk.filt wk.root).Nodup := VBl_root_nodup h wk.w wk.filt wk.root
  have hvis : VisibleCur s wk := by
    cases pre with
    | nil => exact Or.inl (List.cons.inj hL).1.symm
    | cons a t =>
      refine Or.inr (mem_visibleOrder h _ _ _ _ ?_)
      rw [(List.cons.inj hL).2]
      exact List.mem_append_right _ (List.mem_cons_self ..)
  have hv := nextNode_value s wk
  have hsp := walker_nextNode_spec h wk hj hvis
  rw [hL] at hnd hsp
  rw [succIn_split pre rest wk.cur (nodup_middle hnd).1] at hsp
  rw [hsp] at hv
  exact Prod.ext hv.2 hsp

theorem walkFrom_spec {s : Store} (h : WF s) : ∀ (rest pre : List NodeId) (wk : Walker) (n : Nat),
    StdJudge s wk → wk.root :: visibleOrder s wk.w wk.filt wk.root = pre ++ wk.cur :: rest → rest.length ≤ n →
    walkFrom s n wk = rest := by
  intro rest
  induction rest with
  | nil =>
    intro pre wk n hj hL _
    cases n with
    | zero => rfl
    | succ n => unfold walkFrom; rw [nextNode_of_split h wk hj hL]; rfl
  | cons y rest' ih =>
    intro pre wk n hj hL hn
    cases n with
    | zero => exact absurd hn (Nat.not_succ_le_zero _)
    | succ n =>
      unfold walkFrom
      rw [nextNode_of_split h wk hj hL]
      show y :: walkFrom s n { wk with cur := y } = _
      -- `StdJudge` does not look at `cur`
      rw [ih (pre ++ [wk.cur]) { wk with cur := y } n hj
        (by rw [List.append_assoc]; exact hL) (Nat.le_of_succ_le_succ hn)]

end XV.Lemmas.ViewsWalker
