/-
HexBin and Base64 against the Spec.  The generated tables, shift counts and masks are turned into the Spec's value
functions and plain arithmetic first; nothing after that looks at a table.  Hex: each of the three entry points is an
expression in `hexValue`.  Base64: `decode` is the white-space handling of its mode followed by `decodeQuads`, and the
strings `decodeQuads` accepts, the strings `isB64Quartets` accepts and the canonical encodings `b64Encode bs` of the
non-empty octet strings are the same set, on which `decodeQuads` inverts `b64Encode`.
-/
import XV.Model.Codec
import XV.Spec.Codec
namespace XV.Lemmas.Codec
open XV.Spec.Codec XV.Model.Codec XV.Gen.Codec

theorem getD_map_range (f : Nat → Nat) (n c d : Nat) (h : c < n) : ((List.range n).map f).getD c d = f c := by
  rw [List.getD_eq_getElem?_getD, List.getElem?_map, List.getElem?_range h]; rfl

-- The two character-to-value tables are compared once, as wholes, with the lists of the Spec's values; the alphabet and
-- the Spec's own tables pointwise, by evaluation.  What is evaluated carries the bound of its table (`_spec`,
-- `b64Val_tab`); the proofs use the forms without a bound (`inv_eq`, `isB04_eq`, `isB16_eq`, `b64Val_bound`).
theorem hexTable_eq : hexNumberTable = (List.range 255).map (fun c => (hexDigitVal c).getD 0xFF) := by decide +kernel
theorem invTable_eq : base64Inverse = (List.range 255).map (fun c => (b64Val c).getD 0xFF) := by decide +kernel

theorem hexNum_spec (c : Nat) (h : c < 255) : hexNum c = (hexDigitVal c).getD 0xFF := by
  unfold hexNum; rw [hexTable_eq]; exact getD_map_range _ _ _ _ h
theorem inv_spec (c : Nat) (h : c < 255) : inv c = (b64Val c).getD 0xFF := by
  unfold inv; rw [invTable_eq]; exact getD_map_range _ _ _ _ h
theorem alpha_spec : ∀ v, v < 64 → alpha v = b64Char v := by decide +kernel
theorem consts_spec : hexBaseLength = 255 ∧ b64BaseLength = 255 ∧ fourByte = 4 ∧ base64Padding = pad ∧
    quadsPerLine = 15 ∧ chLF = 0xA ∧ chSpace = sp ∧ pad2Mask = 15 ∧ pad1Mask = 3 := by decide
theorem b64_inverse : ∀ v, v < 64 → b64Val (b64Char v) = some v := by decide +kernel
theorem b64Val_tab : ∀ c, c < 256 → ∀ v, b64Val c = some v → v < 64 ∧ b64Char v = c := by decide +kernel
theorem isB04_spec : ∀ c, c < 256 → isB04 c = (match b64Val c with | some v => v % 16 == 0 | none => false) := by
  decide +kernel
theorem isB16_spec : ∀ c, c < 256 → isB16 c = (match b64Val c with | some v => v % 4 == 0 | none => false) := by
  decide +kernel

theorem shl_or (a b i : Nat) (h : b < 2 ^ i) : a <<< i ||| b = a * 2 ^ i + b := by
  rw [← Nat.shiftLeft_add_eq_or_of_lt h, Nat.shiftLeft_eq]

theorem set1_spec (v1 v2 : Nat) (h : v2 < 64) : set1stOctet v1 v2 = (v1 * 4 + v2 / 16) % 256 := by
  show ((v1 <<< 2) ||| (v2 >>> 4)) % 256 = _
  rw [Nat.shiftRight_eq_div_pow, shl_or _ _ _ (by omega)]
theorem set2_spec (v2 v3 : Nat) (h : v3 < 64) : set2ndOctet v2 v3 = (v2 * 16 + v3 / 4) % 256 := by
  show ((v2 <<< 4) ||| (v3 >>> 2)) % 256 = _
  rw [Nat.shiftRight_eq_div_pow, shl_or _ _ _ (by omega)]
theorem set3_spec (v3 v4 : Nat) (h : v4 < 64) : set3rdOctet v3 v4 = (v3 * 64 + v4) % 256 := by
  show ((v3 <<< 6) ||| v4) % 256 = _
  rw [shl_or _ _ _ (by omega)]
theorem split1_spec (a : Nat) : split1stOctet a = (a / 4, a % 4 * 16) := by
  show (a >>> 2, ((a &&& 2 ^ 2 - 1) <<< 4) % 256) = _
  rw [Nat.shiftRight_eq_div_pow, Nat.and_two_pow_sub_one_eq_mod, Nat.shiftLeft_eq]
  congr 1; omega
theorem split2_spec (x b : Nat) (hb : b < 256) : split2ndOctet b (x * 16) = (x * 16 + b / 16, b % 16 * 4) := by
  show (x * 2 ^ 4 ||| (b >>> 4), ((b &&& 2 ^ 4 - 1) <<< 2) % 256) = _
  rw [Nat.shiftRight_eq_div_pow, Nat.and_two_pow_sub_one_eq_mod, Nat.shiftLeft_eq, ← Nat.shiftLeft_eq x,
    shl_or _ _ _ (by omega), Nat.shiftLeft_eq]
  congr 1; omega
theorem split3_spec (y c : Nat) (hc : c < 256) : split3rdOctet c (y * 4) = (y * 4 + c / 64, c % 64) := by
  show (y * 2 ^ 2 ||| (c >>> 6), c &&& 2 ^ 6 - 1) = _
  rw [Nat.shiftRight_eq_div_pow, Nat.and_two_pow_sub_one_eq_mod, ← Nat.shiftLeft_eq y, shl_or _ _ _ (by omega),
    Nat.shiftLeft_eq]
theorem mask2_spec (v : Nat) : ((v &&& pad2Mask) != 0) = (v % 16 != 0) := by
  show ((v &&& 2 ^ 4 - 1) != 0) = _
  rw [Nat.and_two_pow_sub_one_eq_mod]
theorem mask1_spec (v : Nat) : ((v &&& pad1Mask) != 0) = (v % 4 != 0) := by
  show ((v &&& 2 ^ 2 - 1) != 0) = _
  rw [Nat.and_two_pow_sub_one_eq_mod]

theorem allBytes_nil : AllBytes [] := fun _ h => nomatch h
theorem allBytes_cons {b : Nat} {r : List Nat} : AllBytes (b :: r) ↔ b < 256 ∧ AllBytes r := List.forall_mem_cons

theorem hexDigitVal_lt (c v : Nat) (h : hexDigitVal c = some v) : v < 16 ∧ c < 255 := by
  revert h
  fun_cases hexDigitVal c
  case case4 => exact nofun
  all_goals intro h; injection h; omega

theorem hexNum_of (c v : Nat) (h : hexDigitVal c = some v) : hexNum c = v := by
  rw [hexNum_spec c (hexDigitVal_lt c v h).2, h]; rfl

theorem isHex_spec (c : Nat) : isHex c = (hexDigitVal c).isSome := by
  unfold isHex
  cases hv : hexDigitVal c with
  | none =>
    split
    · rfl
    · rename_i h; rw [hexNum_spec c (by have : ¬ c ≥ 255 := h; omega), hv]; rfl
  | some v =>
    obtain ⟨hv16, hc⟩ := hexDigitVal_lt c v hv
    rw [if_neg (by show ¬ c ≥ 255; omega), hexNum_of c v hv]
    exact bne_iff_ne.mpr (by omega)

theorem hexLoop_spec : ∀ s : List Nat, s.length % 2 = 0 → hexDecodeLoop s = hexValue s
  | [], _ => rfl
  | [_], h => by simp at h
  | c1 :: c2 :: r, h => by
    unfold hexDecodeLoop hexValue
    rw [isHex_spec, isHex_spec, hexLoop_spec r (by simp at h; omega)]
    cases h1 : hexDigitVal c1 with
    | none => rfl
    | some a =>
      cases h2 : hexDigitVal c2 with
      | none => rfl
      | some b =>
        have := (hexDigitVal_lt c1 a h1).1
        have hb := (hexDigitVal_lt c2 b h2).1
        rw [hexNum_of c1 a h1, hexNum_of c2 b h2, shl_or _ _ 4 hb, Nat.mod_eq_of_lt (by omega)]
        cases hexValue r <;> rfl

theorem hexValue_isSome : ∀ s : List Nat, (hexValue s).isSome = isHexLex s
  | [] => rfl
  | [_] => rfl
  | c1 :: c2 :: r => by
    have ih := hexValue_isSome r
    unfold isHexLex at ih ⊢
    unfold hexValue
    rw [show (c1 :: c2 :: r).length % 2 = r.length % 2 by simp only [List.length_cons]; omega, List.all_cons, List.all_cons,
      Bool.and_left_comm (r.length % 2 == 0), Bool.and_left_comm (r.length % 2 == 0), ← ih]
    cases hexDigitVal c1 <;> cases hexDigitVal c2 <;> cases hexValue r <;> rfl

theorem hexChar_val : ∀ v, v < 16 → hexDigitVal (hexChar v) = some v := by decide +kernel

theorem hexValue_encode (bs : List Nat) (h : AllBytes bs) : hexValue (hexEncode bs) = some bs := by
  induction bs with
  | nil => rfl
  | cons b r ih =>
    obtain ⟨hb, hr⟩ := allBytes_cons.mp h
    unfold hexEncode hexValue
    rw [hexChar_val (b / 16) (by omega), hexChar_val (b % 16) (by omega), ih hr]
    simp only
    congr 2
    omega

theorem upper_hexChar : ∀ c, c < 256 → ∀ v, hexDigitVal c = some v → upperCaseASCII c = hexChar v := by decide +kernel

theorem hex_upper (s bs : List Nat) (h : hexValue s = some bs) : s.map upperCaseASCII = hexEncode bs ∧ AllBytes bs := by
  fun_induction hexValue s generalizing bs with
  | case1 => cases h; exact ⟨rfl, allBytes_nil⟩
  | case2 | case4 => cases h
  | case3 c1 c2 r a b v h3 h2 h1 ih =>
    cases h
    obtain ⟨ih1, ih2⟩ := ih v h3
    obtain ⟨ha, hc1⟩ := hexDigitVal_lt c1 a h1
    obtain ⟨hb, hc2⟩ := hexDigitVal_lt c2 b h2
    constructor
    · rw [List.map_cons, List.map_cons, hexEncode, ih1, upper_hexChar c1 (by omega) a h1, upper_hexChar c2 (by omega) b h2,
        show (a * 16 + b) / 16 = a by omega, show (a * 16 + b) % 16 = b by omega]
    · exact allBytes_cons.mpr ⟨by omega, ih2⟩

theorem isArrayByteHex_eq (s : List Nat) : isArrayByteHex s = (hexValue s).isSome := by
  rw [hexValue_isSome]
  unfold isArrayByteHex isHexLex
  have : s.all isHex = s.all (fun c => (hexDigitVal c).isSome) := by
    congr 1; funext c; exact isHex_spec c
  cases s with
  | nil => rfl
  | cons a r =>
    simp only [List.isEmpty_cons, Bool.false_eq_true, if_false]
    rw [this]
    rcases Nat.mod_two_eq_zero_or_one (a :: r).length with h | h <;> simp only [List.length_cons] at h <;> simp [h]

theorem hexDecode_eq (s : List Nat) : hexDecode s = if s.isEmpty then none else hexValue s := by
  unfold hexDecode
  split
  · rfl
  · split
    · -- odd length: the Spec's value function fails too
      rename_i h
      have hv := hexValue_isSome s
      rw [isHexLex, show (s.length % 2 == 0) = false by simpa using h, Bool.false_and] at hv
      exact (Option.not_isSome_iff_eq_none.mp (by rw [hv]; exact Bool.false_ne_true)).symm
    · rename_i h; exact hexLoop_spec s (by simpa using h)

theorem hexCanonical_eq (s : List Nat) : hexCanonical s = (hexValue s).map hexEncode := by
  unfold hexCanonical hexDataLength
  rw [isArrayByteHex_eq]
  cases h : hexValue s with
  | none => rfl
  | some bs => exact congrArg some (hex_upper s bs h).1

theorem b64Val_none_ge (c : Nat) (h : c ≥ 255) : b64Val c = none := by
  fun_cases b64Val c
  case case6 => rfl
  all_goals omega

theorem b64Val_bound (c v : Nat) (h : b64Val c = some v) : v < 64 ∧ c < 255 ∧ b64Char v = c := by
  have hc : c < 255 := Nat.lt_of_not_le fun hge => by rw [b64Val_none_ge c hge] at h; cases h
  exact ⟨(b64Val_tab c (by omega) v h).1, hc, (b64Val_tab c (by omega) v h).2⟩

/-- beyond the table the C++ would read out of bounds; the model's look-up gives the "no data" value there too -/
theorem inv_eq (c : Nat) : inv c = (b64Val c).getD 0xFF := by
  by_cases hc : c < 255
  · exact inv_spec c hc
  · unfold inv
    rw [b64Val_none_ge c (by omega), List.getD_eq_getElem?_getD, List.getElem?_eq_none (by rw [invTable_eq]; simp; omega)]

theorem inv_of (c v : Nat) (h : b64Val c = some v) : inv c = v := by rw [inv_eq, h]; rfl

theorem inv_nodata (c : Nat) (h : b64Val c = none) : inv c = 0xFF := by rw [inv_eq, h]; rfl

theorem isData_spec (c : Nat) : isData c = (b64Val c).isSome := by
  unfold isData
  cases hv : b64Val c with
  | none => rw [inv_nodata c hv]; exact Bool.and_false _
  | some v =>
    obtain ⟨hv64, hc, _⟩ := b64Val_bound c v hv
    rw [inv_of c v hv, decide_eq_true (show c < b64BaseLength from hc)]
    exact bne_iff_ne.mpr (by omega)

theorem isData_eq_isB64 (c : Nat) : isData c = isB64 c := isData_spec c

theorem isData_iff (c : Nat) : isData c = true ↔ ∃ v, v < 64 ∧ c = b64Char v := by
  rw [isData_spec]
  constructor
  · intro h
    obtain ⟨v, hv⟩ := Option.isSome_iff_exists.mp h
    exact ⟨v, (b64Val_bound c v hv).1, (b64Val_bound c v hv).2.2.symm⟩
  · rintro ⟨v, hv, rfl⟩; rw [b64_inverse v hv]; rfl

theorem pad_not_data : b64Val pad = none := by decide
theorem char_not_pad (v : Nat) (h : v < 64) : b64Char v ≠ pad := fun e => by
  have := b64_inverse v h
  rw [e, pad_not_data] at this
  cases this
theorem char_props : ∀ v, v < 64 → b64Char v < 255 ∧ b64Char v ≠ sp ∧ isWhitespace (b64Char v) = false := by
  decide +kernel
theorem isData_char (v : Nat) (h : v < 64) : isData (b64Char v) = true := (isData_iff _).mpr ⟨v, h, rfl⟩
theorem inv_char (v : Nat) (h : v < 64) : inv (b64Char v) = v := inv_of _ _ (b64_inverse v h)
theorem isPad_eq (c : Nat) : isPad c = (c == pad) := rfl
theorem isData_pad : isData pad = false := by rw [isData_spec, pad_not_data]; rfl
theorem isPad_char (v : Nat) (h : v < 64) : isPad (b64Char v) = false := beq_false_of_ne (char_not_pad v h)

/-- three octets → four sextets (`split#_spec`) → the same three octets (`set#_spec`): the sextets are in range, and
each octet comes back -/
theorem octets_quartet (a b c : Nat) (ha : a < 256) (hb : b < 256) (hc : c < 256) :
    (a / 4 < 64 ∧ a % 4 * 16 + b / 16 < 64 ∧ b % 16 * 4 + c / 64 < 64 ∧ c % 64 < 64) ∧
    (a / 4 * 4 + (a % 4 * 16 + b / 16) / 16) % 256 = a ∧
    ((a % 4 * 16 + b / 16) * 16 + (b % 16 * 4 + c / 64) / 4) % 256 = b ∧
    ((b % 16 * 4 + c / 64) * 64 + c % 64) % 256 = c := by omega

/-- four sextets → three octets → the same four sextets.  The last two conjuncts: the part of the second (third) sextet
that lies in the next octet is `v2 % 16` (`v3 % 4`) — zero in a quartet that ends in padding, which has no such octet -/
theorem quartet_octets (v1 v2 v3 v4 : Nat) (h1 : v1 < 64) (h2 : v2 < 64) (h3 : v3 < 64) (h4 : v4 < 64) :
    (v1 * 4 + v2 / 16) % 256 / 4 = v1 ∧
    (v1 * 4 + v2 / 16) % 256 % 4 * 16 + (v2 * 16 + v3 / 4) % 256 / 16 = v2 ∧
    (v2 * 16 + v3 / 4) % 256 % 16 * 4 + (v3 * 64 + v4) % 256 / 64 = v3 ∧
    (v3 * 64 + v4) % 256 % 64 = v4 ∧
    (v2 * 16 + v3 / 4) % 256 / 16 = v2 % 16 ∧ (v3 * 64 + v4) % 256 / 64 = v3 % 4 := by omega

theorem b64Encode_cons3 (a b c : Nat) (r : List Nat) :
    b64Encode (a :: b :: c :: r) = b64Char (a / 4) :: b64Char (a % 4 * 16 + b / 16) ::
      b64Char (b % 16 * 4 + c / 64) :: b64Char (c % 64) :: b64Encode r := by
  cases r <;> rfl

/-- the white-space filter that `decode .rfc2045` writes inline; what `unspace` is to the schema mode -/
def strip (l : List Nat) : List Nat := l.filter (fun c => !isWhitespace c)

theorem strip_alpha (v : Nat) (h : v < 64) (l : List Nat) : strip (alpha v :: l) = b64Char v :: strip l := by
  unfold strip; rw [alpha_spec v h, List.filter_cons_of_pos (by rw [(char_props v h).2.2]; rfl)]
theorem strip_cons_pad (l : List Nat) : strip (base64Padding :: l) = pad :: strip l := by
  unfold strip; rw [List.filter_cons_of_pos (by decide)]; rfl
theorem strip_lf (l : List Nat) : strip (chLF :: l) = strip l := by
  unfold strip; rw [List.filter_cons_of_neg (by decide)]

theorem encodeLoop_strip (bs : List Nat) (h : AllBytes bs) (q : Nat) : strip (encodeLoop bs q) = b64Encode bs := by
  fun_induction b64Encode bs generalizing q with
  | case1 => rfl
  | case2 a =>
    have ha := (allBytes_cons.mp h).1
    simp only [encodeLoop, split1_spec]
    rw [strip_alpha _ (by omega), strip_alpha _ (by omega), strip_cons_pad, strip_cons_pad, strip_lf]
    rfl
  | case3 a b =>
    simp only [allBytes_cons] at h
    obtain ⟨ha, hb, _⟩ := h
    simp only [encodeLoop, split1_spec, split2_spec _ _ hb]
    rw [strip_alpha _ (by omega), strip_alpha _ (by omega), strip_alpha _ (by omega), strip_cons_pad, strip_lf]
    rfl
  | case4 a b c r ih =>
    simp only [allBytes_cons] at h
    obtain ⟨ha, hb, hc, hr⟩ := h
    obtain ⟨⟨l1, l2, l3, l4⟩, _⟩ := octets_quartet a b c ha hb hc
    rw [← ih hr (q + 1)]
    cases r with
    | nil =>
      simp only [encodeLoop, split1_spec, split2_spec _ _ hb, split3_spec _ _ hc]
      rw [strip_alpha _ l1, strip_alpha _ l2, strip_alpha _ l3, strip_alpha _ l4, strip_lf]
    | cons d r' =>
      simp only [encodeLoop, split1_spec, split2_spec _ _ hb, split3_spec _ _ hc, List.cons_append, List.nil_append]
      rw [strip_alpha _ l1, strip_alpha _ l2, strip_alpha _ l3, strip_alpha _ l4]
      split
      · rw [List.cons_append, List.nil_append, strip_lf]
      · rw [List.nil_append]

theorem b64Encode_ne_nil (bs : List Nat) (h : bs ≠ []) : ∃ e r, b64Encode bs = e :: r := by
  match bs, h with
  | [a], _ => exact ⟨_, _, rfl⟩
  | [a, b], _ => exact ⟨_, _, rfl⟩
  | a :: b :: c :: r, _ => exact ⟨_, _, b64Encode_cons3 a b c r⟩

theorem dq_data (v1 v2 v3 v4 : Nat) (h1 : v1 < 64) (h2 : v2 < 64) (h3 : v3 < 64) (h4 : v4 < 64) (e : Nat) (r : List Nat) :
    decodeQuads (b64Char v1 :: b64Char v2 :: b64Char v3 :: b64Char v4 :: e :: r) =
      (decodeQuads (e :: r)).map
        (fun v => (v1 * 4 + v2 / 16) % 256 :: (v2 * 16 + v3 / 4) % 256 :: (v3 * 64 + v4) % 256 :: v) := by
  simp only [decodeQuads, isData_char _ h1, isData_char _ h2, isData_char _ h3, isData_char _ h4, inv_char _ h1,
    inv_char _ h2, inv_char _ h3, inv_char _ h4, Bool.not_true, Bool.or_self, Bool.false_eq_true, if_false,
    set1_spec v1 v2 h2, set2_spec v2 v3 h3, set3_spec v3 v4 h4]
  cases decodeQuads (e :: r) <;> rfl

theorem dq_last3 (v1 v2 v3 v4 : Nat) (h1 : v1 < 64) (h2 : v2 < 64) (h3 : v3 < 64) (h4 : v4 < 64) :
    decodeQuads [b64Char v1, b64Char v2, b64Char v3, b64Char v4] =
      some [(v1 * 4 + v2 / 16) % 256, (v2 * 16 + v3 / 4) % 256, (v3 * 64 + v4) % 256] := by
  simp only [decodeQuads, isData_char _ h1, isData_char _ h2, isData_char _ h3, isData_char _ h4,
    inv_char _ h1, inv_char _ h2, inv_char _ h3, inv_char _ h4, Bool.not_true, Bool.or_self, Bool.false_eq_true,
    if_false, set1_spec v1 v2 h2, set2_spec v2 v3 h3, set3_spec v3 v4 h4]

theorem dq_last2 (v1 v2 v3 : Nat) (h1 : v1 < 64) (h2 : v2 < 64) (h3 : v3 < 64) :
    decodeQuads [b64Char v1, b64Char v2, b64Char v3, pad] =
      if v3 % 4 != 0 then none else some [(v1 * 4 + v2 / 16) % 256, (v2 * 16 + v3 / 4) % 256] := by
  have pp : isPad pad = true := rfl
  simp only [decodeQuads, isData_char _ h1, isData_char _ h2, isData_char _ h3, isData_pad,
    inv_char _ h1, inv_char _ h2, inv_char _ h3, Bool.not_true, Bool.not_false, Bool.or_self, Bool.false_eq_true,
    Bool.or_true, if_false, if_true, isPad_char _ h3, pp, Bool.false_and, Bool.and_self,
    set1_spec v1 v2 h2, set2_spec v2 v3 h3, mask1_spec v3]

theorem dq_last1 (v1 v2 : Nat) (h1 : v1 < 64) (h2 : v2 < 64) :
    decodeQuads [b64Char v1, b64Char v2, pad, pad] =
      if v2 % 16 != 0 then none else some [(v1 * 4 + v2 / 16) % 256] := by
  have pp : isPad pad = true := rfl
  simp only [decodeQuads, isData_char _ h1, isData_char _ h2, isData_pad,
    inv_char _ h1, inv_char _ h2, Bool.not_true, Bool.not_false, Bool.or_self, Bool.false_eq_true,
    if_false, if_true, pp, Bool.and_self, set1_spec v1 v2 h2, mask2_spec v2]

theorem decodeQuads_encode (bs : List Nat) (h : AllBytes bs) (hne : bs ≠ []) : decodeQuads (b64Encode bs) = some bs := by
  fun_induction b64Encode bs with
  | case1 => exact absurd rfl hne
  | case2 a =>
    -- one and two octets: the quartet of `a, 0, 0` resp. `a, b, 0` with the last characters replaced by padding
    obtain ⟨⟨l1, l2, _⟩, e1, _⟩ := octets_quartet a 0 0 (allBytes_cons.mp h).1 (by omega) (by omega)
    simp only [Nat.zero_div, Nat.add_zero] at l2 e1
    rw [dq_last1 _ _ l1 l2, Nat.mul_mod_left, e1]
    rfl
  | case3 a b =>
    simp only [allBytes_cons] at h
    obtain ⟨⟨l1, l2, l3, _⟩, e1, e2, _⟩ := octets_quartet a b 0 h.1 h.2.1 (by omega)
    simp only [Nat.zero_div, Nat.add_zero] at l3 e2
    rw [dq_last2 _ _ _ l1 l2 l3, Nat.mul_mod_left, e1, e2]
    rfl
  | case4 a b c r ih =>
    simp only [allBytes_cons] at h
    obtain ⟨⟨l1, l2, l3, l4⟩, e1, e2, e3⟩ := octets_quartet a b c h.1 h.2.1 h.2.2.1
    by_cases hrn : r = []
    · subst hrn
      rw [b64Encode, dq_last3 _ _ _ _ l1 l2 l3 l4, e1, e2, e3]
    · obtain ⟨e, r', her⟩ := b64Encode_ne_nil r hrn
      rw [her, dq_data _ _ _ _ l1 l2 l3 l4, ← her, ih h.2.2.2 hrn, e1, e2, e3]
      rfl

theorem isB64_val (c : Nat) (h : isB64 c = true) : ∃ v, v < 64 ∧ c = b64Char v :=
  (isData_iff c).mp (by rw [isData_spec]; exact h)

theorem isB64_char (v : Nat) (h : v < 64) : isB64 (b64Char v) = true := by
  unfold isB64; rw [b64_inverse v h]; rfl

theorem isB04_eq (c : Nat) : isB04 c = (b64Val c).any (· % 16 == 0) := by
  by_cases hc : c < 256
  · rw [isB04_spec c hc]; cases b64Val c <;> rfl
  · rw [b64Val_none_ge c (by omega)]; simp [isB04]; omega

theorem isB16_eq (c : Nat) : isB16 c = (b64Val c).any (· % 4 == 0) := by
  by_cases hc : c < 256
  · rw [isB16_spec c hc]; cases b64Val c <;> rfl
  · rw [b64Val_none_ge c (by omega)]; simp [isB16]; omega

theorem isB16_char (v : Nat) (h : v < 64) : isB16 (b64Char v) = (v % 4 == 0) := by
  rw [isB16_eq, b64_inverse v h]; rfl

theorem isB04_char (v : Nat) (h : v < 64) : isB04 (b64Char v) = (v % 16 == 0) := by
  rw [isB04_eq, b64_inverse v h]; rfl

theorem any_val (P : Nat → Bool) (c : Nat) (h : (b64Val c).any P = true) : ∃ v, v < 64 ∧ c = b64Char v ∧ P v = true := by
  obtain ⟨v, hv, hp⟩ := (Option.any_eq_true P _).mp h
  exact ⟨v, (b64Val_bound c v hv).1, (b64Val_bound c v hv).2.2.symm, hp⟩

theorem isB16_val (c : Nat) (h : isB16 c = true) : ∃ v, v < 64 ∧ c = b64Char v ∧ v % 4 = 0 := by
  obtain ⟨v, a, b, m⟩ := any_val _ c (isB16_eq c ▸ h)
  exact ⟨v, a, b, beq_iff_eq.mp m⟩

theorem isB04_val (c : Nat) (h : isB04 c = true) : ∃ v, v < 64 ∧ c = b64Char v ∧ v % 16 = 0 := by
  obtain ⟨v, a, b, m⟩ := any_val _ c (isB04_eq c ▸ h)
  exact ⟨v, a, b, beq_iff_eq.mp m⟩

/-- The padding-bit tests on the last quartet are the classes B04 and B16, for every unit: where the unit is no data at
all the table gives 0xFF, which fails both masks. -/
theorem mask2_isB04 (c : Nat) : ((inv c &&& pad2Mask) != 0) = !isB04 c := by
  rw [mask2_spec, inv_eq, isB04_eq]; cases b64Val c <;> rfl

theorem mask1_isB16 (c : Nat) : ((inv c &&& pad1Mask) != 0) = !isB16 c := by
  rw [mask1_spec, inv_eq, isB16_eq]; cases b64Val c <;> rfl

theorem isB04_isB64 (c : Nat) (h : isB04 c = true) : isB64 c = true := Option.isSome_of_any (isB04_eq c ▸ h)

theorem isB16_isB64 (c : Nat) (h : isB16 c = true) : isB64 c = true := Option.isSome_of_any (isB16_eq c ▸ h)

theorem pad_not_isB64 (c : Nat) (h : (c == pad) = true) : isB64 c = false := by
  rw [beq_iff_eq.mp h]; rfl

theorem quartets_encode (raw : List Nat) (h : isB64Quartets raw = true) :
    ∃ bs, AllBytes bs ∧ bs ≠ [] ∧ raw = b64Encode bs := by
  have m256 : ∀ n : Nat, n % 256 < 256 := fun n => Nat.mod_lt n (by decide)
  fun_induction isB64Quartets raw with
  | case1 c1 c2 c3 c4 =>
    simp only [Bool.and_eq_true, Bool.or_eq_true, beq_iff_eq] at h
    obtain ⟨g1, hc⟩ := h
    obtain ⟨v1, b1, rfl⟩ := isB64_val c1 g1
    rcases hc with (⟨⟨g2, g3⟩, g4⟩ | ⟨⟨g2, g3⟩, rfl⟩) | ⟨⟨g2, rfl⟩, rfl⟩
    · obtain ⟨v2, b2, rfl⟩ := isB64_val c2 g2
      obtain ⟨v3, b3, rfl⟩ := isB64_val c3 g3
      obtain ⟨v4, b4, rfl⟩ := isB64_val c4 g4
      obtain ⟨q1, q2, q3, q4, _⟩ := quartet_octets v1 v2 v3 v4 b1 b2 b3 b4
      refine ⟨[(v1 * 4 + v2 / 16) % 256, (v2 * 16 + v3 / 4) % 256, (v3 * 64 + v4) % 256], ?_, by simp, ?_⟩
      · exact allBytes_cons.mpr ⟨m256 _, allBytes_cons.mpr ⟨m256 _, allBytes_cons.mpr ⟨m256 _, allBytes_nil⟩⟩⟩
      · rw [b64Encode_cons3, q1, q2, q3, q4]; rfl
    · obtain ⟨v2, b2, rfl⟩ := isB64_val c2 g2
      obtain ⟨v3, b3, rfl, m3⟩ := isB16_val c3 g3
      -- the quartet `v1 v2 v3 0`, whose third octet is 0 because `v3 % 4 = 0`
      obtain ⟨q1, q2, q3, _, _, q6⟩ := quartet_octets v1 v2 v3 0 b1 b2 b3 (by omega)
      rw [q6, m3, Nat.add_zero] at q3
      refine ⟨[(v1 * 4 + v2 / 16) % 256, (v2 * 16 + v3 / 4) % 256], ?_, by simp, ?_⟩
      · exact allBytes_cons.mpr ⟨m256 _, allBytes_cons.mpr ⟨m256 _, allBytes_nil⟩⟩
      · rw [b64Encode, q1, q2, q3]
    · obtain ⟨v2, b2, rfl, m2⟩ := isB04_val c2 g2
      obtain ⟨q1, q2, _, _, q5, _⟩ := quartet_octets v1 v2 0 0 b1 b2 (by omega) (by omega)
      rw [q5, m2, Nat.add_zero] at q2
      refine ⟨[(v1 * 4 + v2 / 16) % 256], allBytes_cons.mpr ⟨m256 _, allBytes_nil⟩, by simp, ?_⟩
      rw [b64Encode, q1, q2]
  | case2 c1 c2 c3 c4 r hr ih =>
    simp only [Bool.and_eq_true] at h
    obtain ⟨⟨⟨⟨g1, g2⟩, g3⟩, g4⟩, g5⟩ := h
    obtain ⟨bs, hb, _, rfl⟩ := ih g5
    obtain ⟨v1, b1, rfl⟩ := isB64_val c1 g1
    obtain ⟨v2, b2, rfl⟩ := isB64_val c2 g2
    obtain ⟨v3, b3, rfl⟩ := isB64_val c3 g3
    obtain ⟨v4, b4, rfl⟩ := isB64_val c4 g4
    obtain ⟨q1, q2, q3, q4, _⟩ := quartet_octets v1 v2 v3 v4 b1 b2 b3 b4
    refine ⟨(v1 * 4 + v2 / 16) % 256 :: (v2 * 16 + v3 / 4) % 256 :: (v3 * 64 + v4) % 256 :: bs, ?_, by simp, ?_⟩
    · exact allBytes_cons.mpr ⟨m256 _, allBytes_cons.mpr ⟨m256 _, allBytes_cons.mpr ⟨m256 _, hb⟩⟩⟩
    · rw [b64Encode_cons3, q1, q2, q3, q4]
  | case3 => cases h

theorem dq_more (d1 d2 d3 d4 e : Nat) (r : List Nat) :
    decodeQuads (d1 :: d2 :: d3 :: d4 :: e :: r) =
      if !isData d1 || !isData d2 || !isData d3 || !isData d4 then none
      else match decodeQuads (e :: r) with
        | some v => some (set1stOctet (inv d1) (inv d2) :: set2ndOctet (inv d2) (inv d3) :: set3rdOctet (inv d3) (inv d4) :: v)
        | none => none := rfl

theorem decodeQuads_isSome (raw : List Nat) : (decodeQuads raw).isSome = isB64Quartets raw := by
  fun_induction isB64Quartets raw with
  | case1 d1 d2 d3 d4 =>
    have a := isB04_isB64 d2
    have b := isB16_isB64 d3
    have c := pad_not_isB64 d3
    have d := pad_not_isB64 d4
    simp only [decodeQuads, isData_eq_isB64, isPad_eq, mask2_isB04, mask1_isB16,
      apply_ite Option.isSome, Option.isSome_some, Option.isSome_none]
    -- both sides are Boolean combinations of the same eight tests, equal given `a b c d`
    generalize isB64 d1 = D1, isB64 d2 = D2, isB64 d3 = D3, isB64 d4 = D4, isB04 d2 = B04, isB16 d3 = B16,
      (d3 == pad) = P3, (d4 == pad) = P4 at a b c d ⊢
    revert D1 D2 D3 D4 B04 B16 P3 P4
    decide
  | case2 d1 d2 d3 d4 r hr ih =>
    obtain ⟨e, r', rfl⟩ := List.exists_cons_of_ne_nil hr
    rw [dq_more, ← ih]
    simp only [isData_eq_isB64]
    cases decodeQuads (e :: r') <;> cases isB64 d1 <;> cases isB64 d2 <;> cases isB64 d3 <;> cases isB64 d4 <;> rfl
  | case3 t h1 h2 => rw [decodeQuads.eq_3 t h1 h2]; rfl

theorem decodeQuads_iff (raw bs : List Nat) :
    decodeQuads raw = some bs ↔ AllBytes bs ∧ bs ≠ [] ∧ raw = b64Encode bs := by
  constructor
  · intro h
    obtain ⟨bs', hb, hne, rfl⟩ := quartets_encode raw (by rw [← decodeQuads_isSome, h]; rfl)
    rw [decodeQuads_encode bs' hb hne] at h
    injection h with h
    subst h
    exact ⟨hb, hne, rfl⟩
  · rintro ⟨hb, hne, rfl⟩; exact decodeQuads_encode bs hb hne

theorem b64Encode_chars (bs : List Nat) (h : AllBytes bs) :
    ∀ c ∈ b64Encode bs, c < 255 ∧ c ≠ sp ∧ isWhitespace c = false := by
  have hp : pad < 255 ∧ pad ≠ sp ∧ isWhitespace pad = false := by decide
  fun_induction b64Encode bs with
  | case1 => intro c hc; cases hc
  | case2 a =>
    have ha := (allBytes_cons.mp h).1
    simp only [List.forall_mem_cons]
    exact ⟨char_props _ (by omega), char_props _ (by omega), hp, hp, fun _ hc => nomatch hc⟩
  | case3 a b =>
    simp only [allBytes_cons] at h
    obtain ⟨ha, hb, _⟩ := h
    simp only [List.forall_mem_cons]
    exact ⟨char_props _ (by omega), char_props _ (by omega), char_props _ (by omega), hp, fun _ hc => nomatch hc⟩
  | case4 a b c r ih =>
    simp only [allBytes_cons] at h
    obtain ⟨ha, hb, hc, hr⟩ := h
    simp only [List.forall_mem_cons]
    exact ⟨char_props _ (by omega), char_props _ (by omega), char_props _ (by omega), char_props _ (by omega), ih hr⟩

theorem go_nonsp (c : Nat) (r : List Nat) (hc : c ≠ sp) : spacingOk.go (c :: r) = spacingOk.go r := by
  cases r with
  | nil => simp [spacingOk.go, hc]
  | cons d r' => simp [spacingOk.go, hc]

theorem go_sp (d : Nat) (r : List Nat) : spacingOk.go (sp :: d :: r) = (d != sp && spacingOk.go (d :: r)) := by
  simp only [spacingOk.go, beq_self_eq_true, if_true]

theorem unspace_cons (c : Nat) (l : List Nat) : unspace (c :: l) = if c = sp then unspace l else c :: unspace l := by
  unfold unspace
  by_cases hc : c = sp
  · rw [if_pos hc, List.filter_cons_of_neg (by simpa using hc)]
  · rw [if_neg hc, List.filter_cons_of_pos (by simpa using hc)]

/-- Conf_Schema loop, `w` = the character before was a #x20.  It ends outside white space iff the input, with that
#x20 in front, is spaced as the lexical space allows; it then returns what it had, followed by the input without
its #x20. -/
theorem stripSchema_spec (l : List Nat) (w : Bool) (acc : List Nat) :
    (stripSchema l w acc).bind (fun p => if p.2 then none else some p.1) =
      if spacingOk.go (if w then sp :: l else l) then some (acc.reverse ++ unspace l) else none := by
  induction l generalizing w acc with
  | nil => cases w <;> simp [stripSchema, spacingOk.go, unspace]
  | cons c r ih =>
    unfold stripSchema
    rw [show chSpace = sp from rfl, unspace_cons]
    by_cases hc : c = sp
    · subst hc
      rw [if_neg (by simp), if_pos rfl]
      cases w with
      | true => rw [if_pos rfl, if_pos rfl, go_sp, bne_self_eq_false, Bool.false_and]; rfl
      | false => rw [if_neg (by simp), ih true acc]; rfl
    · rw [if_pos (bne_iff_ne.mpr hc), if_neg hc, ih false (c :: acc), List.reverse_cons, List.append_assoc,
        List.singleton_append]
      cases w with
      | true => simp only [if_true, Bool.false_eq_true, if_false, go_sp, go_nonsp c r hc, bne_iff_ne.mpr hc, Bool.true_and]
      | false => simp only [Bool.false_eq_true, if_false, go_nonsp c r hc]

theorem decodeQuads_length (raw : List Nat) (h : (decodeQuads raw).isSome = true) : ∃ k, raw.length = 4 * (k + 1) := by
  induction raw using isB64Quartets.induct with
  | case1 => exact ⟨0, rfl⟩
  | case2 d1 d2 d3 d4 r hr ih =>
    obtain ⟨e, r', rfl⟩ := List.exists_cons_of_ne_nil hr
    rw [dq_more] at h
    cases hq : decodeQuads (e :: r') with
    | none => rw [hq] at h; split at h <;> cases h
    | some v =>
      obtain ⟨k, hk⟩ := ih (by rw [hq]; rfl)
      exact ⟨k + 1, by simp only [List.length_cons] at hk ⊢; omega⟩
  | case3 t h1 h2 => rw [decodeQuads.eq_3 t h1 h2] at h; cases h

/-- after the white-space handling both modes do the same: two length checks, which never fire when the quartets
decode, then the quartets -/
theorem decode_tail (raw : List Nat) :
    (if raw.length % fourByte != 0 then none else if raw.length / fourByte == 0 then none
      else match decodeQuads raw with
        | some v => some (v, raw)
        | none => none) = (decodeQuads raw).map (fun v => (v, raw)) := by
  cases hq : decodeQuads raw with
  | none =>
    split
    · rfl
    · split <;> rfl
  | some v =>
    obtain ⟨k, hk⟩ := decodeQuads_length raw (by rw [hq]; rfl)
    rw [hk, if_neg (by show ¬ (4 * (k + 1) % 4 != 0) = true; simp),
      if_neg (by show ¬ (4 * (k + 1) / 4 == 0) = true; simp)]
    rfl

/-- the test for an empty input is subsumed: nothing decodes from no quartets -/
theorem decode_rfc (s : List Nat) : decode .rfc2045 s = (decodeQuads (strip s)).map (fun v => (v, strip s)) := by
  unfold decode
  split
  · rename_i h; rw [List.isEmpty_iff.mp h]; rfl
  · exact decode_tail (strip s)

theorem decode_schema (s : List Nat) :
    decode .schema s = if spacingOk s then (decodeQuads (unspace s)).map (fun v => (v, unspace s)) else none := by
  cases s with
  | nil => rfl
  | cons c r =>
    unfold decode spacingOk
    simp only [List.isEmpty_cons, Bool.false_eq_true, if_false, List.head?_cons]
    by_cases hc : c = sp
    · subst hc; rfl
    · have hs := stripSchema_spec (c :: r) false []
      rw [if_neg Bool.false_ne_true, go_nonsp c r hc, List.reverse_nil, List.nil_append] at hs
      have hh : (some c == some chSpace) = false := by rw [show chSpace = sp from rfl]; simpa using hc
      simp only [hh, bne_iff_ne.mpr hc, Bool.true_and, Bool.false_eq_true, if_false]
      -- the right side is the loop's result (`hs`) followed by the quartets; then the loop's three outcomes
      rw [show (if spacingOk.go r = true then (decodeQuads (unspace (c :: r))).map (fun v => (v, unspace (c :: r))) else none) =
        (if spacingOk.go r = true then some (unspace (c :: r)) else none).bind
          (fun raw => (decodeQuads raw).map (fun v => (v, raw))) by split <;> rfl, ← hs]
      cases stripSchema (c :: r) false [] with
      | none => rfl
      | some p =>
        obtain ⟨raw, w⟩ := p
        cases w with
        | true => rfl
        | false => exact decode_tail raw

theorem decode_schema_isSome (s : List Nat) : (decode .schema s).isSome = (!s.isEmpty && isBase64Lex s) := by
  rw [decode_schema]
  unfold isBase64Lex
  cases s with
  | nil => rfl
  | cons a r =>
    cases spacingOk (a :: r) with
    | false => rfl
    | true =>
      simp only [if_true, Option.isSome_map, decodeQuads_isSome, List.isEmpty_cons, Bool.not_false, Bool.false_or,
        Bool.true_and]

theorem decode_schema_lex (s : List Nat) (p : List Nat × List Nat) (h : decode .schema s = some p) : isBase64Lex s = true := by
  have := decode_schema_isSome s
  rw [h] at this
  exact ((Bool.and_eq_true _ _).mp this.symm).2

theorem decoded_iff (raw bs can : List Nat) :
    (decodeQuads raw).map (fun v => (v, raw)) = some (bs, can) ↔ can = raw ∧ AllBytes bs ∧ bs ≠ [] ∧ can = b64Encode bs := by
  rw [Option.map_eq_some_iff]
  constructor
  · rintro ⟨v, hv, e⟩
    injection e with e1 e2
    subst e1 e2
    exact ⟨rfl, (decodeQuads_iff _ _).mp hv⟩
  · rintro ⟨rfl, h⟩
    exact ⟨bs, (decodeQuads_iff _ _).mpr h, rfl⟩

theorem unspace_id (l : List Nat) (h : ∀ c ∈ l, c ≠ sp) : unspace l = l :=
  List.filter_eq_self.mpr (fun c hc => bne_iff_ne.mpr (h c hc))

theorem strip_id (l : List Nat) (h : ∀ c ∈ l, isWhitespace c = false) : strip l = l :=
  List.filter_eq_self.mpr (fun c hc => by rw [h c hc]; rfl)

theorem spacingOk_nospace (l : List Nat) (h : ∀ c ∈ l, c ≠ sp) : spacingOk l = true := by
  have go : ∀ l : List Nat, (∀ c ∈ l, c ≠ sp) → spacingOk.go l = true := by
    intro l
    induction l with
    | nil => intro _; rfl
    | cons a r ih => intro h; rw [go_nonsp a r (List.forall_mem_cons.mp h).1]; exact ih (List.forall_mem_cons.mp h).2
  cases l with
  | nil => rfl
  | cons a r =>
    unfold spacingOk
    rw [Bool.and_eq_true]
    exact ⟨bne_iff_ne.mpr (List.forall_mem_cons.mp h).1, go r (List.forall_mem_cons.mp h).2⟩

theorem decode_canonical (conf : Conformance) (bs : List Nat) (h : AllBytes bs) (hne : bs ≠ []) :
    decode conf (b64Encode bs) = some (bs, b64Encode bs) := by
  have hq := decodeQuads_encode bs h hne
  have l3 := b64Encode_chars bs h
  cases conf with
  | rfc2045 => rw [decode_rfc, strip_id _ (fun c hc => (l3 c hc).2.2), hq]; rfl
  | schema =>
    have hsp : ∀ c ∈ b64Encode bs, c ≠ sp := fun c hc => (l3 c hc).2.1
    rw [decode_schema, unspace_id _ hsp, if_pos (spacingOk_nospace _ hsp), hq]; rfl

/-- The bound check of the repaired `decodeToXMLByte` rejects nothing that `decode` would accept, in either mode: a
unit ≥ 255 is not white space, so it would reach the quartets, whose characters are all below 255. -/
theorem decodeX_repaired (conf : Conformance) (s : List Nat) : decodeX true conf s = decode conf s := by
  unfold decodeX
  rw [if_pos rfl]
  split
  · rename_i h; unfold decode; rw [if_pos h]
  · split
    · rename_i h
      obtain ⟨x, hx, hge⟩ := List.any_eq_true.mp h
      have hge' : x ≥ 255 := of_decide_eq_true hge
      cases hd : decode conf s with
      | none => rfl
      | some p =>
        exfalso
        obtain ⟨bs, can⟩ := p
        have hcan : x ∈ can ∧ AllBytes bs ∧ bs ≠ [] ∧ can = b64Encode bs := by
          cases conf with
          | rfc2045 =>
            rw [decode_rfc, decoded_iff] at hd
            exact ⟨by rw [hd.1]; exact List.mem_filter.mpr ⟨hx, by simp [isWhitespace]; omega⟩, hd.2⟩
          | schema =>
            rw [decode_schema] at hd
            split at hd
            · rw [decoded_iff] at hd
              exact ⟨by rw [hd.1]; exact List.mem_filter.mpr ⟨hx, by simp [sp]; omega⟩, hd.2⟩
            · cases hd
        obtain ⟨m, b, c, e⟩ := hcan
        have := (b64Encode_chars bs b x (e ▸ m)).1
        omega
    · rfl

end XV.Lemmas.Codec
