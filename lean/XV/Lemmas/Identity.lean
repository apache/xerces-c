/- What XV.Props.C10 rests on: ICValueHasher against the value space, one location path of an XPathMatcher driven over a
tree, one ValueStore over the selected nodes of a scope element, `violationsAt` against `HoldsAt`.  The matcher proofs
are simulations: between elements a location path is either `Blocked` (nothing below is observed and the state comes
back) or at a position in the tests `*, t1, …, tn` of `./t1/…/tn` (in `DState` for `.//t`); `hits` is what is selected
from a position.  The store proofs use of ICValueHasher::equals only that, on the tuples in question, it decides the
equality of some `f` (`EqVia`): a run reports and holds what the `f`-values of the complete rows say. -/
import XV.Spec.Identity
import XV.Model.Identity
namespace XV.Lemmas.Identity
open XV.Spec.Identity XV.Model.Identity XV.Gen.ValidityCodes

theorem normDec_val : ∀ (m : Int) (s : Nat), (normDec m s).1 * 10 ^ s = m * 10 ^ (normDec m s).2
  | _, 0 => rfl
  | m, s + 1 => by
    rw [normDec]
    split
    · next h =>
      rw [Int.pow_succ, ← Int.mul_assoc, normDec_val (m / 10) s, Int.mul_right_comm, Int.ediv_mul_cancel_of_emod_eq_zero h]
    · rfl

theorem normDec_scale (m : Int) (s : Nat) : ∀ k, normDec (m * 10 ^ k) (s + k) = normDec m s
  | 0 => by rw [Int.pow_zero, Int.mul_one]; rfl
  | k + 1 => by
    rw [← Nat.add_assoc, normDec, Int.pow_succ, ← Int.mul_assoc, if_pos (Int.mul_emod_left ..),
      Int.mul_ediv_cancel _ (by decide), normDec_scale m s k]

theorem normDec_eq_iff (m1 : Int) (s1 : Nat) (m2 : Int) (s2 : Nat) :
    normDec m1 s1 = normDec m2 s2 ↔ decValEq m1 s1 m2 s2 := by
  constructor
  · intro h
    have v1 := normDec_val m1 s1
    have v2 := normDec_val m2 s2
    rw [h] at v1
    refine Int.eq_of_mul_eq_mul_right (a := 10 ^ (normDec m2 s2).2) (Int.ne_of_gt (Int.pow_pos (by decide))) ?_
    rw [Int.mul_right_comm, ← v1, Int.mul_right_comm, v2, Int.mul_right_comm]
  · intro h
    rw [← normDec_scale m1 s1 s2, ← normDec_scale m2 s2 s1, show m1 * 10 ^ s2 = m2 * 10 ^ s1 from h, Nat.add_comm]

theorem int_as_dec (l : List Nat) (ns : Nat) (h : valueOfNorm .integer l ns ≠ none) :
    valueOfNorm .decimal l ns = valueOfNorm .integer l ns := by
  revert h
  simp only [valueOfNorm]
  fun_cases parseInteger l <;> simp_all

/-- the sort of a value, and of the values a type denotes: types without a common ancestor denote values of different
sorts, hence never equal ones -/
def valSort : Val → Nat
  | .str _ => 0 | .dec _ _ => 1 | .date _ _ => 2 | .qname _ _ => 3 | .nilled => 4
def tySort : Ty → Nat
  | .string => 0 | .token => 0 | .integer => 1 | .decimal => 1 | .date => 2 | .qname => 3

theorem valueOfNorm_sort (ty : Ty) (x : List Nat) (ns : Nat) (v : Val) (h : valueOfNorm ty x ns = some v) :
    valSort v = tySort ty := by
  cases ty <;> simp only [valueOfNorm] at h
  · cases h; rfl
  · cases h; rfl
  · obtain ⟨p, _, rfl⟩ := Option.map_eq_some_iff.mp h; rfl
  · obtain ⟨p, _, rfl⟩ := Option.map_eq_some_iff.mp h; rfl
  · obtain ⟨p, _, rfl⟩ := Option.map_eq_some_iff.mp h; rfl
  · cases h; rfl

theorem valueOfNorm_anc {ty : Ty} {anc : DV} {x : List Nat} {n : Nat} (ha : anc ∈ (DV.ofTy ty).chain)
    (hv : valueOfNorm ty x n ≠ none) : valueOfNorm anc.cmpTy x n = valueOfNorm ty x n := by
  cases ty <;> simp only [DV.ofTy, DV.chain, List.mem_cons, List.not_mem_nil, or_false] at ha
  case integer => rcases ha with rfl | rfl; rfl; exact int_as_dec x n hv
  case token => rcases ha with rfl | rfl | rfl <;> rfl
  all_goals subst ha; rfl

theorem findIn_mem {t : DV} : ∀ {c : List DV} {a : DV}, findIn t c = some a → a = t ∧ a ∈ c
  | t2 :: r, a, h => by
    rw [findIn] at h
    split at h
    · next e => cases h; exact ⟨e, List.mem_cons_self⟩
    · exact (findIn_mem h).imp_right (List.mem_cons_of_mem _)

theorem commonAncestor_mem : ∀ {c1 c2 : List DV} {a : DV}, commonAncestor c1 c2 = some a → a ∈ c1 ∧ a ∈ c2
  | t1 :: r, c2, a, h => by
    rw [commonAncestor] at h
    split at h
    · next t ht => cases h; obtain ⟨rfl, h2⟩ := findIn_mem ht; exact ⟨List.mem_cons_self, h2⟩
    · exact (commonAncestor_mem h).imp_left (List.mem_cons_of_mem _)

theorem commonAncestor_none (ta tb : Ty) (h : commonAncestor (DV.ofTy ta).chain (DV.ofTy tb).chain = none) :
    tySort ta ≠ tySort tb := by
  cases ta <;> cases tb <;> revert h <;> decide

theorem isDuplicateOf_core (ta tb : Ty) (xa xb : List Nat) (na nb : Nat)
    (ha : valueOfNorm ta xa na ≠ none) (hb : valueOfNorm tb xb nb ≠ none) (hxa : xa ≠ []) (hxb : xb ≠ []) :
    isDuplicateOf ⟨DV.ofTy ta, xa, na⟩ ⟨DV.ofTy tb, xb, nb⟩ = decide (valueOfNorm ta xa na = valueOfNorm tb xb nb) := by
  simp only [isDuplicateOf, List.isEmpty_eq_false_iff.2 hxa, List.isEmpty_eq_false_iff.2 hxb, Bool.false_and,
    Bool.or_false, Bool.false_eq_true, if_false]
  split
  · next anc h =>
    obtain ⟨h1, h2⟩ := commonAncestor_mem h
    rw [compareAt, valueOfNorm_anc h1 ha, valueOfNorm_anc h2 hb]
  · next h =>
    refine (decide_eq_false fun e => commonAncestor_none ta tb h ?_).symm
    cases hv : valueOfNorm ta xa na with
    | none => exact absurd hv ha
    | some v => rw [← valueOfNorm_sort ta xa na v hv, ← valueOfNorm_sort tb xb nb v (e ▸ hv)]

theorem isDuplicateOf_tv (a b : TV) (ha : a.val ≠ none) (hb : b.val ≠ none)
    (hna : wsNorm a.ty a.lex ≠ []) (hnb : wsNorm b.ty b.lex ≠ []) :
    isDuplicateOf (SV.ofTV a) (SV.ofTV b) = decide (a.val = b.val) :=
  isDuplicateOf_core a.ty b.ty _ _ a.ns b.ns ha hb hna hnb

/-- a value that can be stored for a field: valid lexical form of its type, non-empty after normalisation -/
abbrev ValidTV (a : TV) : Prop := a.val ≠ none ∧ wsNorm a.ty a.lex ≠ []

def ValidTuple (t : List SV) : Prop := ∃ tvs : List TV, t = tvs.map SV.ofTV ∧ ∀ a ∈ tvs, ValidTV a

/-- the key-sequence as members of the value spaces -/
def tupleVals (t : List SV) : List (Option Val) := t.map fun v => valueOfNorm v.dv.cmpTy v.lex v.ns

theorem vals_ofTV (a : TV) : valueOfNorm (SV.ofTV a).dv.cmpTy (SV.ofTV a).lex (SV.ofTV a).ns = a.val := by
  obtain ⟨t, l, n⟩ := a
  cases t <;> rfl

theorem tupleEquals_tvs : ∀ (as bs : List TV), (∀ a ∈ as, ValidTV a) → (∀ b ∈ bs, ValidTV b) →
    (tupleEquals (as.map SV.ofTV) (bs.map SV.ofTV) = true ↔ as.map TV.val = bs.map TV.val)
  | [], [], _, _ => iff_of_true rfl rfl
  | [], _ :: _, _, _ => iff_of_false Bool.false_ne_true (List.cons_ne_nil _ _).symm
  | _ :: _, [], _, _ => iff_of_false Bool.false_ne_true (List.cons_ne_nil _ _)
  | a :: as, b :: bs, ha, hb => by
      obtain ⟨ha, has⟩ := List.forall_mem_cons.1 ha
      obtain ⟨hb, hbs⟩ := List.forall_mem_cons.1 hb
      simp only [List.map_cons, tupleEquals, Bool.and_eq_true, isDuplicateOf_tv a b ha.1 hb.1 ha.2 hb.2,
        decide_eq_true_eq, tupleEquals_tvs as bs has hbs, List.cons.injEq]

/-- the location path ignores the subtree: an ancestor is the match (`fMatched` = XP_MATCHED / XP_MATCHED_A) or
    `fNoMatchDepth > 0` -/
def Blocked (s : PSt) : Prop := (s.matched &&& XP_MATCHED_D) = XP_MATCHED ∨ s.noMatch > 0

theorem startPath_blocked (steps : Path) (s : PSt) (nm : QName) (ats : List (QName × TV)) (h : Blocked s) :
    startPath steps s nm ats = ({ s with stack := s.cur :: s.stack, noMatch := s.noMatch + 1 }, none) := by
  have : ((s.matched &&& XP_MATCHED_D) == XP_MATCHED || decide (s.noMatch > 0)) = true := by
    rw [Bool.or_eq_true, beq_iff_eq, decide_eq_true_eq]; exact h
  rw [startPath]
  exact if_pos this

mutual
theorem run1_blocked (steps : Path) (s : PSt) (h : Blocked s) :
    ∀ t : Node, (run1 steps s t).1 = s ∧ (run1 steps s t).2.2 = []
  | .mk i nm a b ats tx kids => by
      have ih := run1s_blocked steps { s with stack := s.cur :: s.stack, noMatch := s.noMatch + 1 }
        (.inr (Nat.succ_pos _)) kids
      rw [run1, startPath_blocked steps s nm ats h]
      simp only [ih.1, ih.2, endPath, List.headD_cons, List.tail_cons, Nat.succ_pos, gt_iff_lt, if_true,
        Nat.add_sub_cancel, List.nil_append, Bool.false_eq_true, if_false, and_self]
theorem run1s_blocked (steps : Path) (s : PSt) (h : Blocked s) :
    ∀ ts : List Node, (run1s steps s ts).1 = s ∧ (run1s steps s ts).2.2 = []
  | [] => ⟨rfl, rfl⟩
  | k :: ks => by
      have ih1 := run1_blocked steps s h k
      have ih2 := run1s_blocked steps s h ks
      rw [run1s]
      simp only [ih1.1, ih1.2, ih2.1, ih2.2, List.nil_append, and_self]
end

/-- `./t1/t2/…/tn` as XercesXPath stores it -/
def simplePath (ts : List NameTest) : Path := .self :: ts.map .child

theorem takeWhile_self_child (l : List NameTest) : (l.map Step.child).takeWhile isSelf = [] := by
  cases l <;> simp [isSelf]
theorem takeWhile_desc_child (l : List NameTest) : (l.map Step.child).takeWhile isDesc = [] := by
  cases l <;> simp [isDesc]

theorem simplePath_length (ts : List NameTest) : (simplePath ts).length = ts.length + 1 := by simp [simplePath]

theorem skipSelf_zero (ts : List NameTest) : skipAxis isSelf (simplePath ts) 0 = 1 := by
  simp [skipAxis, simplePath, List.takeWhile, isSelf, takeWhile_self_child]

theorem skipSelf_succ (ts : List NameTest) (j : Nat) : skipAxis isSelf (simplePath ts) (j + 1) = j + 1 := by
  simp [skipAxis, simplePath, ← List.map_drop, takeWhile_self_child]

theorem skipDesc_succ (ts : List NameTest) (j : Nat) : skipAxis isDesc (simplePath ts) (j + 1) = j + 1 := by
  simp [skipAxis, simplePath, ← List.map_drop, takeWhile_desc_child]

theorem simplePath_get (ts : List NameTest) (j : Nat) : (simplePath ts)[j + 1]? = (ts[j]?).map Step.child := by
  simp [simplePath]

/-- `c` steps of `./t1/…/tn` consumed, read as a position in the tests `*, t1, …, tn`: the `.` step lets the context
element pass like a name test that accepts everything (it is skipped, and the first name test is not made because the
step index has moved) -/
theorem startPath_simple (ts : List NameTest) (c : Nat) (t : NameTest) (stk : List Nat) (nm : QName)
    (ats : List (QName × TV)) (hc : (NameTest.any :: ts)[c]? = some t) :
    startPath (simplePath ts) ⟨c, stk, 0, 0⟩ nm ats =
      if t.ok nm then (⟨c + 1, c :: stk, 0, if c = ts.length then 1 else 0⟩, none)
      else (⟨c, c :: stk, 1, 0⟩, none) := by
  unfold startPath
  cases c with
  | zero =>
    obtain rfl : NameTest.any = t := Option.some.inj hc
    simp only [XP_MATCHED_D, Nat.zero_and, XP_MATCHED, Nat.reduceBEq, gt_iff_lt, Nat.lt_irrefl, decide_false,
      Bool.or_self, Bool.false_eq_true, ↓reduceIte, skipSelf_zero, simplePath_length, Nat.reduceBeqDiff, beq_iff_eq,
      List.length_eq_zero_iff, Nat.zero_add, Bool.or_eq_true, decide_eq_true_eq, Bool.not_eq_eq_eq_not, Bool.not_true,
      XP_MATCHED_A, Nat.and_one_is_mod, Nat.mod_two_bne_one, NameTest.ok]
    cases ts with
    | nil => simp
    | cons t r =>
      have this : skipAxis isDesc (simplePath (t :: r)) 1 = 1 := skipDesc_succ (t :: r) 0
      simp only [simplePath, List.map_cons] at this
      simp [this, simplePath]
  | succ j =>
    replace hc : ts[j]? = some t := hc
    have hlt : j < ts.length := (List.getElem?_eq_some_iff.1 hc).1
    simp only [XP_MATCHED_D, Nat.zero_and, XP_MATCHED, Nat.reduceBEq, gt_iff_lt, Nat.lt_irrefl, decide_false,
      Bool.or_self, Bool.false_eq_true, ↓reduceIte, skipSelf_succ, simplePath_length, Nat.reduceBeqDiff, beq_iff_eq,
      skipDesc_succ, Nat.zero_add, simplePath_get, hc, Option.map_some, BEq.rfl, Bool.or_false, Bool.not_eq_eq_eq_not,
      Bool.not_true, XP_MATCHED_A, Nat.and_one_is_mod, Nat.mod_two_bne_one]
    have hne : ¬ j = ts.length := by omega
    by_cases hok : t.ok nm = true
    · simp [hok, hne]
      by_cases hn : j + 1 = ts.length
      · simp [hn]
      · have hj2 : j + 1 < ts.length := by omega
        simp [hn, simplePath_get, List.getElem?_eq_getElem hj2]
    · simp [hok, hne]

theorem endPath_noMatch (c k n m : Nat) (stk : List Nat) :
    endPath ⟨c, k :: stk, n + 1, m⟩ = (⟨k, stk, n, m⟩, false) := rfl
theorem endPath_zero (c k : Nat) (stk : List Nat) : endPath ⟨c, k :: stk, 0, 0⟩ = (⟨k, stk, 0, 0⟩, false) := rfl
theorem endPath_matched (c k : Nat) (stk : List Nat) : endPath ⟨c, k :: stk, 0, 1⟩ = (⟨k, stk, 0, 0⟩, true) := by
  simp [endPath, XP_MATCHED_A]

theorem drop_of_get {α : Type} (l : List α) (j : Nat) (x : α) (h : l[j]? = some x) : l.drop j = x :: l.drop (j + 1) := by
  obtain ⟨hlt, rfl⟩ := List.getElem?_eq_some_iff.1 h
  exact List.drop_eq_getElem_cons hlt

mutual
/-- the elements selected below a node when the tests `rest` remain (`rest` non-empty, the first one is for the node) -/
def hits : List NameTest → Node → List Nat
  | rest, .mk i nm _ _ _ _ kids =>
    match rest with
    | [] => []
    | t :: r => if t.ok nm then (if r.isEmpty then [i] else hitsKids r kids) else []
def hitsKids : List NameTest → List Node → List Nat
  | _, [] => []
  | rest, k :: ks => hits rest k ++ hitsKids rest ks
end

mutual
theorem run1_simple (ts : List NameTest) : ∀ (node : Node) (c : Nat) (t : NameTest) (stk : List Nat),
    (NameTest.any :: ts)[c]? = some t →
    (run1 (simplePath ts) ⟨c, stk, 0, 0⟩ node).1 = ⟨c, stk, 0, 0⟩ ∧
    (run1 (simplePath ts) ⟨c, stk, 0, 0⟩ node).2.2 = (hits ((NameTest.any :: ts).drop c) node).map fun i => (i, none)
  | .mk i nm a b ats tx kids, c, t, stk, hc => by
      have hlt : c < ts.length + 1 := (List.getElem?_eq_some_iff.1 hc).1
      rw [run1, startPath_simple ts c t stk nm ats hc, drop_of_get _ c t hc, hits]
      cases t.ok nm with
      | false =>
        have ih := run1s_blocked (simplePath ts) ⟨c, c :: stk, 1, 0⟩ (.inr Nat.one_pos) kids
        simp only [Bool.false_eq_true, if_false, ih.1, ih.2, endPath_noMatch, List.nil_append, List.map_nil, and_self]
      | true =>
        by_cases hn : c = ts.length
        · have ih := run1s_blocked (simplePath ts) ⟨c + 1, c :: stk, 0, 1⟩
            (.inl (show 1 &&& XP_MATCHED_D = XP_MATCHED by decide)) kids
          simp only [if_true, if_pos hn, ih.1, ih.2, endPath_matched, List.nil_append,
            List.drop_eq_nil_of_le (Nat.le_of_eq (congrArg (· + 1) hn.symm) : (NameTest.any :: ts).length ≤ c + 1),
            List.isEmpty_nil, List.map_cons, List.map_nil, and_self]
        · have hg := List.getElem?_eq_getElem (l := NameTest.any :: ts) (i := c + 1) (by rw [List.length_cons]; omega)
          have ih := run1s_simple ts kids (c + 1) _ (c :: stk) hg
          simp only [if_true, if_neg hn, ih.1, ih.2, endPath_zero, List.nil_append, List.append_nil,
            drop_of_get _ (c + 1) _ hg, List.isEmpty_cons, Bool.false_eq_true, if_false, true_and]
theorem run1s_simple (ts : List NameTest) : ∀ (nodes : List Node) (c : Nat) (t : NameTest) (stk : List Nat),
    (NameTest.any :: ts)[c]? = some t →
    (run1s (simplePath ts) ⟨c, stk, 0, 0⟩ nodes).1 = ⟨c, stk, 0, 0⟩ ∧
    (run1s (simplePath ts) ⟨c, stk, 0, 0⟩ nodes).2.2 =
      (hitsKids ((NameTest.any :: ts).drop c) nodes).map fun i => (i, none)
  | [], c, t, stk, hc => ⟨rfl, rfl⟩
  | k :: ks, c, t, stk, hc => by
      have ih1 := run1_simple ts k c t stk hc
      have ih2 := run1s_simple ts ks c t stk hc
      rw [run1s, hitsKids]
      simp only [ih1.1, ih1.2, ih2.1, ih2.2, List.map_append, and_self]
end

theorem run1_alive (ts : List NameTest) : ∀ (node : Node) (j : Nat) (t : NameTest) (stk : List Nat), ts[j]? = some t →
    (run1 (simplePath ts) ⟨j + 1, stk, 0, 0⟩ node).1 = ⟨j + 1, stk, 0, 0⟩ ∧
    (run1 (simplePath ts) ⟨j + 1, stk, 0, 0⟩ node).2.2 = (hits (ts.drop j) node).map fun i => (i, none) :=
  fun node j t stk hj => run1_simple ts node (j + 1) t stk hj

theorem pathMatches_children_nil (ts : List NameTest) (tgt : Option QName) :
    pathMatches (ts.map Step.child) [] tgt = (ts.isEmpty && tgt.isNone) := by
  cases ts <;> simp [pathMatches]

theorem pathMatches_nil_cons (q : QName) (c : List QName) (tgt : Option QName) : pathMatches [] (q :: c) tgt = false := by
  simp [pathMatches]

theorem pathMatches_child_cons (t : NameTest) (p : Path) (q : QName) (c : List QName) (tgt : Option QName) :
    pathMatches (Step.child t :: p) (q :: c) tgt = (t.ok q && pathMatches p c tgt) := by
  simp [pathMatches]

mutual
theorem descs_last : ∀ (k : Node), ∀ p ∈ k.descs, (k.name :: p.1).getLast? = some p.2.name
  | .mk i nm a b ats tx kids, p, hp => by
      unfold Node.descs at hp
      rcases List.mem_cons.mp hp with h | h
      · subst h; simp [Node.name]
      · have := descsKids_last kids p h
        obtain ⟨hne, hl⟩ := this
        cases hc : p.1 with
        | nil => exact absurd hc hne
        | cons q c => rw [hc] at hl; simp [List.getLast?_cons_cons, hl]
theorem descsKids_last : ∀ (ks : List Node), ∀ p ∈ descsKids ks, p.1 ≠ [] ∧ p.1.getLast? = some p.2.name
  | [], p, hp => by simp [descsKids] at hp
  | k :: ks, p, hp => by
      unfold descsKids at hp
      rcases List.mem_append.mp hp with h | h
      · rcases List.mem_map.mp h with ⟨x, hx, rfl⟩
        exact ⟨by simp, descs_last k x hx⟩
      · exact descsKids_last ks p h
end

theorem filter_nil_path_kids (ks : List Node) :
    (descsKids ks).filter (fun p => pathMatches [] p.1 none) = [] := by
  refine List.filter_eq_nil_iff.2 fun p hp => ?_
  obtain ⟨q, c, h⟩ := List.exists_cons_of_ne_nil (descsKids_last ks p hp).1
  rw [h, pathMatches_nil_cons]
  exact Bool.false_ne_true

theorem filter_prefix (l : List (List QName × Node)) (q : QName) (t : NameTest) (rest : Path) :
    ((l.map fun p => (q :: p.1, p.2)).filter fun p => pathMatches (Step.child t :: rest) p.1 none)
      = if t.ok q then (l.filter fun p => pathMatches rest p.1 none).map (fun p => (q :: p.1, p.2)) else [] := by
  rw [List.filter_map]
  cases h : t.ok q
  · simp only [Function.comp_def, pathMatches_child_cons, h, Bool.false_and, Bool.false_eq_true, if_false,
      List.map_eq_nil_iff, List.filter_eq_nil_iff, not_false_eq_true, implies_true]
  · simp only [Function.comp_def, pathMatches_child_cons, h, Bool.true_and, if_true]

mutual
theorem hits_spec : ∀ (k : Node) (t : NameTest) (r : List NameTest),
    (((k.descs.map fun p => (k.name :: p.1, p.2)).filter fun p => pathMatches ((t :: r).map Step.child) p.1 none).map fun p => p.2.id)
      = hits (t :: r) k
  | .mk i nm a b ats tx kids, t, r => by
      rw [List.map_cons, filter_prefix]
      unfold hits Node.descs
      simp only [Node.name]
      by_cases hok : t.ok nm = true
      · simp only [hok, if_true, List.filter_cons, pathMatches_children_nil]
        cases r with
        | nil =>
          have := filter_nil_path_kids kids
          simp only [List.map_nil] at this ⊢
          simp [this, Node.id]
        | cons t' r' =>
          have ih := hitsKids_spec kids t' r'
          simp [List.map_map, Function.comp_def]
          exact ih
      · simp [hok]
theorem hitsKids_spec : ∀ (ks : List Node) (t : NameTest) (r : List NameTest),
    (((descsKids ks).filter fun p => pathMatches ((t :: r).map Step.child) p.1 none).map fun p => p.2.id)
      = hitsKids (t :: r) ks
  | [], t, r => by simp [descsKids, hitsKids]
  | k :: ks, t, r => by
      unfold descsKids hitsKids
      rw [List.filter_append, List.map_append, hits_spec k t r, hitsKids_spec ks t r]
end

/-- `.//t` as XercesXPath stores it -/
def descPath (t : NameTest) : Path := [.self, .desc, .child t]

/-- the states a `.//t` location path is in between elements -/
def DState (s : PSt) : Prop := s.cur = 1 ∧ s.noMatch = 0 ∧ (s.matched = 0 ∨ s.matched = 5 ∨ s.matched = 13)

theorem skipSelf_desc1 (t : NameTest) : skipAxis isSelf (descPath t) 1 = 1 := rfl
theorem skipDesc_desc1 (t : NameTest) : skipAxis isDesc (descPath t) 1 = 2 := rfl
theorem skipSelf_desc0 (t : NameTest) : skipAxis isSelf (descPath t) 0 = 1 := rfl
theorem descPath_length (t : NameTest) : (descPath t).length = 3 := rfl
theorem descPath_get2 (t : NameTest) : (descPath t)[2]? = some (.child t) := rfl

/-- one `startElement` of `.//t`, from `DState` or from the fresh state in which the context element is met (`cur = 0`:
the `.` step is skipped first).  5 = XP_MATCHED_D, 13 = XP_MATCHED_DP (an ancestor matched). -/
theorem startPath_desc (t : NameTest) (s : PSt) (nm : QName) (ats : List (QName × TV)) (hc : s.cur ≤ 1)
    (hn : s.noMatch = 0) (hm : s.matched = 0 ∨ s.matched = 5 ∨ s.matched = 13) :
    startPath (descPath t) s nm ats =
      (⟨1, s.cur :: s.stack, 0, if t.ok nm then 5 else (if s.matched = 0 then 0 else 13)⟩, none) := by
  obtain ⟨cur, stack, noMatch, matched⟩ := s
  simp only at hc hn hm
  subst hn
  unfold startPath
  rcases Nat.le_one_iff_eq_zero_or_eq_one.1 hc with rfl | rfl <;>
    rcases hm with hm | hm | hm <;> subst hm <;>
      by_cases hok : t.ok nm = true <;>
      simp [XP_MATCHED, XP_MATCHED_D, XP_MATCHED_DP, skipSelf_desc0, skipSelf_desc1, skipDesc_desc1, descPath_length,
        descPath_get2, hok]

theorem endPath_desc (s : PSt) (k : Nat) (stk : List Nat) (hs : s.stack = k :: stk) (hn : s.noMatch = 0)
    (hm : s.matched = 0 ∨ s.matched = 5 ∨ s.matched = 13) :
    (endPath s).1 = ⟨k, stk, 0, 0⟩ := by
  obtain ⟨cur, stack, noMatch, matched⟩ := s
  subst hs hn
  rcases hm with hm | hm | hm <;> subst hm <;> simp [endPath, XP_MATCHED_A]

mutual
theorem run1_desc_from (t : NameTest) : ∀ (node : Node) (s : PSt), s.cur ≤ 1 → s.noMatch = 0 →
    (s.matched = 0 ∨ s.matched = 5 ∨ s.matched = 13) →
    (run1 (descPath t) s node).1 = ⟨s.cur, s.stack, 0, 0⟩ ∧
    (run1 (descPath t) s node).2.1.map (fun x => x.matched == 5) = node.descs.map (fun p => t.ok p.2.name)
  | .mk i nm a b ats tx kids, s, hc, hn, hm => by
      have hm5 : ((if t.ok nm then 5 else if s.matched = 0 then 0 else 13) == 5) = t.ok nm := by
        cases t.ok nm
        · rcases hm with h | h | h <;> rw [h] <;> rfl
        · rfl
      have hs1 : DState ⟨1, s.cur :: s.stack, 0, if t.ok nm then 5 else if s.matched = 0 then 0 else 13⟩ :=
        ⟨rfl, rfl, by cases t.ok nm; by_cases h : s.matched = 0 <;> simp [h]; exact .inr (.inl rfl)⟩
      obtain ⟨hd, hst, hf⟩ := run1s_desc t kids _ hs1
      rw [run1, Node.descs, startPath_desc t s nm ats hc hn hm]
      exact ⟨endPath_desc _ s.cur s.stack hst hd.2.1 hd.2.2, by rw [List.map_cons, List.map_cons, hf, hm5]; rfl⟩
theorem run1s_desc (t : NameTest) : ∀ (nodes : List Node) (s : PSt), DState s →
    DState (run1s (descPath t) s nodes).1 ∧ (run1s (descPath t) s nodes).1.stack = s.stack ∧
    (run1s (descPath t) s nodes).2.1.map (fun x => x.matched == 5) = (descsKids nodes).map (fun p => t.ok p.2.name)
  | [], s, hs => ⟨hs, rfl, rfl⟩
  | k :: ks, s, hs => by
      have ih1 := run1_desc_from t k s (Nat.le_of_eq hs.1) hs.2.1 hs.2.2
      have ih2 := run1s_desc t ks ⟨1, s.stack, 0, 0⟩ ⟨rfl, rfl, .inl rfl⟩
      rw [run1s, descsKids, ih1.1, hs.1]
      exact ⟨ih2.1, ih2.2.1, by rw [List.map_append, ih1.2, ih2.2.2, List.map_append, List.map_map]; rfl⟩
end

theorem run1_desc (t : NameTest) : ∀ (node : Node) (s : PSt), DState s →
    (run1 (descPath t) s node).1 = ⟨1, s.stack, 0, 0⟩ ∧
    (run1 (descPath t) s node).2.1.map (fun x => x.matched == 5) = node.descs.map (fun p => t.ok p.2.name) :=
  fun node s hs => hs.1 ▸ run1_desc_from t node s (Nat.le_of_eq hs.1) hs.2.1 hs.2.2

theorem anySuffix_last (t : NameTest) (c : List QName) :
    anySuffix (fun c' => pathMatches [Step.child t] c' none) c = (match c.getLast? with | some q => t.ok q | none => false) := by
  fun_induction anySuffix (fun c' => pathMatches [Step.child t] c' none) c with
  | case1 => simp [pathMatches]
  | case2 q c ih => cases c <;> simp_all [pathMatches, List.getLast?_cons_cons, anySuffix]

theorem pathMatches_desc (t : NameTest) (c : List QName) :
    pathMatches (descPath t) c none = (match c.getLast? with | some q => t.ok q | none => false) := by
  unfold descPath
  simp only [pathMatches]
  exact anySuffix_last t c

/-- the calls a FieldMatcher makes inside one value scope when every field matches at most once:
    `addValue` for the fields that are present, in field order -/
def addRow (s : VStore) : Nat → List (Option SV) → VStore × List Nat
  | _, [] => (s, [])
  | idx, none :: r => addRow s (idx + 1) r
  | idx, some v :: r =>
      let a := s.addValue true idx v
      let b := addRow a.1 (idx + 1) r
      (b.1, a.2 ++ b.2)

/-- startValueScope … addValue* … endValueScope for one selected node -/
def scopeRun (s : VStore) (row : List (Option SV)) : VStore × List Nat :=
  let r := addRow s.startValueScope 0 row
  (r.1, r.2 ++ r.1.endValueScope)

/-- all selected nodes of one scope element, in document order -/
def storeRun (s : VStore) : List (List (Option SV)) → VStore × List Nat
  | [] => (s, [])
  | row :: rows =>
      let a := scopeRun s row
      let b := storeRun a.1 rows
      (b.1, a.2 ++ b.2)

def somes (l : List (Option SV)) : Nat := (l.filter Option.isSome).length

theorem somes_le (l : List (Option SV)) : somes l ≤ l.length := List.length_filter_le _ _

theorem somes_none (l : List (Option SV)) : somes (none :: l) = somes l := rfl
theorem somes_some (v : SV) (l : List (Option SV)) : somes (some v :: l) = somes l + 1 := rfl

theorem somes_append (a b : List (Option SV)) : somes (a ++ b) = somes a + somes b := by
  simp only [somes, List.filter_append, List.length_append]

theorem somes_replicate (n : Nat) : somes (List.replicate n none) = 0 := by
  simp [somes]

theorem allPresent_of_mem {l : List (Option SV)} (h : none ∈ l) : allPresent l = none := by
  fun_induction allPresent l <;> simp_all

theorem allPresent_some_iff (l : List (Option SV)) : (∃ t, allPresent l = some t) ↔ somes l = l.length := by
  fun_induction allPresent l with
  | case1 => simp [somes]
  | case2 tl => have := somes_le tl; simp [somes_none]; omega
  | case3 v r ih =>
    rw [somes_some, List.length_cons, Nat.add_right_cancel_iff, ← ih]
    cases allPresent r <;> simp

def dupCode : Kind → List Nat
  | .unique => [IC_DuplicateUnique]
  | .key => [IC_DuplicateKey]
  | .keyref _ => []

/-- a value for an empty slot while the count is the number of filled slots: the count reaches the number of fields
exactly when no slot is left empty, so the tuple is looked up and put iff the values have become complete -/
theorem addValue_empty (k : Kind) (n : Nat) (T : List (List SV)) (done tl : List (Option SV)) (v : SV) :
    VStore.addValue ⟨k, n, done ++ none :: tl, somes (done ++ none :: tl), T⟩ true done.length v =
      match allPresent (done ++ some v :: tl) with
      | some t => (⟨k, n, done ++ some v :: tl, somes (done ++ some v :: tl), putTuple T t⟩,
          if containsTuple T t then dupCode k else [])
      | none => (⟨k, n, done ++ some v :: tl, somes (done ++ some v :: tl), T⟩, []) := by
  have hlen : ¬ done.length ≥ done.length + (tl.length + 1) := by omega
  have hget : ((done ++ none :: tl).getD done.length none).isNone = true := by
    rw [List.getD_eq_getElem?_getD, List.getElem?_append_right (Nat.le_refl _), Nat.sub_self]; rfl
  have hset : (done ++ none :: tl).set done.length (some v) = done ++ some v :: tl := by
    rw [List.set_append_right _ _ (Nat.le_refl _), Nat.sub_self]; rfl
  have hc : somes (done ++ none :: tl) + 1 = somes (done ++ some v :: tl) := by
    simp only [somes_append, somes_none, somes_some, Nat.add_assoc]
  simp only [VStore.addValue, hlen, if_false, hget, if_true, hset, hc, Bool.not_true, Bool.false_eq_true, List.nil_append,
    beq_iff_eq, List.length_append, List.length_cons]
  cases hall : allPresent (done ++ some v :: tl) with
  | none => split <;> rfl
  | some t =>
    have := (allPresent_some_iff _).1 ⟨t, hall⟩
    simp only [List.length_append, List.length_cons] at this
    rw [if_pos this]
    cases k <;> rfl

/-- what `endValueScope` reports for a key whose row is incomplete -/
def missingCode (row : List (Option SV)) : Nat :=
  if somes row = 0 then IC_AbsentKeyValue else IC_KeyNotEnoughValues

theorem addRow_spec (k : Kind) (n : Nat) (T : List (List SV)) : ∀ (rest done : List (Option SV)), rest ≠ [] →
    addRow ⟨k, n, done ++ List.replicate rest.length none, somes (done ++ List.replicate rest.length none), T⟩
        done.length rest =
      match allPresent (done ++ rest) with
      | some t => (⟨k, n, done ++ rest, somes (done ++ rest), putTuple T t⟩, if containsTuple T t then dupCode k else [])
      | none => (⟨k, n, done ++ rest, somes (done ++ rest), T⟩, [])
  | [none], done, _ => by rw [allPresent_of_mem (by simp)]; rfl
  | [some v], done, _ => by
    rw [addRow, addRow, List.length_singleton, List.replicate_one, addValue_empty]
    split <;> simp only [List.append_nil]
  | none :: y :: r, done, _ => by
    have ih := addRow_spec k n T (y :: r) (done ++ [none]) (List.cons_ne_nil _ _)
    simp only [List.append_assoc, List.singleton_append, List.length_append, List.length_singleton] at ih
    rw [addRow, List.length_cons, List.replicate_succ]
    exact ih
  | some v :: y :: r, done, _ => by
    have ih := addRow_spec k n T (y :: r) (done ++ [some v]) (List.cons_ne_nil _ _)
    simp only [List.append_assoc, List.singleton_append, List.length_append, List.length_singleton] at ih
    rw [addRow, List.length_cons, List.replicate_succ, addValue_empty, allPresent_of_mem (by simp)]
    exact ih

theorem scopeRun_spec (s : VStore) (row : List (Option SV)) (h : row.length = s.nFields) (hpos : 0 < s.nFields) :
    scopeRun s row = match allPresent row with
      | some t => ({ s with values := row, count := s.nFields, tuples := putTuple s.tuples t },
          if containsTuple s.tuples t then dupCode s.kind else [])
      | none => ({ s with values := row, count := somes row }, if s.kind = .key then [missingCode row] else []) := by
  obtain ⟨k, n, vals, c, T⟩ := s
  subst h
  have hne : row ≠ [] := fun e => by subst e; exact Nat.lt_irrefl 0 hpos
  have e := addRow_spec k row.length T row [] hne
  simp only [List.nil_append, List.length_nil, somes_replicate] at e
  simp only [scopeRun, VStore.startValueScope, e, VStore.endValueScope]
  cases hall : allPresent row with
  | some t =>
    have := (allPresent_some_iff _).1 ⟨t, hall⟩
    simp [this, hne]
  | none =>
    have hn : somes row ≠ row.length := fun h => by
      obtain ⟨t, ht⟩ := (allPresent_some_iff _).2 h
      rw [hall] at ht; cases ht
    by_cases hk : k = .key <;> by_cases h0 : somes row = 0 <;> simp [hk, h0, hn, missingCode]

/-- a value already held, or two equal ones, among those to come: the first is held, or one of the later ones clashes
with what is held once the first is -/
theorem clash_cons {β : Type} {x : β} {H H' L : List β} (hH : ∀ y, y ∈ H' ↔ y = x ∨ y ∈ H) :
    (∃ y ∈ x :: L, y ∈ H) ∨ ¬ (x :: L).Nodup ↔ x ∈ H ∨ (∃ y ∈ L, y ∈ H') ∨ ¬ L.Nodup := by
  grind [List.nodup_cons]

section keys
variable {β : Type} (P : List SV → Prop) (f : List SV → β)

/-- on the tuples satisfying `P`, ICValueHasher::equals is equality of `f` (for `f` = the sequence of denoted values
    this is `XV.Props.C10.tupleEquals_value`) -/
def EqVia : Prop := ∀ t u, P t → P u → (tupleEquals t u = true ↔ f t = f u)

theorem containsTuple_iff (hf : EqVia P f) (T : List (List SV)) (hT : ∀ u ∈ T, P u) (t : List SV) (ht : P t) :
    containsTuple T t = true ↔ f t ∈ T.map f := by
  simp only [containsTuple, List.any_eq_true, List.mem_map]
  exact exists_congr fun u => and_congr_right fun hu => hf u t (hT u hu) ht

theorem putTuple_mem (hf : EqVia P f) (T : List (List SV)) (hT : ∀ u ∈ T, P u) (t : List SV) (ht : P t) :
    (∀ u ∈ putTuple T t, P u) ∧ ∀ x, x ∈ (putTuple T t).map f ↔ (x = f t ∨ x ∈ T.map f) := by
  rw [putTuple]
  split
  · next hc =>
    -- an `equals` tuple is replaced by `t`: the `f`-values stay as they are
    have hmap : (T.map fun u => if tupleEquals u t then t else u).map f = T.map f := by
      rw [List.map_map]
      refine List.map_congr_left fun u hu => ?_
      show f (if tupleEquals u t = true then t else u) = f u
      split
      · next he => exact ((hf u t (hT u hu) ht).1 he).symm
      · rfl
    refine ⟨fun u hu => ?_, fun x => ?_⟩
    · obtain ⟨w, hw, rfl⟩ := List.mem_map.1 hu
      split
      · exact ht
      · exact hT w hw
    · rw [hmap]
      exact ⟨.inr, fun h => h.elim (· ▸ (containsTuple_iff P f hf T hT t ht).1 hc) id⟩
  · refine ⟨fun u hu => (List.mem_append.1 hu).elim (hT u) fun h => List.mem_singleton.1 h ▸ ht, fun x => ?_⟩
    rw [List.map_append, List.mem_append, List.map_singleton, List.mem_singleton, or_comm]

def fullTuples (rows : List (List (Option SV))) : List (List SV) := rows.filterMap allPresent

/-- what a store run reports and holds, in terms of `f`: every code, for every kind, from any start store (which the
induction over the rows needs) -/
theorem storeRun_sem (hf : EqVia P f) : ∀ (rows : List (List (Option SV))) (s : VStore),
    (∀ r ∈ rows, r.length = s.nFields) → 0 < s.nFields → (∀ u ∈ s.tuples, P u) → (∀ t ∈ fullTuples rows, P t) →
    (∀ c, c ∈ (storeRun s rows).2 ↔
      (c ∈ dupCode s.kind ∧
        ((∃ y ∈ (fullTuples rows).map f, y ∈ s.tuples.map f) ∨ ¬ ((fullTuples rows).map f).Nodup)) ∨
      (s.kind = .key ∧ ∃ r ∈ rows, allPresent r = none ∧ c = missingCode r)) ∧
    (∀ u ∈ (storeRun s rows).1.tuples, P u) ∧
    ∀ x, x ∈ (storeRun s rows).1.tuples.map f ↔ x ∈ s.tuples.map f ∨ x ∈ (fullTuples rows).map f
  | [], s, _, _, hT, _ => ⟨by simp [storeRun, fullTuples], hT, by simp [storeRun, fullTuples]⟩
  | row :: rows, s, hl, hpos, hT, hR => by
    obtain ⟨hrow, hrows⟩ := List.forall_mem_cons.1 hl
    have h := scopeRun_spec s row hrow hpos
    have ih := storeRun_sem hf rows (scopeRun s row).1
    rw [storeRun]
    rw [fullTuples, List.filterMap_cons] at hR ⊢
    cases hall : allPresent row with
    | none =>
      simp only [hall] at h hR
      simp only [h] at ih ⊢
      obtain ⟨i1, i2, i3⟩ := ih hrows hpos hT hR
      refine ⟨fun c => ?_, i2, i3⟩
      rw [List.mem_append, i1, List.mem_ite_nil_right, List.mem_singleton]
      simp only [hall, List.mem_cons, exists_eq_or_imp, true_and]
      exact or_left_comm.trans (or_congr_right and_or_left.symm)
    | some t =>
      simp only [hall] at h hR
      simp only [h] at ih ⊢
      obtain ⟨ht, hR⟩ := List.forall_mem_cons.1 hR
      obtain ⟨p1, p2⟩ := putTuple_mem P f hf s.tuples hT t ht
      obtain ⟨i1, i2, i3⟩ := ih hrows hpos p1 hR
      refine ⟨fun c => ?_, i2, fun x => by rw [i3, p2, List.map_cons, List.mem_cons, or_assoc, or_left_comm]; rfl⟩
      rw [List.mem_append, i1, List.mem_ite_nil_right, containsTuple_iff P f hf _ hT t ht, List.map_cons, clash_cons p2]
      -- what is left: `c ∈ dupCode` over the disjunction, and a complete row reports no missing code
      simp only [and_or_left, and_comm (b := c ∈ dupCode s.kind), or_assoc, List.mem_cons, exists_eq_or_imp, hall,
        reduceCtorEq, false_and, false_or, fullTuples]

/-- `storeRun_sem` for the store a scope element starts with -/
theorem storeRun_fresh (hf : EqVia P f) (kind : Kind) (n : Nat) (hn : 0 < n) (rows : List (List (Option SV)))
    (hlen : ∀ r ∈ rows, r.length = n) (hP : ∀ t ∈ fullTuples rows, P t) :
    (∀ c, c ∈ (storeRun { kind := kind, nFields := n } rows).2 ↔
      (c ∈ dupCode kind ∧ ¬ ((fullTuples rows).map f).Nodup) ∨
      (kind = .key ∧ ∃ r ∈ rows, allPresent r = none ∧ c = missingCode r)) ∧
    (∀ u ∈ (storeRun { kind := kind, nFields := n } rows).1.tuples, P u) ∧
    ∀ x, x ∈ (storeRun { kind := kind, nFields := n } rows).1.tuples.map f ↔ x ∈ (fullTuples rows).map f := by
  simpa only [List.map_nil, List.not_mem_nil, and_false, exists_false, false_or] using
    storeRun_sem P f hf rows { kind := kind, nFields := n } hlen hn (fun _ h => absurd h List.not_mem_nil) hP

theorem mem_keyrefCheck (hf : EqVia P f) (K R : List (List SV)) (hK : ∀ u ∈ K, P u) (hR : ∀ t ∈ R, P t) :
    IC_KeyNotFound ∈ keyrefCheck R (some K) ↔ ∃ t ∈ R, f t ∉ K.map f := by
  simp only [keyrefCheck, List.mem_map, List.mem_filter, Bool.not_eq_true', and_true, ← Bool.not_eq_true]
  exact exists_congr fun t => and_congr_right fun ht =>
    not_congr ((containsTuple_iff P f hf K hK t (hR t ht)).trans List.mem_map)
end keys

theorem not_nodup_iff {α : Type} (l : List α) :
    ¬ l.Nodup ↔ ∃ i j, ∃ (hi : i < l.length) (hj : j < l.length), i < j ∧ l[i] = l[j] := by
  simp only [List.Nodup, List.pairwise_iff_getElem, ne_eq, Classical.not_forall, Classical.not_not, exists_prop]

/-- keys and references arriving interleaved in one scope: each event goes to its own store -/
def interleavedRun (ks rs : VStore) : List (Bool × List (Option SV)) → VStore × VStore
  | [] => (ks, rs)
  | (true, row) :: evs => interleavedRun (scopeRun ks row).1 rs evs
  | (false, row) :: evs => interleavedRun ks (scopeRun rs row).1 evs

theorem interleavedRun_eq (ks rs : VStore) (evs : List (Bool × List (Option SV))) :
    interleavedRun ks rs evs =
      ((storeRun ks (evs.filterMap fun e => if e.1 then some e.2 else none)).1,
       (storeRun rs (evs.filterMap fun e => if e.1 then none else some e.2)).1) := by
  fun_induction interleavedRun ks rs evs <;> simp [storeRun, *]

theorem hasDup_false_iff : ∀ l : List (List Val), hasDup l = false ↔ Distinct l
  | [] => ⟨fun _ => List.Pairwise.nil, fun _ => rfl⟩
  | t :: r => by
    simp only [hasDup, Bool.or_eq_false_iff, hasDup_false_iff r, Distinct, List.pairwise_cons, List.contains_eq_mem,
      decide_eq_false_iff_not, List.forall_mem_ne]

theorem append_eq_nil4 {α : Type} (a b c d : List α) : a ++ b ++ c ++ d = [] ↔ a = [] ∧ b = [] ∧ c = [] ∧ d = [] := by
  simp only [List.append_eq_nil_iff, and_assoc]

theorem ite_list_nil {α : Type} (c : Bool) (x : α) : (if c = true then [x] else []) = [] ↔ c = false := by
  cases c <;> simp only [Bool.false_eq_true, if_false, if_true, reduceCtorEq]

theorem vals_complete_iff (l : List (Option Val)) (hl : l ≠ []) :
    (l.all Option.isNone = false ∧ (l.any Option.isNone && l.any Option.isSome) = false) ↔ ∀ v ∈ l, v ≠ none := by
  have hall : l.all Option.isNone = !l.any Option.isSome := by
    rw [List.all_eq_not_any_not]; congr; funext x; cases x <;> rfl
  have hnone : l.any Option.isNone = false ↔ ∀ v ∈ l, v ≠ none := by
    simp only [List.any_eq_false, Option.isNone_iff_eq_none, ne_eq]
  have hsome : l.any Option.isNone = false → l.any Option.isSome = true := fun h =>
    match l, hl with
    | none :: _, _ => absurd rfl (hnone.1 h none List.mem_cons_self)
    | some _ :: _, _ => rfl
  rw [hall, ← hnone]
  revert hsome
  generalize l.any Option.isNone = a, l.any Option.isSome = b
  cases a <;> cases b <;> decide

theorem rows_vals_ne (ic : IC) (e : Node) (hf : ic.fields ≠ []) : ∀ r ∈ rows ic e, r.vals ≠ [] := by
  intro r hr
  obtain ⟨t, _, rfl⟩ := List.mem_map.1 hr
  simpa only [Row.vals, ne_eq, List.map_eq_nil_iff] using hf

theorem violationsAt_nil_iff (cs : List IC) (ic : IC) (e : Node) (hf : ic.fields ≠ []) :
    violationsAt cs ic e = [] ↔ HoldsAt cs ic e := by
  have hmulti : ∀ r : Row, r.multi = false ↔ ∀ h ∈ r.hits, h.length ≤ 1 := fun r => by
    simp only [Row.multi, List.any_eq_false, decide_eq_true_eq, Nat.not_lt]
  simp only [violationsAt, HoldsAt, List.append_eq_nil_iff, ite_list_nil, List.any_eq_false, Bool.not_eq_true, hmulti]
  refine and_congr_right fun hm => ?_
  cases hk : ic.kind with
  | unique => simp only [ite_list_nil, hasDup_false_iff]
  | key =>
    simp only [List.append_eq_nil_iff, ite_list_nil, List.any_eq_false, Bool.not_eq_true, hasDup_false_iff, and_assoc,
      ← forall_and]
    refine and_congr_left' (forall₂_congr fun r hr => ?_)
    rw [(hmulti r).2 (hm r hr), Bool.not_false, Bool.true_and, Bool.true_and, ← and_assoc,
      vals_complete_iff r.vals (rows_vals_ne ic e hf r hr)]
  | keyref refer =>
    simp only []
    generalize (entries ic e).map (·.1) = L
    cases L with
    | nil => exact iff_of_true (by cases findIC cs refer <;> rfl) (fun _ h => nomatch h)
    | cons t0 L =>
      have hex : ∀ k, (∀ t ∈ t0 :: L, ∃ k', some k = some k' ∧ tableExists k' e = true ∧ ∃ ent ∈ table k' e, ent.1 = t) ↔
          tableExists k e = true ∧ ∀ t ∈ t0 :: L, t ∈ (table k e).map (·.1) := fun k => by
        simp only [Option.some.injEq, exists_eq_left', List.mem_map]
        exact ⟨fun h => ⟨(h t0 List.mem_cons_self).1, fun t ht => (h t ht).2⟩, fun h t ht => ⟨h.1, h.2 t ht⟩⟩
      cases hfi : findIC cs refer with
      | none => exact iff_of_false (fun h => nomatch h) (fun h => (h t0 List.mem_cons_self).elim fun _ h => nomatch h.1)
      | some k =>
        rw [hex k]
        simp only [List.isEmpty_cons, Bool.false_eq_true, if_false]
        cases tableExists k e with
        | false => exact iff_of_false (fun h => nomatch h) (fun h => nomatch h.1)
        | true =>
          simp only [Bool.not_true, Bool.false_eq_true, if_false, ite_list_nil, List.any_eq_false, Bool.not_eq_true,
            Bool.not_eq_false', List.contains_eq_mem, decide_eq_true_eq, true_and]

mutual
theorem table_no_scope (k : IC) : ∀ (n : Node), (∀ p ∈ n.descs, p.2.name ≠ k.scope) → table k n = []
  | .mk i nm a b ats tx kids, h => by
      rw [Node.descs] at h
      obtain ⟨h0, hk⟩ := List.forall_mem_cons.1 h
      rw [table, if_neg fun e => h0 e.symm, tableKids_no_scope k kids hk]
      rfl
theorem tableKids_no_scope (k : IC) : ∀ (ns : List Node), (∀ p ∈ descsKids ns, p.2.name ≠ k.scope) → tableKids k ns = []
  | [], _ => rfl
  | c :: cs, h => by
      rw [descsKids] at h
      rw [tableKids, table_no_scope k c fun p hp =>
          h (c.name :: p.1, p.2) (List.mem_append_left _ (List.mem_map.2 ⟨p, hp, rfl⟩)),
        tableKids_no_scope k cs fun p hp => h p (List.mem_append_right _ hp)]
      rfl
end

end XV.Lemmas.Identity
