/-
C14 — DOMRangeImpl::compareBoundaryPoints against the order of the linearised tree.  In the linearisation `bpKey` a subtree
occupies an interval: the points below the child number `i` of `q` lie strictly between (q, i) and (q, i + 1) (`child_span`),
so the intervals of the children lie side by side inside that of their parent.  Each of the four cases of the code's pointer
walks places the two points by that and by monotonicity in the offset (`cmpPoints_key`); the document order is the order of
the points (x, 0).  `TextLeaves` is assumed because under a character-data parent `innerPos` counts code units, not children.
-/
import XV.Lemmas.Views
namespace XV.Lemmas.ViewsOrder
open XV.Model.Dom XV.Spec.Dom XV.Model.Views XV.Spec.Views XV.Lemmas.Dom XV.Lemmas.Views

/-- character data has no children: a hypothesis of the order theorems (insertBefore refuses such a parent; that every
reachable store satisfies it is not proved) -/
def TextLeaves (s : Store) : Prop := ∀ x, textLike s x = true → kids s x = []

theorem textLeaves_of_bounded (s : Store) (hb : ∀ x, x < s.size → textLike s x = true → kids s x = []) : TextLeaves s := by
  intro x hx
  by_cases hlt : x < s.size
  · exact hb x hlt hx
  · have : s.get x = none := get_ge_size s x (Nat.le_of_not_lt hlt)
    unfold textLike at hx
    rw [this] at hx
    cases hx

theorem parent_not_text {s : Store} (htl : TextLeaves s) {q c : NodeId} (hc : c ∈ kids s q) : textLike s q = false := by
  cases ht : textLike s q with
  | false => rfl
  | true => rw [htl q ht] at hc; cases hc

theorem weight_unfold {s : Store} (h : WF s) (n : NodeId) :
    weight s n = if textLike s n then 2 + (dataOf s n).length else 2 + ((kids s n).map (weight s)).sum :=
  fuel_fix (exists_descends h).1 (weightFuel s)
    (fun g n => if textLike s n then 2 + (dataOf s n).length else 2 + ((kids s n).map g).sum) (fun _ _ => rfl)
    (fun g g' x hg => by simp only [List.map_congr_left hg])
    (fun x hx g => by simp [weightFuel, textLike, kids_dead, hx]) n

theorem weight_ge_two {s : Store} (h : WF s) (n : NodeId) : 2 ≤ weight s n := by
  rw [weight_unfold h]; split <;> exact Nat.le_add_right 2 _

/-- weight of the first `o` nodes of `l`: `innerPos` of an element is one more than this for its children -/
def prefixW (s : Store) (l : List NodeId) (o : Nat) : Nat := ((l.take o).map (weight s)).sum

theorem prefixW_cons (s : Store) (c : NodeId) (t : List NodeId) (k : Nat) :
    prefixW s (c :: t) (k + 1) = weight s c + prefixW s t k := by rfl

theorem prefixW_add (s : Store) (l : List NodeId) (o k : Nat) :
    prefixW s l (o + k) = prefixW s l o + prefixW s (l.drop o) k := by
  unfold prefixW; rw [List.take_add, List.map_append, List.sum_append]

theorem prefixW_mono {s : Store} (l : List NodeId) (o1 o2 : Nat) (hle : o1 ≤ o2) : prefixW s l o1 ≤ prefixW s l o2 := by
  obtain ⟨k, rfl⟩ := Nat.exists_eq_add_of_le hle
  rw [prefixW_add]; exact Nat.le_add_right _ _

theorem prefixW_strict {s : Store} (h : WF s) (l : List NodeId) (o1 o2 : Nat) (hlt : o1 < o2) (hb : o2 ≤ l.length) :
    prefixW s l o1 + 2 ≤ prefixW s l o2 := by
  obtain ⟨k, rfl⟩ := Nat.exists_eq_add_of_lt hlt
  rw [Nat.add_assoc, prefixW_add, List.drop_eq_getElem_cons (Nat.lt_of_lt_of_le hlt hb), prefixW_cons]
  exact Nat.add_le_add_left (Nat.le_trans (weight_ge_two h _) (Nat.le_add_right _ _)) _

theorem prefixW_succ {s : Store} (l1 l2 : List NodeId) (c : NodeId) :
    prefixW s (l1 ++ c :: l2) (l1.length + 1) = prefixW s (l1 ++ c :: l2) l1.length + weight s c := by
  rw [prefixW_add, List.drop_left, prefixW_cons]; rfl

theorem prefixW_all {s : Store} (l : List NodeId) (o : Nat) (ho : l.length ≤ o) :
    prefixW s l o = (l.map (weight s)).sum := by
  unfold prefixW; rw [List.take_of_length_le ho]

theorem innerPos_text {s : Store} {n : NodeId} (ht : textLike s n = true) (o : Nat) : innerPos s n o = 1 + o := by
  unfold innerPos; rw [ht]; rfl

theorem innerPos_elem {s : Store} {n : NodeId} (ht : textLike s n = false) (o : Nat) :
    innerPos s n o = 1 + prefixW s (kids s n) o := by
  unfold innerPos prefixW; rw [ht]; rfl

theorem lenOf_text {s : Store} {n : NodeId} (ht : textLike s n = true) : lenOf s n = (dataOf s n).length := by
  unfold lenOf; rw [ht]; rfl

theorem lenOf_elem {s : Store} {n : NodeId} (ht : textLike s n = false) : lenOf s n = (kids s n).length := by
  unfold lenOf; rw [ht]; rfl

theorem innerPos_zero (s : Store) (n : NodeId) : innerPos s n 0 = 1 := by
  cases ht : textLike s n with
  | true => exact innerPos_text ht 0
  | false => exact innerPos_elem ht 0

theorem innerPos_mono {s : Store} (n : NodeId) (o1 o2 : Nat) (hle : o1 ≤ o2) : innerPos s n o1 ≤ innerPos s n o2 := by
  cases ht : textLike s n with
  | true => rw [innerPos_text ht, innerPos_text ht]; exact Nat.add_le_add_left hle 1
  | false => rw [innerPos_elem ht, innerPos_elem ht]; exact Nat.add_le_add_left (prefixW_mono _ o1 o2 hle) 1

theorem innerPos_strict {s : Store} (h : WF s) (n : NodeId) (o1 o2 : Nat) (hlt : o1 < o2) (hb : o2 ≤ lenOf s n) :
    innerPos s n o1 < innerPos s n o2 := by
  cases ht : textLike s n with
  | true => rw [innerPos_text ht, innerPos_text ht]; exact Nat.add_lt_add_left hlt 1
  | false =>
    rw [innerPos_elem ht, innerPos_elem ht]
    exact Nat.add_lt_add_left (Nat.lt_of_succ_lt (prefixW_strict h _ o1 o2 hlt (lenOf_elem ht ▸ hb))) 1

theorem innerPos_bounds {s : Store} (h : WF s) (n : NodeId) (o : Nat) (hb : o ≤ lenOf s n) :
    0 < innerPos s n o ∧ innerPos s n o < weight s n := by
  rw [weight_unfold h]
  cases ht : textLike s n with
  | true =>
    rw [lenOf_text ht] at hb
    rw [innerPos_text ht, if_pos rfl]
    exact ⟨Nat.lt_of_lt_of_le Nat.one_pos (Nat.le_add_right 1 o), Nat.add_lt_add_of_lt_of_le (Nat.lt_succ_self 1) hb⟩
  | false =>
    rw [lenOf_elem ht] at hb
    rw [innerPos_elem ht, if_neg Bool.false_ne_true, ← prefixW_all _ _ (Nat.le_refl _)]
    exact ⟨Nat.lt_of_lt_of_le Nat.one_pos (Nat.le_add_right 1 _),
      Nat.add_lt_add_of_lt_of_le (Nat.lt_succ_self 1) (prefixW_mono _ o _ hb)⟩

theorem bpKey_mono (s : Store) (x : NodeId) {o1 o2 : Nat} (hle : o1 ≤ o2) : bpKey s (x, o1) ≤ bpKey s (x, o2) :=
  Nat.add_le_add_left (innerPos_mono x o1 o2 hle) _

theorem bpKey_in_parent {s : Store} (h : WF s) {x q : NodeId} (hq : parentOf s x = some q) (o : Nat) :
    bpKey s (x, o) = bpKey s (q, indexIn s q x) + innerPos s x o := by
  show enterPos s x (ancestors s x) + _ = _
  rw [ancestors_cons h hq]
  rfl

theorem bpKey_next {s : Store} (h : WF s) (htl : TextLeaves s) {x q : NodeId} (hq : parentOf s x = some q) :
    bpKey s (q, indexIn s q x + 1) = bpKey s (q, indexIn s q x) + weight s x := by
  have htq := parent_not_text htl (kid_of_parent h hq)
  obtain ⟨l1, l2, hl, h1, _⟩ := kids_split h hq
  have hidx : indexIn s q x = l1.length := by unfold indexIn; rw [hl, idxOf_split l1 l2 x h1]
  unfold bpKey
  rw [innerPos_elem htq, innerPos_elem htq, hidx, hl, prefixW_succ]
  simp only [Nat.add_assoc]

theorem own_span {s : Store} (h : WF s) (htl : TextLeaves s) {x q : NodeId} (hq : parentOf s x = some q) {o : Nat}
    (ho : o ≤ lenOf s x) :
    bpKey s (q, indexIn s q x) < bpKey s (x, o) ∧ bpKey s (x, o) < bpKey s (q, indexIn s q x + 1) := by
  have hi := innerPos_bounds h x o ho
  rw [bpKey_in_parent h hq, bpKey_next h htl hq]
  exact ⟨Nat.lt_add_of_pos_right hi.1, Nat.add_lt_add_left hi.2 _⟩

theorem child_span {s : Store} (h : WF s) (htl : TextLeaves s) {a b c : NodeId} (hc : c ∈ kids s a)
    (hcb : AncOrSelf s c b) : ∀ o, o ≤ lenOf s b →
      bpKey s (a, indexIn s a c) < bpKey s (b, o) ∧ bpKey s (b, o) < bpKey s (a, indexIn s a c + 1) := by
  induction hcb with
  | refl => exact fun o ho => own_span h htl (parent_of_kid h hc) ho
  | @step x q hq _ ih =>
    intro o ho
    have hidx : indexIn s q x < lenOf s q := indexIn_lt h hq (parent_not_text htl (kid_of_parent h hq))
    obtain ⟨k1, k2⟩ := own_span h htl hq ho
    exact ⟨Nat.lt_trans (ih _ (Nat.le_of_lt hidx)).1 k1, Nat.lt_trans k2 (ih _ hidx).2⟩

theorem bpKey_siblings {s : Store} (h : WF s) (htl : TextLeaves s) {p x y a b : NodeId} {oa ob : Nat}
    (hx : parentOf s x = some p) (hy : parentOf s y = some p) (hlt : indexIn s p x < indexIn s p y)
    (hxa : AncOrSelf s x a) (hyb : AncOrSelf s y b) (hoa : oa ≤ lenOf s a) (hob : ob ≤ lenOf s b) :
    bpKey s (a, oa) < bpKey s (b, ob) :=
  Nat.lt_trans (child_span h htl (kid_of_parent h hx) hxa oa hoa).2
    (Nat.lt_of_le_of_lt (bpKey_mono s p hlt) (child_span h htl (kid_of_parent h hy) hyb ob hob).1)

theorem proper_anc_has_child {s : Store} (h : WF s) {a b : NodeId} (ha : AncOrSelf s a b) (hne : a ≠ b) :
    ∃ c, c ∈ kids s a ∧ AncOrSelf s c b := by
  induction ha with
  | refl => exact absurd rfl hne
  | @step x q hq haq ih =>
    by_cases e : a = q
    · subst e
      exact ⟨x, kid_of_parent h hq, .refl⟩
    · obtain ⟨c, hc, hcq⟩ := ih e
      exact ⟨c, hc, .step hq hcq⟩

theorem find_toward_some {s : Store} (h : WF s) {a b c : NodeId}
    (hf : (kids s a).find? (fun c => isAncOf s c b) = some c) : c ∈ kids s a ∧ AncOrSelf s c b :=
  ⟨List.mem_of_find?_eq_some hf, (isAncOf_iff h c b).mp (have := List.find?_some hf; this)⟩

theorem find_toward_none {s : Store} (h : WF s) {a b : NodeId} (hne : a ≠ b)
    (hf : (kids s a).find? (fun c => isAncOf s c b) = none) : ¬ AncOrSelf s a b := by
  intro ha
  obtain ⟨c, hc, hcb⟩ := proper_anc_has_child h ha hne
  exact List.find?_eq_none.mp hf c hc ((isAncOf_iff h c b).mpr hcb)

theorem rootOf_parent {s : Store} (h : WF s) {x q : NodeId} (hq : parentOf s x = some q) : rootOf s x = rootOf s q := by
  unfold rootOf
  rw [ancestors_cons h hq, List.getLast?_cons]
  rfl

theorem rootOf_anc {s : Store} (h : WF s) {x a : NodeId} (ha : AncOrSelf s x a) : rootOf s a = rootOf s x := by
  induction ha with
  | refl => rfl
  | step hq _ ih => rw [rootOf_parent h hq, ih]

theorem drop_chain {s : Store} (h : WF s) (k : Nat) : ∀ a, k ≤ (ancestors s a).length →
    ∃ x, AncOrSelf s x a ∧ (a :: ancestors s a).drop k = x :: ancestors s x ∧
      (ancestors s x).length = (ancestors s a).length - k := by
  induction k with
  | zero => exact fun a _ => ⟨a, .refl, rfl, rfl⟩
  | succ k ih =>
    intro a hk
    cases hq : parentOf s a with
    | none => rw [ancestors_nil h hq] at hk; exact absurd hk (Nat.not_succ_le_zero k)
    | some q =>
      rw [ancestors_cons h hq] at hk ⊢
      obtain ⟨x, hx, hd, hl⟩ := ih q (Nat.le_of_succ_le_succ hk)
      exact ⟨x, .step hq hx, hd, hl.trans (Nat.succ_sub_succ _ k).symm⟩

theorem liftPair_chain {s : Store} (h : WF s) (n : Nat) : ∀ x y, (ancestors s x).length = n →
    (ancestors s y).length = n → x ≠ y → rootOf s x = rootOf s y →
    ∃ x' y' p, liftPair (x :: ancestors s x) (y :: ancestors s y) = some (x', y') ∧ x' ≠ y' ∧
      parentOf s x' = some p ∧ parentOf s y' = some p ∧ AncOrSelf s x' x ∧ AncOrSelf s y' y := by
  induction n with
  | zero =>
    intro x y hx hy hne hr
    unfold rootOf at hr
    rw [List.eq_nil_of_length_eq_zero hx, List.eq_nil_of_length_eq_zero hy] at hr
    exact absurd hr hne
  | succ n ih =>
    intro x y hx hy hne hr
    cases hqx : parentOf s x with
    | none => rw [ancestors_nil h hqx] at hx; cases hx
    | some px =>
      cases hqy : parentOf s y with
      | none => rw [ancestors_nil h hqy] at hy; cases hy
      | some py =>
        rw [ancestors_cons h hqx] at hx ⊢
        rw [ancestors_cons h hqy] at hy ⊢
        unfold liftPair
        by_cases e : px = py
        · rw [if_pos e]
          exact ⟨x, y, px, rfl, hne, hqx, e ▸ hqy, .refl, .refl⟩
        · rw [if_neg e]
          obtain ⟨x', y', p, hl, hne', hpx, hpy, hx', hy'⟩ := ih px py (Nat.succ.inj hx) (Nat.succ.inj hy) e
            (by rw [← rootOf_parent h hqx, ← rootOf_parent h hqy, hr])
          exact ⟨x', y', p, hl, hne', hpx, hpy, .step hqx hx', .step hqy hy'⟩

/-- case 4 of compareBoundaryPoints: two containers of one tree, neither above the other, are lifted to two different
children of their nearest common ancestor -/
theorem lift_spec {s : Store} (h : WF s) {a b : NodeId} (hroot : rootOf s a = rootOf s b) (hab : ¬ AncOrSelf s a b)
    (hba : ¬ AncOrSelf s b a) :
    ∃ x y p, liftPair (equalise (a :: ancestors s a) (b :: ancestors s b)).1
        (equalise (a :: ancestors s a) (b :: ancestors s b)).2 = some (x, y) ∧
      x ≠ y ∧ parentOf s x = some p ∧ parentOf s y = some p ∧ AncOrSelf s x a ∧ AncOrSelf s y b := by
  unfold equalise
  simp only [List.length_cons, Nat.add_sub_add_right]
  obtain ⟨x, hxa, hdx, hlx⟩ := drop_chain h _ a (Nat.sub_le _ (ancestors s b).length)
  obtain ⟨y, hyb, hdy, hly⟩ := drop_chain h _ b (Nat.sub_le _ (ancestors s a).length)
  have hne : x ≠ y := by
    intro e
    subst e
    rcases Nat.le_total (ancestors s a).length (ancestors s b).length with hle | hle
    · rw [Nat.sub_eq_zero_of_le hle] at hdx
      exact hab ((List.cons.inj hdx).1 ▸ hyb)
    · rw [Nat.sub_eq_zero_of_le hle] at hdy
      exact hba ((List.cons.inj hdy).1 ▸ hxa)
  rw [hdx, hdy]
  obtain ⟨x', y', p, hl, hne', hpx, hpy, hx', hy'⟩ := liftPair_chain h _ x y
    (by rw [hlx, hly, Nat.sub_sub_eq_min, Nat.sub_sub_eq_min, Nat.min_comm]) rfl hne
    ((rootOf_anc h hxa).symm.trans (hroot.trans (rootOf_anc h hyb)))
  exact ⟨x', y', p, hl, hne', hpx, hpy, anc_trans hx' hxa, anc_trans hy' hyb⟩

theorem sibsAfter_cases {s : Store} (h : WF s) {p x y : NodeId} (hx : parentOf s x = some p)
    (hy : parentOf s y = some p) (hne : x ≠ y) :
    ((sibsAfter s y).contains x = true ∧ indexIn s p y < indexIn s p x) ∨
    ((sibsAfter s y).contains x = false ∧ indexIn s p x < indexIn s p y) := by
  obtain ⟨l1, l2, hl, h1, _⟩ := kids_split h hy
  have hxk := kid_of_parent h hx
  have hnd := kids_nodup h p
  unfold indexIn
  rw [sibsAfter_split hy hl h1, hl] at *
  rw [idxOf_split l1 l2 y h1, List.idxOf_append]
  have hdis := (List.nodup_append.mp hnd).2.2
  rcases List.mem_append.mp hxk with hm | hm
  · refine Or.inr ⟨Bool.eq_false_iff.mpr fun hc => ?_, ?_⟩
    · exact hdis x hm x (List.mem_cons_of_mem _ (List.contains_iff_mem.mp hc)) rfl
    · rw [if_pos hm]; exact List.idxOf_lt_length_of_mem hm
  · refine Or.inl ⟨List.contains_iff_mem.mpr ((List.mem_cons.mp hm).resolve_left hne), ?_⟩
    rw [if_neg fun hm1 => hdis x hm1 x hm rfl, List.idxOf_cons, (beq_eq_false_iff_ne.mpr (Ne.symm hne))]
    exact Nat.lt_add_of_pos_left (Nat.succ_pos _)

/-- comparison of two numbers as compareBoundaryPoints reports it -/
def keyCmp (ka kb : Nat) : Int := if ka < kb then -1 else if ka = kb then 0 else 1

theorem keyCmp_of_lt {ka kb : Nat} (hlt : ka < kb) : keyCmp ka kb = -1 := if_pos hlt

theorem keyCmp_self (k : Nat) : keyCmp k k = 0 := (if_neg (Nat.lt_irrefl k)).trans (if_pos rfl)

theorem keyCmp_of_gt {ka kb : Nat} (hgt : kb < ka) : keyCmp ka kb = 1 := by
  unfold keyCmp
  rw [if_neg (Nat.lt_asymm hgt), if_neg (Nat.ne_of_gt hgt)]

theorem keyCmp_swap (k l : Nat) : keyCmp l k = - keyCmp k l := by
  rcases Nat.lt_trichotomy k l with h | rfl | h
  · rw [keyCmp_of_lt h, keyCmp_of_gt h]; rfl
  · rw [keyCmp_self]; rfl
  · rw [keyCmp_of_gt h, keyCmp_of_lt h]

theorem keyCmp_le (k l : Nat) : keyCmp k l ≤ 0 ↔ k ≤ l := by
  unfold keyCmp
  split
  · omega
  · split <;> omega

/-- compareBoundaryPoints = the order of the linearised tree.  For two boundary points of one tree with offsets inside
their containers the four cases of DOMRangeImpl::compareBoundaryPoints (same container / a child of A's container above B /
a child of B's container above A / the children of the common ancestor compared as siblings) compare the positions `bpKey`. -/
theorem cmpPoints_key {s : Store} (h : WF s) (htl : TextLeaves s) (a : NodeId) (oa : Nat) (b : NodeId) (ob : Nat)
    (hroot : rootOf s a = rootOf s b) (hoa : oa ≤ lenOf s a) (hob : ob ≤ lenOf s b) :
    cmpPoints s a oa b ob = keyCmp (bpKey s (a, oa)) (bpKey s (b, ob)) := by
  unfold cmpPoints
  by_cases hab : a = b
  · subst hab
    rw [if_pos rfl]
    rcases Nat.lt_trichotomy oa ob with h1 | h1 | h1
    · exact (if_pos h1).trans (keyCmp_of_lt (Nat.add_lt_add_left (innerPos_strict h a oa ob h1 hob) _)).symm
    · subst h1
      exact ((if_neg (Nat.lt_irrefl oa)).trans (if_pos rfl)).trans (keyCmp_self _).symm
    · rw [if_neg (Nat.lt_asymm h1), if_neg (Nat.ne_of_gt h1)]
      exact (keyCmp_of_gt (Nat.add_lt_add_left (innerPos_strict h a ob oa h1 hoa) _)).symm
  · rw [if_neg hab]
    cases hf : (kids s a).find? (fun c => isAncOf s c b) with
    | some c =>
      obtain ⟨hc, hcb⟩ := find_toward_some h hf
      obtain ⟨k1, k2⟩ := child_span h htl hc hcb ob hob
      by_cases hle : oa ≤ indexIn s a c
      · exact (if_pos hle).trans (keyCmp_of_lt (Nat.lt_of_le_of_lt (bpKey_mono s a hle) k1)).symm
      · exact (if_neg hle).trans (keyCmp_of_gt (Nat.lt_of_lt_of_le k2 (bpKey_mono s a (Nat.lt_of_not_le hle)))).symm
    | none =>
      have hnab := find_toward_none h hab hf
      cases hg : (kids s b).find? (fun c => isAncOf s c a) with
      | some c =>
        obtain ⟨hc, hca⟩ := find_toward_some h hg
        obtain ⟨k1, k2⟩ := child_span h htl hc hca oa hoa
        by_cases hlt : indexIn s b c < ob
        · exact (if_pos hlt).trans (keyCmp_of_lt (Nat.lt_of_lt_of_le k2 (bpKey_mono s b hlt))).symm
        · exact (if_neg hlt).trans (keyCmp_of_gt (Nat.lt_of_le_of_lt (bpKey_mono s b (Nat.le_of_not_lt hlt)) k1)).symm
      | none =>
        have hnba := find_toward_none h (Ne.symm hab) hg
        obtain ⟨x, y, p, hlift, hne, hpx, hpy, hxa, hyb⟩ := lift_spec h hroot hnab hnba
        simp only [hlift]
        rcases sibsAfter_cases h hpx hpy hne with ⟨hc, hlt⟩ | ⟨hc, hlt⟩
        · rw [hc, if_pos rfl, keyCmp_of_gt (bpKey_siblings h htl hpy hpx hlt hyb hxa hob hoa)]
        · rw [hc, if_neg Bool.false_ne_true, keyCmp_of_lt (bpKey_siblings h htl hpx hpy hlt hxa hyb hoa hob)]

theorem docOrder_sorted {s : Store} (h : WF s) (htl : TextLeaves s) :
    ∀ r, (docOrder s r).Pairwise (fun x y => bpKey s (x, 0) < bpKey s (y, 0)) :=
  docOrder_pairwise h _
    (fun n _ _ hc hy =>
      Nat.lt_of_le_of_lt (bpKey_mono s n (Nat.zero_le _)) (child_span h htl hc hy 0 (Nat.zero_le _)).1)
    (fun _ _ _ _ _ ha hb hlt hx hy =>
      bpKey_siblings h htl (parent_of_kid h ha) (parent_of_kid h hb) hlt hx hy (Nat.zero_le _) (Nat.zero_le _))

end XV.Lemmas.ViewsOrder
