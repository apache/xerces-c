/-
C07 — what `stepSet` (one subset-construction step over bit masks) computes, and paths through the follow lists
(`Reach`).  With the leaf and follow lists of a particle (`DfaData`: those of `c #`, the particle followed by the
end-of-content leaf) the paths from the initial state set to EOC read exactly the non-empty words of `CM.Lang c`
(`reach_accepts`, through `lang_iff_accepts`).
-/
import XV.Lemmas.DfaTree
namespace XV.Lemmas.DfaRun
open XV.Spec.ContentModel XV.Model.ContentModel XV.Lemmas.Glushkov XV.Lemmas.DfaTree

theorem lt_of_get {α : Type} {l : List α} {i : Nat} {a : α} (h : l[i]? = some a) : i < l.length :=
  (List.getElem?_eq_some_iff.1 h).1

theorem testBit_foldl_or (c : Nat → Bool) (g : Nat → StateSet) (q : Nat) : ∀ (ps : List Nat) (acc : StateSet),
    (ps.foldl (fun acc p => if c p then acc ||| g p else acc) acc).testBit q =
      (acc.testBit q || ps.any fun p => c p && (g p).testBit q) := by
  intro ps
  induction ps with
  | nil => exact fun acc => (Bool.or_false _).symm
  | cons p ps ih => exact fun acc => by rw [List.foldl_cons, ih, testBit_ite_or, List.any_cons, Bool.or_assoc]

theorem testBit_stepSet (ll : List (Option Name)) (fl : List StateSet) (S : StateSet) (e : Option Name) (q : Nat) :
    (stepSet ll fl S e).testBit q = true ↔
      ∃ p, ll[p]? = some e ∧ S.testBit p = true ∧ (fl.getD p 0).testBit q = true := by
  rw [stepSet, testBit_foldl_or, Nat.zero_testBit, Bool.false_or, List.any_eq_true]
  simp only [Bool.and_eq_true, beq_iff_eq, List.mem_range]
  constructor
  · rintro ⟨p, _, ⟨h1, h2⟩, h3⟩; exact ⟨p, h1, h2, h3⟩
  · rintro ⟨p, h1, h2, h3⟩
    exact ⟨p, (List.getElem?_eq_some_iff.1 h1).1, ⟨h1, h2⟩, h3⟩

theorem stepSet_eq_zero {ll : List (Option Name)} (fl : List StateSet) (S : StateSet) {e : Option Name} (h : e ∉ ll) :
    stepSet ll fl S e = 0 :=
  Nat.eq_of_testBit_eq fun q => (Nat.zero_testBit q).symm ▸ Bool.eq_false_iff.2 fun hq =>
    let ⟨_, h1, _⟩ := (testBit_stepSet ll fl S e q).1 hq
    h (List.mem_of_getElem? h1)

/-- `Reach ll fl p w q`: reading `w` from position `p` (consuming the name at each visited position) can end in `q` -/
def Reach (ll : List (Option Name)) (fl : List StateSet) : Nat → List Name → Nat → Prop
  | p, [], q => p = q
  | p, x :: w, q => ll[p]? = some (some x) ∧ ∃ p', (fl.getD p 0).testBit p' = true ∧ Reach ll fl p' w q

/-- leaf names with the EOC leaf, which has an empty raw name -/
def llOf (N : List Name) : List (Option Name) := N.map some ++ [none]

theorem llOf_get (N : List Name) (j : Nat) (a : Name) : (llOf N)[j]? = some (some a) ↔ N[j]? = some a := by
  unfold llOf
  by_cases hj : j < N.length
  · rw [List.getElem?_append_left (by simpa using hj)]
    simp [List.getElem?_map]
  · rw [List.getElem?_append_right (by simpa using hj), List.getElem?_eq_none (Nat.le_of_not_lt hj)]
    simp only [List.length_map]
    cases j - N.length <;> simp

/-- `c #`: the particle followed by the end-of-content leaf.  xerces-c makes this Sequence node the head of the
    syntax tree (`fHeadNode`), so EOC is position `size c` and gets its follow edges like any other leaf.  The name `0`
    of the EOC leaf is a dummy: only `first`/`last`/`fol` of `aug c` are used, never its names (the leaf list of
    `DfaData` has `none` at that position). -/
def aug (c : CM) : CM := .seq c (.leaf 0)

/-- the data `buildDFA` derives from the tree of `c`: leaf names with the EOC leaf at position `size c`, follow sets
    and initial state set of `c #` -/
structure DfaData (c : CM) (ll : List (Option Name)) (fl : List StateSet) (head : StateSet) : Prop where
  ll_eq : ll = llOf (names c)
  fl_eq : ∀ p q, (fl.getD p 0).testBit q = fol (aug c) 0 p q
  head_eq : ∀ p, head.testBit p = first (aug c) 0 p

theorem walk_lt {c : CM} {p : Nat} {r : List Nat} (h : walk (fol c 0) (last c 0) p r = true) : p < size c := by
  rw [← Nat.zero_add (size c)]
  cases r with
  | nil => exact (last_range h).2
  | cons q r => exact (fol_range (Bool.and_eq_true _ _ ▸ h).1).1.2

section
variable {c : CM} {ll : List (Option Name)} {fl : List StateSet} {head : StateSet} (D : DfaData c ll fl head)
include D

theorem DfaData.name (p : Nat) (x : Name) : ll[p]? = some (some x) ↔ p < size c ∧ nameAt c 0 p = x := by
  rw [D.ll_eq, llOf_get, names_get]

theorem DfaData.step_eoc (p : Nat) : (fl.getD p 0).testBit (size c) = last c 0 p := by
  rw [D.fl_eq, aug, fol, fol_out_r (c := c) fun h => Nat.lt_irrefl _ (Nat.zero_add (size c) ▸ h.2), fol, first,
    Nat.zero_add, beq_self_eq_true, Bool.and_true]
  rfl

theorem DfaData.step_inner (p : Nat) {q : Nat} (hq : q < size c) : (fl.getD p 0).testBit q = fol c 0 p q := by
  rw [D.fl_eq, aug, fol, fol, first, Nat.zero_add, beq_false_of_ne (Nat.ne_of_lt hq), Bool.and_false, Bool.or_false,
    Bool.or_false]

theorem DfaData.head_inner {p : Nat} (hp : p < size c) : head.testBit p = first c 0 p := by
  rw [D.head_eq, aug, first, first, Nat.zero_add, beq_false_of_ne (Nat.ne_of_lt hp), Bool.and_false, Bool.or_false]

theorem reach_eoc_iff : ∀ (w : List Name) (p : Nat),
    Reach ll fl p w (size c) ↔
      (w = [] ∧ p = size c) ∨ ∃ r, walk (fol c 0) (last c 0) p r = true ∧ (p :: r).map (nameAt c 0) = w := by
  intro w
  induction w with
  | nil => exact fun p => ⟨fun h => .inl ⟨rfl, h⟩, fun h => h.elim (·.2) fun ⟨_, _, hm⟩ => nomatch hm⟩
  | cons x w ih =>
    intro p
    rw [Reach, D.name]
    constructor
    · rintro ⟨⟨hp, hn⟩, p', hf, hr⟩
      refine .inr ?_
      rcases (ih p').1 hr with ⟨rfl, rfl⟩ | ⟨r, hw, hm⟩
      · exact ⟨[], (D.step_eoc p).symm.trans hf, by rw [List.map_cons, hn]; rfl⟩
      · exact ⟨p' :: r, by rw [walk, ← D.step_inner p (walk_lt hw), hf, hw]; rfl, by rw [List.map_cons, hn, hm]⟩
    · rintro (⟨h, _⟩ | ⟨r, hw, hm⟩)
      · cases h
      · rw [List.map_cons, List.cons.injEq] at hm
        refine ⟨⟨walk_lt hw, hm.1⟩, ?_⟩
        cases r with
        | nil => exact ⟨size c, (D.step_eoc p).trans hw, (ih _).2 (.inl ⟨hm.2.symm, rfl⟩)⟩
        | cons p' r =>
          rw [walk, Bool.and_eq_true] at hw
          exact ⟨p', (D.step_inner p (walk_lt hw.2)).trans hw.1, (ih p').2 (.inr ⟨r, hw.2, hm.2⟩)⟩

/-- for non-empty child sequences; the empty one is decided by the `emptyOk` flag -/
theorem reach_accepts (x : Name) (w : List Name) :
    (∃ p, head.testBit p = true ∧ Reach ll fl p (x :: w) (size c)) ↔ CM.Lang c (x :: w) := by
  rw [lang_iff_accepts c 0]
  constructor
  · rintro ⟨p, hp, hr⟩
    obtain ⟨h, _⟩ | ⟨r, hw, hm⟩ := (reach_eoc_iff D _ p).1 hr
    · cases h
    · exact ⟨p :: r, by rw [accepts, hw, ← D.head_inner (walk_lt hw), hp]; rfl, hm⟩
  · rintro ⟨π, ha, hm⟩
    cases π with
    | nil => cases hm
    | cons p r =>
      rw [accepts, Bool.and_eq_true] at ha
      exact ⟨p, (D.head_inner (walk_lt ha.2)).trans ha.1, (reach_eoc_iff D _ p).2 (.inr ⟨r, ha.2, hm⟩)⟩
end

end XV.Lemmas.DfaRun
