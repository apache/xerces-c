/-
XML256TableTranscoder (XV.Model.ByteCodec).  The do/while binary search of `xlatOneTo` agrees with the linear `lookup`
on every table with strictly increasing keys, apart from the record at index 0, where it does not look once the table
has more than two records.  What the properties need of a generated code page follows from `Checked`, a decidable check
that reads the tables once and is proved sound once, so that each table costs one kernel evaluation.
-/
import XV.Model.ByteCodec
namespace XV.Lemmas.ByteCodec
open XV.Model.ByteCodec XV.Gen.ByteTables

def key (tbl : List (Nat × Nat)) (i : Nat) : Nat := (tbl.getD i (0, 0)).1
def val (tbl : List (Nat × Nat)) (i : Nat) : Nat := (tbl.getD i (0, 0)).2

def Sorted (tbl : List (Nat × Nat)) : Prop := ∀ i j, i < j → j < tbl.length → key tbl i < key tbl j

theorem mem_iff_getD {α} {l : List α} {a : α} (d : α) : a ∈ l ↔ ∃ i, i < l.length ∧ l.getD i d = a := by
  rw [List.mem_iff_getElem]
  exact ⟨fun ⟨i, h, e⟩ => ⟨i, h, (List.getElem_eq_getD d).symm.trans e⟩, fun ⟨i, h, e⟩ => ⟨i, h, (List.getElem_eq_getD d).trans e⟩⟩

theorem sorted_iff_pairwise (tbl : List (Nat × Nat)) : Sorted tbl ↔ tbl.Pairwise (fun p q => p.1 < q.1) := by
  rw [List.pairwise_iff_getElem]
  constructor
  · intro h i j hi hj hij
    have := h i j hij hj
    rwa [key, key, ← List.getElem_eq_getD (h := hi), ← List.getElem_eq_getD (h := hj)] at this
  · intro h i j hij hj
    rw [key, key, ← List.getElem_eq_getD (h := Nat.lt_trans hij hj), ← List.getElem_eq_getD (h := hj)]
    exact h i j _ hj hij

theorem pairwise_of_strict : ∀ l : List Nat, strictSorted l = true → l.Pairwise (· < ·)
  | [], _ => .nil
  | [_], _ => List.pairwise_singleton _ _
  | a :: b :: t, h => by
    simp only [strictSorted, Bool.and_eq_true, decide_eq_true_eq] at h
    have ih := pairwise_of_strict (b :: t) h.2
    refine List.pairwise_cons.2 ⟨fun x hx => ?_, ih⟩
    rcases List.mem_cons.1 hx with rfl | hx
    · exact h.1
    · exact Nat.lt_trans h.1 ((List.pairwise_cons.1 ih).1 x hx)

theorem sorted_of_strict (tbl : List (Nat × Nat)) (h : strictSorted (tbl.map (·.1)) = true) : Sorted tbl :=
  (sorted_iff_pairwise tbl).2 (List.pairwise_map.1 (pairwise_of_strict _ h))

theorem lookup_cons (p : Nat × Nat) (t : List (Nat × Nat)) (c : Nat) :
    lookup (p :: t) c = if p.1 = c then p.2 else lookup t c := by
  simp only [lookup, List.find?_cons]
  by_cases h : p.1 = c <;> simp [h]

theorem lookup_of_mem : ∀ {tbl : List (Nat × Nat)}, tbl.Pairwise (fun p q => p.1 < q.1) → ∀ {p}, p ∈ tbl →
    lookup tbl p.1 = p.2
  | q :: t, hs, p, hp => by
    obtain ⟨hq, ht⟩ := List.pairwise_cons.1 hs
    rcases List.mem_cons.1 hp with rfl | hp
    · simp [lookup]
    · have hne : ¬ q.1 = p.1 := Nat.ne_of_lt (hq p hp)
      have := lookup_of_mem ht hp
      simpa [lookup, hne] using this

theorem lookup_mem : ∀ (tbl : List (Nat × Nat)) (c : Nat), lookup tbl c ≠ 0 → (c, lookup tbl c) ∈ tbl
  | [], _, h => absurd rfl h
  | p :: t, c, h => by
    rw [lookup_cons] at h ⊢
    split
    · rename_i hp; exact List.mem_cons.2 (.inl (by rw [← hp]))
    · rename_i hp; rw [if_neg hp] at h; exact List.mem_cons_of_mem _ (lookup_mem t c h)

theorem lookup_eq_zero {tbl : List (Nat × Nat)} {c : Nat} (h : ∀ p ∈ tbl, p.1 = c → p.2 = 0) : lookup tbl c = 0 := by
  unfold lookup
  split
  · rename_i p hf
    exact h p (List.mem_of_find?_eq_some hf) (by simpa using List.find?_some hf)
  · rfl

theorem lookup_key {tbl : List (Nat × Nat)} (hs : Sorted tbl) {i : Nat} (hi : i < tbl.length) :
    lookup tbl (key tbl i) = val tbl i := by
  rw [key, val, ← List.getElem_eq_getD (h := hi)]
  exact lookup_of_mem ((sorted_iff_pairwise tbl).1 hs) (List.getElem_mem hi)

theorem bsearch_succ (tbl : List (Nat × Nat)) (c fuel lo hi : Nat) :
    bsearch tbl c (fuel + 1) lo hi =
      if c > key tbl ((hi - lo) / 2 + lo) then
        if (hi - lo) / 2 + lo + 1 < hi then bsearch tbl c fuel ((hi - lo) / 2 + lo) hi
        else if c = key tbl hi then val tbl hi else 0
      else if c < key tbl ((hi - lo) / 2 + lo) then
        if lo + 1 < (hi - lo) / 2 + lo then bsearch tbl c fuel lo ((hi - lo) / 2 + lo)
        else if c = key tbl ((hi - lo) / 2 + lo) then val tbl ((hi - lo) / 2 + lo) else 0
      else val tbl ((hi - lo) / 2 + lo) := rfl

/-- the exits of the search: every record with key `c` sits at `lo` or at `hi ≤ lo + 1`, and the one at `lo`
does not count -/
theorem bsearch_exit {tbl : List (Nat × Nat)} (hs : Sorted tbl) {c : Nat} (hc0 : key tbl 0 ≠ c ∨ val tbl 0 = 0)
    {lo hi : Nat} (hh : hi < tbl.length) (hadj : hi ≤ lo + 1)
    (hcand : ∀ i, i < tbl.length → key tbl i = c → lo ≤ i ∧ i ≤ hi) (hlo : lo = 0 ∨ key tbl lo ≠ c) :
    (if c = key tbl hi then val tbl hi else 0) = lookup tbl c := by
  split
  · rename_i he; rw [he, lookup_key hs hh]
  · rename_i he
    refine (lookup_eq_zero fun p hp hk => ?_).symm
    obtain ⟨i, hil, rfl⟩ := (mem_iff_getD (0, 0)).1 hp
    obtain ⟨h1, h2⟩ := hcand i hil hk
    rcases Nat.lt_or_ge lo i with hlt | hge
    · rw [Nat.le_antisymm h2 (Nat.le_trans hadj hlt)] at hk
      exact absurd hk.symm he
    · rw [Nat.le_antisymm hge h1] at hk ⊢
      rcases hlo with rfl | h0
      · exact hc0.resolve_left (fun h => h hk)
      · exact absurd hk h0

theorem mid_bounds {lo hi f : Nat} (h : lo ≤ hi) (hf : hi - lo ≤ f + 1) :
    lo ≤ (hi - lo) / 2 + lo ∧ (hi - lo) / 2 + lo ≤ hi ∧ (hi - lo) / 2 + lo - lo ≤ f ∧
    ((hi - lo) / 2 + lo + 1 < hi → hi - ((hi - lo) / 2 + lo) ≤ f) := by
  omega

/-- the do/while binary search finds exactly what a linear search finds, except that the record at
index 0 is not examined in a table of more than two records (harmless in the shipped tables, whose first record is (0, 0)) -/
theorem bsearch_correct (tbl : List (Nat × Nat)) (hs : Sorted tbl) (c : Nat) (hc0 : key tbl 0 ≠ c ∨ val tbl 0 = 0) :
    ∀ (fuel lo hi : Nat), lo ≤ hi → hi < tbl.length → hi - lo ≤ fuel →
      (∀ i, i < tbl.length → key tbl i = c → (lo ≤ i ∧ i ≤ hi) ) →
      (lo = 0 ∨ key tbl lo ≠ c) →
      bsearch tbl c fuel lo hi = lookup tbl c := by
  intro fuel
  induction fuel with
  | zero =>
    intro lo hi _ hh hf hcand hlo
    exact bsearch_exit hs hc0 hh (Nat.le_succ_of_le (Nat.sub_eq_zero_iff_le.1 (Nat.le_zero.1 hf))) hcand hlo
  | succ fuel ih =>
    intro lo hi hlh hh hf hcand hlo
    obtain ⟨m1, m2, m3, m4⟩ := mid_bounds hlh hf
    rw [bsearch_succ]
    generalize (hi - lo) / 2 + lo = mid at *
    have hmlt : mid < tbl.length := Nat.lt_of_le_of_lt m2 hh
    by_cases h1 : c > key tbl mid
    · have hc' : ∀ i, i < tbl.length → key tbl i = c → mid ≤ i ∧ i ≤ hi := fun i hi' hk =>
        ⟨Nat.le_of_not_lt fun hlt => Nat.lt_asymm h1 (hk ▸ hs i mid hlt hmlt), (hcand i hi' hk).2⟩
      have hmne : mid = 0 ∨ key tbl mid ≠ c := Or.inr (Nat.ne_of_lt h1)
      rw [if_pos h1]
      by_cases h2 : mid + 1 < hi
      · rw [if_pos h2]; exact ih mid hi m2 hh (m4 h2) hc' hmne
      · rw [if_neg h2]; exact bsearch_exit hs hc0 hh (Nat.le_of_not_lt h2) hc' hmne
    · rw [if_neg h1]
      by_cases h2 : c < key tbl mid
      · have hc' : ∀ i, i < tbl.length → key tbl i = c → lo ≤ i ∧ i ≤ mid := fun i hi' hk =>
          ⟨(hcand i hi' hk).1, Nat.le_of_not_lt fun hgt => Nat.lt_asymm h2 (hk ▸ hs mid i hgt hi')⟩
        rw [if_pos h2]
        by_cases h3 : lo + 1 < mid
        · rw [if_pos h3]; exact ih lo mid m1 hmlt m3 hc' hlo
        · rw [if_neg h3]; exact bsearch_exit hs hc0 hmlt (Nat.le_of_not_lt h3) hc' hlo
      · rw [if_neg h2, Nat.le_antisymm (Nat.le_of_not_lt h1) (Nat.le_of_not_lt h2), lookup_key hs hmlt]

theorem xlatOneTo_eq_lookup (t : Table) (hs : strictSorted (t.toTable.map (·.1)) = true)
    (hsz : t.declaredToSize = t.toTable.length) (hpos : 0 < t.toTable.length)
    (h0 : t.toTable.getD 0 (1, 1) = (0, 0)) (c : Nat) :
    xlatOneTo t c = lookup t.toTable c := by
  have hv0 : val t.toTable 0 = 0 := by rw [val, ← List.getElem_eq_getD (h := hpos), List.getElem_eq_getD (1, 1), h0]
  rw [xlatOneTo, hsz]
  exact bsearch_correct t.toTable (sorted_of_strict _ hs) c (Or.inr hv0) _ 0 _
    (Nat.zero_le _) (by omega) (by omega) (fun i hi _ => ⟨Nat.zero_le _, by omega⟩) (Or.inl rfl)

/-! ### checking a code page in one pass

Reading `fromTable` at the byte of every to-record walks the list once per record; packed into one number
the table is read by a division, and the set of characters that some to-record maps back correctly fits in
the bits of another. -/

/-- the list as the digits of one number in base `B`, first element lowest -/
def pack (B : Nat) : List Nat → Nat
  | [] => 0
  | x :: t => x + B * pack B t

theorem pack_digit {B : Nat} (d : Nat) : ∀ (l : List Nat), (∀ x ∈ l, x < B) → ∀ i, i < l.length →
    pack B l / B ^ i % B = l.getD i d
  | x :: t, h, i, hi => by
    have hx : x < B := h x List.mem_cons_self
    cases i with
    | zero => rw [pack, Nat.pow_zero, Nat.div_one, Nat.add_mul_mod_self_left, Nat.mod_eq_of_lt hx]; rfl
    | succ i =>
      rw [pack, Nat.pow_succ', ← Nat.div_div_eq_div_mul, Nat.add_mul_div_left _ _ (Nat.zero_lt_of_lt hx),
        Nat.div_eq_of_lt hx, Nat.zero_add]
      exact pack_digit d t (fun y hy => h y (List.mem_cons_of_mem _ hy)) i (Nat.lt_of_succ_lt_succ hi)

/-- sets bit `k` for a to-record `(k, v)` with `frm[v] = k` -/
def mark (frm : List Nat) (m : Nat) (p : Nat × Nat) : Nat :=
  if pack 65536 frm / 65536 ^ p.2 % 65536 = p.1 then m ||| 2 ^ p.1 else m

theorem foldl_mark (frm : List Nat) (u : Nat) : ∀ (to : List (Nat × Nat)) (m : Nat),
    (to.foldl (mark frm) m).testBit u = true →
    m.testBit u = true ∨ ∃ p ∈ to, p.1 = u ∧ pack 65536 frm / 65536 ^ p.2 % 65536 = u
  | [], m, h => Or.inl h
  | p :: t, m, h => by
    rcases foldl_mark frm u t _ h with h | ⟨q, hq, hk⟩
    · by_cases hp : pack 65536 frm / 65536 ^ p.2 % 65536 = p.1
      · rw [mark, if_pos hp, Nat.testBit_or, Nat.testBit_two_pow, Bool.or_eq_true, decide_eq_true_eq] at h
        exact h.imp_right fun e => ⟨p, List.mem_cons_self, e, e ▸ hp⟩
      · rw [mark, if_neg hp] at h; exact Or.inl h
    · exact Or.inr ⟨q, List.mem_cons_of_mem _ hq, hk⟩

/-- what the kernel evaluates for each code page: the shape of the tables, every decoded character below 0xFFFF
and mapped back by some to-record to a byte that decodes to it, every to-record within range -/
def Checked (t : Table) : Prop :=
  (t.declaredToSize = t.toTable.length ∧ t.fromTable.length = 256 ∧ 0 < t.toTable.length ∧
    strictSorted (t.toTable.map (·.1)) = true ∧ t.toTable.getD 0 (1, 1) = (0, 0)) ∧
  (∀ u ∈ t.fromTable, u < 0xFFFF ∧ (t.toTable.foldl (mark t.fromTable) 0).testBit u = true) ∧
  (∀ p ∈ t.toTable, p.2 < 256 ∧ p.1 < 65536)

instance (t : Table) : Decidable (Checked t) := by unfold Checked; infer_instance

variable {t : Table} (h : Checked t)
include h

theorem Checked.wellformed : t.declaredToSize = t.toTable.length ∧ t.fromTable.length = 256 ∧ 0 < t.toTable.length ∧
    strictSorted (t.toTable.map (·.1)) = true ∧ t.toTable.getD 0 (1, 1) = (0, 0) ∧
    (∀ b, b < 256 → t.fromTable.getD b 0xFFFF ≠ 0xFFFF) :=
  ⟨h.1.1, h.1.2.1, h.1.2.2.1, h.1.2.2.2.1, h.1.2.2.2.2, fun b hb =>
    Nat.ne_of_lt (h.2.1 _ ((mem_iff_getD _).2 ⟨b, h.1.2.1 ▸ hb, rfl⟩)).1⟩

theorem Checked.pairwise : t.toTable.Pairwise (fun p q => p.1 < q.1) :=
  List.pairwise_map.1 (pairwise_of_strict _ h.1.2.2.2.1)

theorem Checked.back {u : Nat} (hu : u ∈ t.fromTable) : t.fromTable.getD (lookup t.toTable u) 0xFFFF = u := by
  obtain ⟨p, hp, rfl, hv⟩ := (foldl_mark _ _ _ _ (h.2.1 u hu).2).resolve_left (Nat.zero_testBit u ▸ Bool.false_ne_true)
  rw [lookup_of_mem h.pairwise hp, ← hv]
  exact (pack_digit _ _ (fun x hx => Nat.lt_succ_of_lt (h.2.1 x hx).1) _ (h.1.2.1 ▸ (h.2.2 p hp).1)).symm

theorem Checked.roundtrip : ∀ b, b < 256 →
    t.fromTable.getD (lookup t.toTable (t.fromTable.getD b 0xFFFF)) 0xFFFF = t.fromTable.getD b 0xFFFF :=
  fun b hb => h.back ((mem_iff_getD _).2 ⟨b, h.1.2.1 ▸ hb, rfl⟩)

theorem Checked.to_consistent : ∀ p ∈ t.toTable,
    p.2 < 256 ∧ p.1 < 65536 ∧ (p.1 ∈ t.fromTable → t.fromTable.getD p.2 0xFFFF = p.1) :=
  fun p hp => ⟨(h.2.2 p hp).1, (h.2.2 p hp).2, fun hin => by
    have := h.back hin
    rwa [lookup_of_mem h.pairwise hp] at this⟩

end XV.Lemmas.ByteCodec
