/- Document-level round trip of the syntactic recogniser `parseSyn`, for documents without DOCTYPE or with a DOCTYPE
   whose internal subset declares internal general entities only. -/
import XV.Lemmas.XmlDecl
namespace XV.Lemmas.Xml
open XV.Spec.Xml XV.Spec.XmlChar

mutual
theorem lexNode_eq : (n : Node) → lexNode n = n.toks.all lexTok
  | .leaf l | .empty t => by simp only [lexNode, Node.toks, List.all_cons, List.all_nil, lexTok, Bool.and_true]
  | .elem t kids en ew => by
    simp only [lexNode, Node.toks, List.all_cons, List.all_append, List.all_nil, lexTok, Bool.and_true, lexNodes_eq kids,
      Bool.and_assoc]
theorem lexNodes_eq : (ns : List Node) → lexNodes ns = (Node.toksL ns).all lexTok
  | [] => rfl
  | n :: ns => by simp only [lexNodes, Node.toksL, List.all_append, lexNode_eq n, lexNodes_eq ns]
end

theorem lexNodes_toksL : (ns : List Node) → (lexNodes ns = true ↔ ∀ t ∈ Node.toksL ns, lexTok t = true) :=
  fun ns => by rw [lexNodes_eq, List.all_eq_true]

mutual
theorem node_toks_noDoctype : (n : Node) → ∀ t ∈ n.toks, noDoctypeTok t = true
  | .leaf l | .empty t => by simp [Node.toks, noDoctypeTok]
  | .elem t kids en ew => by
    intro x hx
    simp only [Node.toks, List.mem_cons, List.mem_append, List.not_mem_nil, or_false] at hx
    rcases hx with rfl | hx | rfl
    · rfl
    · exact nodes_toks_noDoctype kids x hx
    · rfl
theorem nodes_toks_noDoctype : (ns : List Node) → ∀ t ∈ Node.toksL ns, noDoctypeTok t = true
  | [] => nofun
  | n :: ns => by
    intro x hx
    rcases List.mem_append.mp hx with hx | hx
    · exact node_toks_noDoctype n x hx
    · exact nodes_toks_noDoctype ns x hx
end

theorem tokE_of_noDoctype {ts : List Tok} (h : ∀ t ∈ ts, noDoctypeTok t = true) :
    ts.all lexTokE = ts.all lexTok ∧ ts.all okTokE = true := by
  induction ts with
  | nil => exact ⟨rfl, rfl⟩
  | cons t ts ih =>
    obtain ⟨i1, i2⟩ := ih (fun x hx => h x (List.mem_cons_of_mem _ hx))
    have := h t (List.mem_cons_self ..)
    cases t with
    | doctype d => cases this
    | _ => exact ⟨by rw [List.all_cons, List.all_cons, i1]; rfl, by rw [List.all_cons, i2]; rfl⟩

theorem tokE_of_leaves (ls : List Leaf) : (ls.map Tok.leaf).all lexTokE = ls.all lexLeaf ∧ (ls.map Tok.leaf).all okTokE = true := by
  induction ls with
  | nil => exact ⟨rfl, rfl⟩
  | cons l ls ih => exact ⟨by rw [List.map_cons, List.all_cons, List.all_cons, ih.1]; rfl, by rw [List.map_cons, List.all_cons, ih.2]; rfl⟩

/-- the document is in the proved fragment: no DOCTYPE, or one whose internal subset declares internal general
    entities only (plus comments, PIs, white space) -/
def entOnlyDoc (d : Doc) : Bool :=
  match d.doctype with
  | none => true
  | some (dt, _) => entOnly dt

theorem toks_lexTokE (d : Doc) : d.toks.all lexTokE = true ↔
    (d.pre.all lexLeaf = true ∧
     (match d.doctype with | none => True | some (dt, m) => lexDoctypeE dt = true ∧ m.all lexLeaf = true) ∧
     lexNode d.root = true ∧ d.post.all lexLeaf = true) := by
  obtain ⟨decl, pre, _ | ⟨dt, m⟩, root, post⟩ := d <;>
    simp only [Doc.toks, List.all_append, List.all_cons, List.append_nil, (tokE_of_leaves _).1,
      (tokE_of_noDoctype (node_toks_noDoctype root)).1, ← lexNode_eq, lexTokE, Bool.and_eq_true, and_assoc, true_and]

theorem toks_okTokE {d : Doc} (he : entOnlyDoc d = true) : d.toks.all okTokE = true := by
  obtain ⟨decl, pre, _ | ⟨dt, m⟩, root, post⟩ := d
  · simp only [Doc.toks, List.all_append, List.append_nil, (tokE_of_leaves _).2,
      (tokE_of_noDoctype (node_toks_noDoctype root)).2, Bool.and_self]
  · simp only [Doc.toks, List.all_append, List.all_cons, (tokE_of_leaves _).2,
      (tokE_of_noDoctype (node_toks_noDoctype root)).2, okTokE, show entOnly dt = true from he, Bool.and_self]

theorem lexDoc_E (d : Doc) (he : entOnlyDoc d = true) :
    lexDoc d = true ↔
      ((match d.decl with | some x => lexXmlDecl x = true | none => startsWithDecl (renderToks d.toks) = none) ∧
       (d.pre.all lexLeaf) = true ∧
       (match d.doctype with | none => True | some (dt, m) => lexDoctypeE dt = true ∧ (m.all lexLeaf) = true) ∧
       d.root.isElement = true ∧ lexNode d.root = true ∧ (d.post.all lexLeaf) = true) := by
  obtain ⟨decl, pre, _ | ⟨dt, m⟩, root, post⟩ := d
  · cases decl <;> simp [lexDoc, Option.isNone_iff_eq_none, and_assoc]
  · have := lexDoctype_iff (show entOnly dt = true from he)
    cases decl <;> simp [lexDoc, Option.isNone_iff_eq_none, and_assoc, this]

/-- what an accepted text is made of, for every document (no fragment hypothesis) -/
theorem parseSyn_ok {s : Str} {d : Doc} : parseSyn s = .ok d →
    d.root.isElement = true ∧ ∃ body : Str, tokenize (body.length + 1) body = .ok d.toks ∧
      (d.decl = none → startsWithDecl s = none ∧ body = s) ∧
      (∀ x, d.decl = some x → ∃ r, startsWithDecl s = some r ∧ parseXmlDecl r = .ok (x, body)) := by
  fun_cases parseSyn s
  case case3 r hs x body hx ts ht =>
    intro h
    obtain ⟨b1, rfl, b3⟩ := buildDoc_iff.mp h
    exact ⟨b3, body, ht, by rw [b1]; nofun, by rw [b1]; rintro _ ⟨⟩; exact ⟨r, hs, hx⟩⟩
  case case5 hs ts ht =>
    intro h
    obtain ⟨b1, rfl, b3⟩ := buildDoc_iff.mp h
    exact ⟨b3, s, ht, fun _ => ⟨hs, rfl⟩, by rw [b1]; nofun⟩
  all_goals nofun

theorem parseSyn_iff {s : Str} {d : Doc} (he : entOnlyDoc d = true) :
    parseSyn s = .ok d ↔ render d = s ∧ lexDoc d = true := by
  rw [lexDoc_E d he, render]
  constructor
  · intro h
    obtain ⟨b3, body, ht, hnone, hsome⟩ := parseSyn_ok h
    obtain ⟨rfl, t2⟩ := (tokenize_iff (Nat.lt_succ_self _) (toks_okTokE he)).mp ht
    obtain ⟨l1, l2, l3, l4⟩ := (toks_lexTokE d).mp t2
    cases hdecl : d.decl with
    | none =>
      obtain ⟨hs, rfl⟩ := hnone hdecl
      exact ⟨rfl, hs, l1, l2, b3, l3, l4⟩
    | some x =>
      obtain ⟨r, hs, hx⟩ := hsome x hdecl
      obtain ⟨rfl, hhead⟩ := startsWithDecl_iff.mp hs
      obtain ⟨rfl, p2⟩ := (parseXmlDecl_iff hhead).mp hx
      exact ⟨renderXmlDecl_append x _, p2, l1, l2, b3, l3, l4⟩
  · rintro ⟨rfl, h0, h1, hdt, h2, h3, h4⟩
    have ht := (tokenize_iff (Nat.lt_succ_self _) (toks_okTokE he)).mpr ⟨rfl, (toks_lexTokE d).mpr ⟨h1, hdt, h3, h4⟩⟩
    have hb := buildDoc_iff.mpr ⟨rfl, rfl, h2⟩
    cases hdecl : d.decl with
    | none =>
      rw [hdecl] at h0 hb
      simp only [parseSyn, List.nil_append, h0, ht, hb]
    | some x =>
      rw [hdecl] at h0 hb
      simp only [parseSyn, renderXmlDecl_append, startsWithDecl_iff.mpr ⟨rfl, declBody_head h0 _⟩,
        (parseXmlDecl_iff (declBody_head h0 _)).mpr ⟨rfl, h0⟩, ht, hb]

theorem entOnlyDoc_of_none {d : Doc} (h : d.doctype = none) : entOnlyDoc d = true := by rw [entOnlyDoc, h]

/-- accept side of the syntactic recogniser: every lexically valid DOCTYPE-free tree is read back from its rendering -/
theorem parseSyn_render (d : Doc) (hl : lexDoc d = true) (hdt : d.doctype = none) : parseSyn (render d) = .ok d :=
  (parseSyn_iff (entOnlyDoc_of_none hdt)).mpr ⟨rfl, hl⟩

/-- reject side of the syntactic recogniser: an accepted text whose tree has no DOCTYPE is the rendering of that
    (lexically valid) tree -/
theorem parseSyn_sound (s : Str) (d : Doc) (h : parseSyn s = .ok d) (hdt : d.doctype = none) :
    lexDoc d = true ∧ render d = s :=
  ((parseSyn_iff (entOnlyDoc_of_none hdt)).mp h).symm

end XV.Lemmas.Xml
