/-
C07 — the position (Glushkov / McNaughton–Yamada / followpos) automaton of a content particle is exact.

Declarative versions of what `DFAContentModel::buildSyntaxTree` computes: leaves are numbered left to right from `lo`;
`first`/`last`/`fol` are firstpos/lastpos/followpos as Boolean functions on positions; `PLang c lo` is the language of
the linearised particle (words of positions), and `CM.Lang c` its image under `nameAt`.  The children of a node own
disjoint ranges of positions, so from a position of one child the automaton of the node is that of the child: the
accepted words obey the equations that define the language (`walk_split` cuts a run of `a · b` and one of
`a+ = a · a*` in the same way), and `plang_iff_accepts` is read off them.  Nothing assumes determinism (1-unambiguity)
of the content model.
-/
import XV.Spec.ContentModel
namespace XV.Lemmas.Glushkov
open XV.Spec.ContentModel

def size : CM → Nat
  | .leaf _ => 1
  | .seq a b => size a + size b
  | .choice a b => size a + size b
  | .opt a => size a
  | .star a => size a
  | .plus a => size a

def nullable : CM → Bool
  | .leaf _ => false
  | .seq a b => nullable a && nullable b
  | .choice a b => nullable a || nullable b
  | .opt _ => true
  | .star _ => true
  | .plus a => nullable a

def names : CM → List Name
  | .leaf n => [n]
  | .seq a b => names a ++ names b
  | .choice a b => names a ++ names b
  | .opt a => names a
  | .star a => names a
  | .plus a => names a

def first : CM → Nat → Nat → Bool
  | .leaf _, lo, p => p == lo
  | .seq a b, lo, p => first a lo p || (nullable a && first b (lo + size a) p)
  | .choice a b, lo, p => first a lo p || first b (lo + size a) p
  | .opt a, lo, p => first a lo p
  | .star a, lo, p => first a lo p
  | .plus a, lo, p => first a lo p

def last : CM → Nat → Nat → Bool
  | .leaf _, lo, p => p == lo
  | .seq a b, lo, p => last b (lo + size a) p || (nullable b && last a lo p)
  | .choice a b, lo, p => last a lo p || last b (lo + size a) p
  | .opt a, lo, p => last a lo p
  | .star a, lo, p => last a lo p
  | .plus a, lo, p => last a lo p

/-- `fol c lo p q`: position `q` may follow position `p` -/
def fol : CM → Nat → Nat → Nat → Bool
  | .leaf _, _, _, _ => false
  | .seq a b, lo, p, q => fol a lo p q || fol b (lo + size a) p q || (last a lo p && first b (lo + size a) q)
  | .choice a b, lo, p, q => fol a lo p q || fol b (lo + size a) p q
  | .opt a, lo, p, q => fol a lo p q
  | .star a, lo, p, q => fol a lo p q || (last a lo p && first a lo q)
  | .plus a, lo, p, q => fol a lo p q || (last a lo p && first a lo q)

inductive PLang : CM → Nat → List Nat → Prop where
  | leaf (n : Name) (lo : Nat) : PLang (.leaf n) lo [lo]
  | seq {a b : CM} {lo : Nat} {u v : List Nat} :
      PLang a lo u → PLang b (lo + size a) v → PLang (.seq a b) lo (u ++ v)
  | choiceL {a : CM} (b : CM) {lo : Nat} {u : List Nat} : PLang a lo u → PLang (.choice a b) lo u
  | choiceR (a : CM) {b : CM} {lo : Nat} {u : List Nat} : PLang b (lo + size a) u → PLang (.choice a b) lo u
  | optNone (a : CM) (lo : Nat) : PLang (.opt a) lo []
  | optSome {a : CM} {lo : Nat} {u : List Nat} : PLang a lo u → PLang (.opt a) lo u
  | starNil (a : CM) (lo : Nat) : PLang (.star a) lo []
  | starCons {a : CM} {lo : Nat} {u v : List Nat} :
      PLang a lo u → PLang (.star a) lo v → PLang (.star a) lo (u ++ v)
  | plusOne {a : CM} {lo : Nat} {u : List Nat} : PLang a lo u → PLang (.plus a) lo u
  | plusCons {a : CM} {lo : Nat} {u v : List Nat} :
      PLang a lo u → PLang (.plus a) lo v → PLang (.plus a) lo (u ++ v)

/-- name carried by position `p` (positions of `c` are `lo … lo + size c - 1`) -/
def nameAt (c : CM) (lo : Nat) (p : Nat) : Name := (names c).getD (p - lo) 0

def walk (f : Nat → Nat → Bool) (l : Nat → Bool) : Nat → List Nat → Bool
  | p, [] => l p
  | p, q :: r => f p q && walk f l q r

def accepts (c : CM) (lo : Nat) : List Nat → Bool
  | [] => nullable c
  | p :: r => first c lo p && walk (fol c lo) (last c lo) p r

theorem names_length (c : CM) : (names c).length = size c := by
  induction c <;> simp [names, size, *]

theorem range_left {lo a b p : Nat} (h : lo ≤ p ∧ p < lo + a) : lo ≤ p ∧ p < lo + (a + b) :=
  ⟨h.1, Nat.lt_of_lt_of_le h.2 (Nat.add_le_add_left (Nat.le_add_right a b) lo)⟩

theorem range_right {lo a b p : Nat} (h : lo + a ≤ p ∧ p < lo + a + b) : lo ≤ p ∧ p < lo + (a + b) :=
  ⟨Nat.le_trans (Nat.le_add_right lo a) h.1, Nat.add_assoc lo a b ▸ h.2⟩

theorem first_range {c : CM} {lo p : Nat} (h : first c lo p = true) : lo ≤ p ∧ p < lo + size c := by
  induction c generalizing lo with
  | leaf n => rw [first, beq_iff_eq] at h; exact h ▸ ⟨Nat.le_refl _, Nat.lt_succ_self _⟩
  | seq a b iha ihb =>
    simp only [first, Bool.or_eq_true, Bool.and_eq_true] at h
    exact h.elim (fun h => range_left (iha h)) (fun h => range_right (ihb h.2))
  | choice a b iha ihb =>
    simp only [first, Bool.or_eq_true] at h
    exact h.elim (fun h => range_left (iha h)) (fun h => range_right (ihb h))
  | opt a ih => exact ih h
  | star a ih => exact ih h
  | plus a ih => exact ih h

theorem first_nonempty (c : CM) (lo : Nat) : ∃ r, first c lo r = true := by
  induction c generalizing lo with
  | leaf n => exact ⟨lo, beq_self_eq_true lo⟩
  | seq a b iha _ => exact (iha lo).imp fun r hr => by rw [first, hr]; rfl
  | choice a b iha _ => exact (iha lo).imp fun r hr => by rw [first, hr]; rfl
  | opt a ih => exact ih lo
  | star a ih => exact ih lo
  | plus a ih => exact ih lo

theorem last_range {c : CM} {lo p : Nat} (h : last c lo p = true) : lo ≤ p ∧ p < lo + size c := by
  induction c generalizing lo with
  | leaf n => rw [last, beq_iff_eq] at h; exact h ▸ ⟨Nat.le_refl _, Nat.lt_succ_self _⟩
  | seq a b iha ihb =>
    simp only [last, Bool.or_eq_true, Bool.and_eq_true] at h
    exact h.elim (fun h => range_right (ihb h)) (fun h => range_left (iha h.2))
  | choice a b iha ihb =>
    simp only [last, Bool.or_eq_true] at h
    exact h.elim (fun h => range_left (iha h)) (fun h => range_right (ihb h))
  | opt a ih => exact ih h
  | star a ih => exact ih h
  | plus a ih => exact ih h

theorem fol_range {c : CM} {lo p q : Nat} (h : fol c lo p q = true) :
    (lo ≤ p ∧ p < lo + size c) ∧ (lo ≤ q ∧ q < lo + size c) := by
  induction c generalizing lo with
  | leaf n => cases h
  | seq a b iha ihb =>
    simp only [fol, Bool.or_eq_true, Bool.and_eq_true] at h
    rcases h with (h | h) | ⟨h1, h2⟩
    · exact ⟨range_left (iha h).1, range_left (iha h).2⟩
    · exact ⟨range_right (ihb h).1, range_right (ihb h).2⟩
    · exact ⟨range_left (last_range h1), range_right (first_range h2)⟩
  | choice a b iha ihb =>
    simp only [fol, Bool.or_eq_true] at h
    rcases h with h | h
    · exact ⟨range_left (iha h).1, range_left (iha h).2⟩
    · exact ⟨range_right (ihb h).1, range_right (ihb h).2⟩
  | opt a ih => exact ih h
  | star a ih =>
    simp only [fol, Bool.or_eq_true, Bool.and_eq_true] at h
    exact h.elim ih fun h => ⟨last_range h.1, first_range h.2⟩
  | plus a ih =>
    simp only [fol, Bool.or_eq_true, Bool.and_eq_true] at h
    exact h.elim ih fun h => ⟨last_range h.1, first_range h.2⟩

theorem first_out {c : CM} {lo p : Nat} (h : ¬ (lo ≤ p ∧ p < lo + size c)) : first c lo p = false :=
  Bool.eq_false_iff.2 fun hf => h (first_range hf)

theorem last_out {c : CM} {lo p : Nat} (h : ¬ (lo ≤ p ∧ p < lo + size c)) : last c lo p = false :=
  Bool.eq_false_iff.2 fun hf => h (last_range hf)

theorem fol_out_l {c : CM} {lo p q : Nat} (h : ¬ (lo ≤ p ∧ p < lo + size c)) : fol c lo p q = false :=
  Bool.eq_false_iff.2 fun hf => h (fol_range hf).1

theorem fol_out_r {c : CM} {lo p q : Nat} (h : ¬ (lo ≤ q ∧ q < lo + size c)) : fol c lo p q = false :=
  Bool.eq_false_iff.2 fun hf => h (fol_range hf).2

section
variable {a b : CM} {lo p : Nat}

theorem fol_seq_left (hp : p < lo + size a) (r : Nat) :
    fol (.seq a b) lo p r = (fol a lo p r || (last a lo p && first b (lo + size a) r)) := by
  rw [fol, fol_out_l (c := b) fun h => Nat.not_lt.2 h.1 hp, Bool.or_false]

theorem last_seq_left (hp : p < lo + size a) : last (.seq a b) lo p = (nullable b && last a lo p) := by
  rw [last, last_out (c := b) fun h => Nat.not_lt.2 h.1 hp, Bool.false_or]

theorem fol_seq_right (hp : lo + size a ≤ p) (r : Nat) : fol (.seq a b) lo p r = fol b (lo + size a) p r := by
  rw [fol, fol_out_l (c := a) fun h => Nat.not_lt.2 hp h.2, last_out (c := a) fun h => Nat.not_lt.2 hp h.2,
    Bool.false_or, Bool.false_and, Bool.or_false]

theorem last_seq_right (hp : lo + size a ≤ p) : last (.seq a b) lo p = last b (lo + size a) p := by
  rw [last, last_out (c := a) fun h => Nat.not_lt.2 hp h.2, Bool.and_false, Bool.or_false]

theorem fol_choice_left (hp : p < lo + size a) (r : Nat) : fol (.choice a b) lo p r = fol a lo p r := by
  rw [fol, fol_out_l (c := b) fun h => Nat.not_lt.2 h.1 hp, Bool.or_false]

theorem last_choice_left (hp : p < lo + size a) : last (.choice a b) lo p = last a lo p := by
  rw [last, last_out (c := b) fun h => Nat.not_lt.2 h.1 hp, Bool.or_false]

theorem fol_choice_right (hp : lo + size a ≤ p) (r : Nat) : fol (.choice a b) lo p r = fol b (lo + size a) p r := by
  rw [fol, fol_out_l (c := a) fun h => Nat.not_lt.2 hp h.2, Bool.false_or]

theorem last_choice_right (hp : lo + size a ≤ p) : last (.choice a b) lo p = last b (lo + size a) p := by
  rw [last, last_out (c := a) fun h => Nat.not_lt.2 hp h.2, Bool.false_or]

end

theorem plang_range {c : CM} {lo : Nat} {π : List Nat} (h : PLang c lo π) :
    ∀ p, p ∈ π → lo ≤ p ∧ p < lo + size c := by
  induction h with
  | leaf n lo => intro p hp; rw [List.mem_singleton.1 hp]; exact ⟨Nat.le_refl _, Nat.lt_succ_self _⟩
  | seq _ _ ih1 ih2 =>
    exact fun p hp => (List.mem_append.1 hp).elim (fun h => range_left (ih1 p h)) (fun h => range_right (ih2 p h))
  | choiceL _ _ ih => exact fun p hp => range_left (ih p hp)
  | choiceR _ _ ih => exact fun p hp => range_right (ih p hp)
  | optNone => exact fun p hp => nomatch hp
  | optSome _ ih => exact ih
  | starNil => exact fun p hp => nomatch hp
  | starCons _ _ ih1 ih2 => exact fun p hp => (List.mem_append.1 hp).elim (ih1 p) (ih2 p)
  | plusOne _ ih => exact ih
  | plusCons _ _ ih1 ih2 => exact fun p hp => (List.mem_append.1 hp).elim (ih1 p) (ih2 p)

/-- the left side is `nameAt (.seq a b) lo p`, and `nameAt (.choice a b) lo p`, with `names` unfolded -/
theorem nameAt_left (a b : CM) (lo p : Nat) (h : lo ≤ p ∧ p < lo + size a) :
    (names a ++ names b).getD (p - lo) 0 = nameAt a lo p := by
  unfold nameAt
  simp only [List.getD_eq_getElem?_getD]
  rw [List.getElem?_append_left (by rw [names_length]; omega)]

theorem nameAt_right (a b : CM) (lo p : Nat) (h : lo + size a ≤ p) :
    (names a ++ names b).getD (p - lo) 0 = nameAt b (lo + size a) p := by
  unfold nameAt
  simp only [List.getD_eq_getElem?_getD]
  rw [List.getElem?_append_right (by rw [names_length]; omega), names_length, Nat.sub_sub]

theorem names_get (c : CM) (p : Nat) (x : Name) : (names c)[p]? = some x ↔ p < size c ∧ nameAt c 0 p = x := by
  rw [nameAt, Nat.sub_zero, List.getD_eq_getElem?_getD, ← names_length]
  refine ⟨fun h => ⟨(List.getElem?_eq_some_iff.1 h).1, by rw [h]; rfl⟩, fun ⟨hp, h⟩ => ?_⟩
  rw [List.getElem?_eq_getElem hp] at h ⊢
  exact congrArg some h

theorem nameAt_mem (c : CM) (lo p : Nat) (h : lo ≤ p ∧ p < lo + size c) : nameAt c lo p ∈ names c := by
  have hl : p - lo < (names c).length := by rw [names_length]; omega
  rw [nameAt, List.getD_eq_getElem?_getD, List.getElem?_eq_getElem hl]
  exact List.getElem_mem hl

theorem map_nameAt_left {a : CM} (b : CM) {lo : Nat} {π : List Nat} (h : PLang a lo π) :
    π.map (fun p => (names a ++ names b).getD (p - lo) 0) = π.map (nameAt a lo) :=
  List.map_congr_left fun p hp => nameAt_left a b lo p (plang_range h p hp)

theorem map_nameAt_right (a : CM) {b : CM} {lo : Nat} {π : List Nat} (h : PLang b (lo + size a) π) :
    π.map (fun p => (names a ++ names b).getD (p - lo) 0) = π.map (nameAt b (lo + size a)) :=
  List.map_congr_left fun p hp => nameAt_right a b lo p (plang_range h p hp).1

theorem lang_of_plang {c : CM} {lo : Nat} {π : List Nat} (h : PLang c lo π) :
    CM.Lang c (π.map (nameAt c lo)) := by
  induction h with
  | leaf n lo => simpa [nameAt, names] using CM.Lang.leaf n
  | @seq a b lo u v h1 h2 ih1 ih2 =>
    rw [List.map_append]
    exact (map_nameAt_left b h1).symm ▸ (map_nameAt_right a h2).symm ▸ .seq ih1 ih2
  | @choiceL a b lo u h1 ih => exact (map_nameAt_left b h1).symm ▸ .choiceL _ ih
  | @choiceR a b lo u h1 ih => exact (map_nameAt_right a h1).symm ▸ .choiceR _ ih
  | optNone a lo => exact .optNone a
  | optSome _ ih => exact .optSome ih
  | starNil a lo => exact .starNil a
  | starCons _ _ ih1 ih2 => rw [List.map_append]; exact .starCons ih1 ih2
  | plusOne _ ih => exact .plusOne ih
  | plusCons _ _ ih1 ih2 => rw [List.map_append]; exact .plusCons ih1 ih2

theorem plang_of_lang {c : CM} {w : List Name} (h : CM.Lang c w) (lo : Nat) :
    ∃ π, PLang c lo π ∧ π.map (nameAt c lo) = w := by
  induction h generalizing lo with
  | leaf n => exact ⟨[lo], .leaf n lo, by simp [nameAt, names]⟩
  | @seq a b u v _ _ ih1 ih2 =>
    obtain ⟨π1, h1, rfl⟩ := ih1 lo
    obtain ⟨π2, h2, rfl⟩ := ih2 (lo + size a)
    exact ⟨π1 ++ π2, .seq h1 h2, by rw [List.map_append, ← map_nameAt_left b h1, ← map_nameAt_right a h2]; rfl⟩
  | @choiceL a b u _ ih =>
    obtain ⟨π1, h1, rfl⟩ := ih lo
    exact ⟨π1, .choiceL _ h1, map_nameAt_left b h1⟩
  | @choiceR a b u _ ih =>
    obtain ⟨π1, h1, rfl⟩ := ih (lo + size a)
    exact ⟨π1, .choiceR _ h1, map_nameAt_right a h1⟩
  | optNone a => exact ⟨[], .optNone a lo, rfl⟩
  | optSome _ ih =>
    obtain ⟨π1, h1, e1⟩ := ih lo
    exact ⟨π1, .optSome h1, e1⟩
  | starNil a => exact ⟨[], .starNil a lo, rfl⟩
  | starCons _ _ ih1 ih2 =>
    obtain ⟨π1, h1, rfl⟩ := ih1 lo
    obtain ⟨π2, h2, rfl⟩ := ih2 lo
    exact ⟨π1 ++ π2, .starCons h1 h2, List.map_append⟩
  | plusOne _ ih =>
    obtain ⟨π1, h1, e1⟩ := ih lo
    exact ⟨π1, .plusOne h1, e1⟩
  | plusCons _ _ ih1 ih2 =>
    obtain ⟨π1, h1, rfl⟩ := ih1 lo
    obtain ⟨π2, h2, rfl⟩ := ih2 lo
    exact ⟨π1 ++ π2, .plusCons h1 h2, List.map_append⟩

theorem lang_iff_plang (c : CM) (lo : Nat) (w : List Name) :
    CM.Lang c w ↔ ∃ π, PLang c lo π ∧ π.map (nameAt c lo) = w :=
  ⟨fun h => plang_of_lang h lo, fun ⟨_, h, e⟩ => e ▸ lang_of_plang h⟩

theorem lang_names {c : CM} {w : List Name} (h : CM.Lang c w) (y : Name) (hy : y ∈ w) : y ∈ names c := by
  obtain ⟨π, hπ, rfl⟩ := plang_of_lang h 0
  obtain ⟨p, hp, rfl⟩ := List.mem_map.1 hy
  exact nameAt_mem c 0 p (plang_range hπ p hp)

theorem walk_congr {f f' : Nat → Nat → Bool} {l l' : Nat → Bool} {R : Nat → Prop}
    (hf : ∀ x y, R x → f x y = f' x y) (hR : ∀ x y, R x → f x y = true → R y) (hl : ∀ e, R e → l e = l' e) :
    ∀ (r : List Nat) (p : Nat), R p → walk f l p r = walk f' l' p r := by
  intro r
  induction r with
  | nil => exact hl
  | cons q r ih =>
    intro p hp
    rw [walk, walk, ← hf p q hp]
    cases h : f p q
    · rfl
    · exact congrArg _ (ih q (hR p q hp h))

theorem walk_seq_right {a b : CM} {lo : Nat} (r : List Nat) {p : Nat} (hp : lo + size a ≤ p) :
    walk (fol (.seq a b) lo) (last (.seq a b) lo) p r = walk (fol b (lo + size a)) (last b (lo + size a)) p r :=
  walk_congr (R := fun x => lo + size a ≤ x) (fun _ y hx => fol_seq_right hx y)
    (fun _ y hx h => (fol_range (fol_seq_right hx y ▸ h)).2.1) (fun _ he => last_seq_right he) r p hp

theorem walk_choice_left {a b : CM} {lo : Nat} (r : List Nat) {p : Nat} (hp : p < lo + size a) :
    walk (fol (.choice a b) lo) (last (.choice a b) lo) p r = walk (fol a lo) (last a lo) p r :=
  walk_congr (R := fun x => x < lo + size a) (fun _ y hx => fol_choice_left hx y)
    (fun _ y hx h => (fol_range (fol_choice_left hx y ▸ h)).2.2) (fun _ he => last_choice_left he) r p hp

theorem walk_choice_right {a b : CM} {lo : Nat} (r : List Nat) {p : Nat} (hp : lo + size a ≤ p) :
    walk (fol (.choice a b) lo) (last (.choice a b) lo) p r = walk (fol b (lo + size a)) (last b (lo + size a)) p r :=
  walk_congr (R := fun x => lo + size a ≤ x) (fun _ y hx => fol_choice_right hx y)
    (fun _ y hx h => (fol_range (fol_choice_right hx y ▸ h)).2.1) (fun _ he => last_choice_right he) r p hp

/-- Runs of `X = a · Y` from inside `a`.  `f`, `l` are follow and last of `X`, `g`, `m` those of `a`, `R` is the region
    of `a`: there `X` steps as `a` does, or over the bridge from a last position of `a` to a first one of `Y`; it may
    stop where `a` may if `Y` is nullable; beyond the bridge it runs as `Y`.  `a · b` is the case `Y = b`, and `a+` is
    `Y = a*`. -/
theorem walk_split {f g : Nat → Nat → Bool} {l m : Nat → Bool} {R : Nat → Prop} {Y : CM} {lo' : Nat}
    (hf : ∀ p q, R p → f p q = (g p q || (m p && first Y lo' q)))
    (hl : ∀ p, R p → l p = (nullable Y && m p))
    (hR : ∀ p q, R p → g p q = true → R q)
    (hY : ∀ q r, first Y lo' q = true → walk f l q r = walk (fol Y lo') (last Y lo') q r) :
    ∀ (r : List Nat) (p : Nat), R p →
      (walk f l p r = true ↔
        ∃ r1 rest, r = r1 ++ rest ∧ walk g m p r1 = true ∧ accepts Y lo' rest = true) := by
  intro r
  induction r with
  | nil =>
    intro p hp
    rw [walk, hl p hp, Bool.and_eq_true]
    constructor
    · exact fun h => ⟨[], [], rfl, h.2, h.1⟩
    · rintro ⟨r1, rest, e, hw, hr⟩
      obtain ⟨rfl, rfl⟩ := List.append_eq_nil_iff.1 e.symm
      exact ⟨hr, hw⟩
  | cons q r ih =>
    intro p hp
    rw [walk, hf p q hp, Bool.and_eq_true, Bool.or_eq_true, Bool.and_eq_true]
    constructor
    · rintro ⟨h1 | ⟨h1, h1'⟩, h2⟩
      · obtain ⟨r1, rest, rfl, hw, hr⟩ := (ih q (hR p q hp h1)).1 h2
        exact ⟨q :: r1, rest, rfl, by rw [walk, h1, hw]; rfl, hr⟩
      · exact ⟨[], q :: r, rfl, h1, by rw [accepts, h1', ← hY q r h1', h2]; rfl⟩
    · rintro ⟨r1, rest, e, hw, hr⟩
      cases r1 with
      | nil =>
        cases e
        rw [accepts, Bool.and_eq_true] at hr
        exact ⟨.inr ⟨hw, hr.1⟩, (hY q r hr.1).trans hr.2⟩
      | cons q' r1 =>
        cases e
        rw [walk, Bool.and_eq_true] at hw
        exact ⟨.inl hw.1, (ih q (hR p q hp hw.1)).2 ⟨r1, rest, rfl, hw.2, hr⟩⟩

theorem walk_seq_left {a b : CM} {lo : Nat} (r : List Nat) (p : Nat) (hp : p < lo + size a) :
    walk (fol (.seq a b) lo) (last (.seq a b) lo) p r = true ↔
      ∃ r1 rest, r = r1 ++ rest ∧ walk (fol a lo) (last a lo) p r1 = true ∧
        accepts b (lo + size a) rest = true :=
  walk_split (R := fun x => x < lo + size a) (fun _ q hp => fol_seq_left hp q) (fun _ hp => last_seq_left hp)
    (fun _ _ _ h => (fol_range h).2.2) (fun _ r hq => walk_seq_right r (first_range hq).1) r p hp

theorem accepts_seq {a b : CM} {lo : Nat} {π : List Nat} :
    accepts (.seq a b) lo π = true ↔
      ∃ u v, π = u ++ v ∧ accepts a lo u = true ∧ accepts b (lo + size a) v = true := by
  cases π with
  | nil =>
    rw [accepts, nullable, Bool.and_eq_true]
    constructor
    · exact fun h => ⟨[], [], rfl, h.1, h.2⟩
    · rintro ⟨u, v, e, hu, hv⟩
      obtain ⟨rfl, rfl⟩ := List.append_eq_nil_iff.1 e.symm
      exact ⟨hu, hv⟩
  | cons p r =>
    rw [accepts, first, Bool.and_eq_true, Bool.or_eq_true, Bool.and_eq_true]
    constructor
    · rintro ⟨hf | ⟨hn, hf⟩, hw⟩
      · obtain ⟨r1, rest, rfl, hw1, hr⟩ := (walk_seq_left r p (first_range hf).2).1 hw
        exact ⟨p :: r1, rest, rfl, by rw [accepts, hf, hw1]; rfl, hr⟩
      · exact ⟨[], p :: r, rfl, hn, by rw [accepts, hf, ← walk_seq_right r (first_range hf).1, hw]; rfl⟩
    · rintro ⟨u, v, e, hu, hv⟩
      cases u with
      | nil =>
        cases e
        rw [accepts, Bool.and_eq_true] at hv
        exact ⟨.inr ⟨hu, hv.1⟩, (walk_seq_right r (first_range hv.1).1).trans hv.2⟩
      | cons p' r1 =>
        cases e
        rw [accepts, Bool.and_eq_true] at hu
        exact ⟨.inl hu.1, (walk_seq_left _ p (first_range hu.1).2).2 ⟨r1, v, rfl, hu.2, hv⟩⟩

theorem accepts_choice {a b : CM} {lo : Nat} {π : List Nat} :
    accepts (.choice a b) lo π = true ↔ accepts a lo π = true ∨ accepts b (lo + size a) π = true := by
  cases π with
  | nil => exact Bool.or_eq_true _ _ ▸ Iff.rfl
  | cons p r =>
    rw [accepts, first, Bool.and_eq_true, Bool.or_eq_true]
    constructor
    · rintro ⟨hf | hf, hw⟩
      · exact .inl (by rw [accepts, hf, ← walk_choice_left r (first_range hf).2, hw]; rfl)
      · exact .inr (by rw [accepts, hf, ← walk_choice_right r (first_range hf).1, hw]; rfl)
    · rintro (h | h) <;> rw [accepts, Bool.and_eq_true] at h
      · exact ⟨.inl h.1, (walk_choice_left r (first_range h.1).2).trans h.2⟩
      · exact ⟨.inr h.1, (walk_choice_right r (first_range h.1).1).trans h.2⟩

/-- `a*` and `a+` have the same first, last and follow positions: they accept the same non-empty words -/
theorem accepts_star_of_plus {a : CM} {lo : Nat} {π : List Nat} (h : accepts (.plus a) lo π = true) :
    accepts (.star a) lo π = true := by
  cases π with
  | nil => rfl
  | cons p r => exact h

theorem walk_plus {a : CM} {lo : Nat} (r : List Nat) (p : Nat) :
    walk (fol (.plus a) lo) (last (.plus a) lo) p r = true ↔
      ∃ r1 rest, r = r1 ++ rest ∧ walk (fol a lo) (last a lo) p r1 = true ∧ accepts (.star a) lo rest = true :=
  walk_split (g := fol a lo) (m := last a lo) (Y := .star a) (R := fun _ => True) (fun _ _ _ => rfl) (fun _ _ => rfl)
    (fun _ _ _ _ => trivial) (fun _ _ _ => rfl) r p trivial

theorem accepts_plus_cons {a : CM} {lo p : Nat} {r : List Nat} :
    accepts (.plus a) lo (p :: r) = true ↔
      ∃ r1 v, r = r1 ++ v ∧ accepts a lo (p :: r1) = true ∧ accepts (.star a) lo v = true := by
  simp only [accepts, Bool.and_eq_true, walk_plus r p]
  exact ⟨fun ⟨hf, r1, v, e, hw, hv⟩ => ⟨r1, v, e, ⟨hf, hw⟩, hv⟩, fun ⟨r1, v, e, ⟨hf, hw⟩, hv⟩ => ⟨hf, r1, v, e, hw, hv⟩⟩

theorem accepts_plus_append {a : CM} {lo : Nat} {u v : List Nat} (hu : accepts a lo u = true)
    (hv : accepts (.star a) lo v = true) : accepts (.plus a) lo (u ++ v) = true := by
  cases u with
  | nil =>
    cases v with
    | nil => exact hu
    | cons q r2 => exact hv
  | cons p r => exact accepts_plus_cons.2 ⟨r, v, rfl, hu, hv⟩

theorem accepts_of_plang {c : CM} {lo : Nat} {π : List Nat} (h : PLang c lo π) : accepts c lo π = true := by
  induction h with
  | leaf n lo => simp [accepts, first, walk, last]
  | seq _ _ ih1 ih2 => exact accepts_seq.2 ⟨_, _, rfl, ih1, ih2⟩
  | choiceL _ _ ih => exact accepts_choice.2 (.inl ih)
  | choiceR _ _ ih => exact accepts_choice.2 (.inr ih)
  | optNone a lo => rfl
  | @optSome a lo u _ ih =>
    cases u with
    | nil => rfl
    | cons p r => exact ih
  | starNil a lo => rfl
  | starCons _ _ ih1 ih2 => exact accepts_star_of_plus (accepts_plus_append ih1 ih2)
  | @plusOne a lo u _ ih => exact List.append_nil u ▸ accepts_plus_append ih (v := []) rfl
  | plusCons _ _ ih1 ih2 => exact accepts_plus_append ih1 (accepts_star_of_plus ih2)

theorem accepts_star_induction {a : CM} {lo : Nat} {P : List Nat → Prop} (h0 : P [])
    (hs : ∀ u v, accepts a lo u = true → P v → P (u ++ v)) : ∀ π, accepts (.star a) lo π = true → P π
  | [], _ => h0
  | p :: r, h => by
    obtain ⟨r1, v, e, hu, hv⟩ := accepts_plus_cons.1 h
    exact e ▸ hs (p :: r1) v hu (accepts_star_induction h0 hs v hv)
termination_by π => π.length
decreasing_by rw [e, List.length_cons, List.length_append]; omega

theorem plang_of_accepts (c : CM) : ∀ (lo : Nat) (π : List Nat), accepts c lo π = true → PLang c lo π := by
  induction c with
  | leaf n =>
    intro lo π h
    match π, h with
    | [p], h =>
      obtain rfl : p = lo := by simpa [accepts, first, walk, last] using h
      exact .leaf n p
    | _ :: _ :: _, h => simp [accepts, walk, fol] at h
  | seq a b iha ihb =>
    intro lo π h
    obtain ⟨u, v, rfl, hu, hv⟩ := accepts_seq.1 h
    exact .seq (iha lo u hu) (ihb _ v hv)
  | choice a b iha ihb =>
    exact fun lo π h => (accepts_choice.1 h).elim (fun h => .choiceL _ (iha lo π h)) fun h => .choiceR _ (ihb _ π h)
  | opt a iha =>
    intro lo π h
    cases π with
    | nil => exact .optNone a lo
    | cons p r => exact .optSome (iha lo _ h)
  | star a iha =>
    exact fun lo => accepts_star_induction (.starNil a lo) fun u v hu hv => .starCons (iha lo u hu) hv
  | plus a iha =>
    intro lo π h
    cases π with
    | nil => exact .plusOne (iha lo [] h)
    | cons p r =>
      obtain ⟨r1, v, rfl, hu, hv⟩ := accepts_plus_cons.1 h
      -- `a · a*` lies in `a+`, by induction on the word of `a*`
      exact accepts_star_induction (P := fun v => ∀ u, PLang a lo u → PLang (.plus a) lo (u ++ v))
        (fun u hu => (List.append_nil u).symm ▸ .plusOne hu)
        (fun u' v' hu' hv' u hu => .plusCons hu (hv' u' (iha lo u' hu'))) v hv _ (iha lo _ hu)

theorem plang_iff_accepts (c : CM) (lo : Nat) (π : List Nat) : PLang c lo π ↔ accepts c lo π = true :=
  ⟨accepts_of_plang, plang_of_accepts c lo π⟩

/-- Glushkov: a child sequence is in the language iff some word of positions carrying these names is
    accepted by the first/last/follow automaton -/
theorem lang_iff_accepts (c : CM) (lo : Nat) (w : List Name) :
    CM.Lang c w ↔ ∃ π, accepts c lo π = true ∧ π.map (nameAt c lo) = w := by
  simp only [lang_iff_plang c lo, plang_iff_accepts]

theorem nullable_iff_lang_nil (c : CM) : nullable c = true ↔ CM.Lang c [] :=
  ⟨fun h => (lang_iff_accepts c 0 []).2 ⟨[], h, rfl⟩, fun h =>
    match (lang_iff_accepts c 0 []).1 h with
    | ⟨[], ha, _⟩ => ha⟩

end XV.Lemmas.Glushkov
