/-
C08 — XML Schema structure validation accepts exactly the schema-valid instances.
Property theorems only (+ non-vacuity examples).  Every statement quantifies over ALL particles / trees /
member lists / declarations and ALL child sequences (unbounded `List`s, unbounded occurrence counts); nothing
here is a bounded check.

  Spec    XV.Spec.Particle   `PLang` (declarative language of a particle: ranges as bounded repetition, all-groups
                             as permutations), `pMatch` (executable judge: derivatives with counters),
                             `NsConstraint.Allows`, `Substitutable`, `AttrsValid`
          XV.Spec.XsdValid   `assess` / `violations` (executable judge of the document tier; `validElem_iff_partial`
                             and `validDoc_root` only)
  Model   XV.Model.Particle  code-shaped ComplexTypeInfo::expandContentModel / convertContentSpecTree /
                             useRepeatingLeafNodes, AllContentModel (ctor + validateContent), the wildcard
                             branches of DFAContentModel::validateContent and anyAttributeValidation,
                             SubstitutionGroupComparator::isEquivalentTo, the schema part of buildAttList
          XV.Model.ContentModel (C07, imported)  DFAContentModel: buildSyntaxTree / buildDFA / validateContent
  NOT modelled: TraverseSchema (schema document -> components); UPA / particle-derivation checking (decision
  table in tools/props/c08.py only).  The counting states of DFAContentModel (`CMRepeatingLeaf`, `fCountingStates`,
  `handleRepetitions`) ARE modelled (XV.Model.ParticleDfa) and proved exact: `counting_eq_unrolled` below.
-/
import XV.Lemmas.Particle
import XV.Lemmas.ParticleExpand
import XV.Lemmas.ParticleAll
import XV.Lemmas.ParticleRules
import XV.Lemmas.DfaFinal
import XV.Lemmas.ParticleDfa
import XV.Lemmas.XsdValid
import XV.Lemmas.ParticleCountFinal
namespace XV.Props.C08
open XV.Spec.Particle XV.Model.Particle

/-- `nullable` decides membership of the empty child sequence, for every particle -/
theorem nullable_iff {α β : Type} (M : β → α → Prop) (p : Particle α) :
    p.nullable = true ↔ PLang M p ([] : List β) :=
  XV.Lemmas.Particle.nullable_iff p

/-- one derivative step is exact (occurrence counters and all-groups included) -/
theorem deriv_step {α β : Type} [DecidableEq α] (M : β → α → Bool) (p : Particle α) (x : β) (w : List β) :
    PLang (fun x a => M x a = true) (p.deriv (fun a => M x a)) w ↔ PLang (fun x a => M x a = true) p (x :: w) :=
  XV.Lemmas.Particle.deriv_iff_cons (fun a => M x a) x (fun _ => Iff.rfl) p w

/-- `pMatch` decides `PLang`: for every particle (sequence / choice / all, element and wildcard leaves, every
    occurrence range incl. 0, n..m, unbounded and the ill-formed min > max) and every child sequence. -/
theorem pMatch_iff {α β : Type} [DecidableEq α] (M : β → α → Bool) (p : Particle α) (w : List β) :
    pMatch M p w = true ↔ PLang (fun x a => M x a = true) p w := by
  rw [pMatch, XV.Lemmas.Particle.nullable_iff, XV.Lemmas.Particle.derivs_iff, List.append_nil]

-- non-vacuity: a{2,3} b? ; an all-group with an optional member; both verdicts occur
example : pMatch (fun (x a : Nat) => x == a) (.seq (.rep 2 (some 3) (.leaf 0)) (.rep 0 (some 1) (.leaf 1))) [0, 0, 0, 1] = true := by decide +kernel
example : PLang (fun (x a : Nat) => (x == a) = true) (.seq (.rep 2 (some 3) (.leaf 0)) (.rep 0 (some 1) (.leaf 1))) [0, 0, 0, 1] :=
  (pMatch_iff _ _ _).1 (by decide +kernel)
example : ¬ PLang (fun (x a : Nat) => (x == a) = true) (.seq (.rep 2 (some 3) (.leaf 0)) (.rep 0 (some 1) (.leaf 1))) [0, 1] :=
  fun h => absurd ((pMatch_iff _ _ _).2 h) (by decide +kernel)
example : PLang (fun (x a : Nat) => (x == a) = true) (.all [(0, false), (1, true), (2, false)]) [2, 0] :=
  (pMatch_iff _ _ _).1 (by decide +kernel)
example : ¬ PLang (fun (x a : Nat) => (x == a) = true) (.all [(0, false), (1, true), (2, false)]) [2, 1] :=
  fun h => absurd ((pMatch_iff _ _ _).2 h) (by decide +kernel)
example : PLang (fun (x a : Nat) => (x == a) = true) (.rep 2 none (.choice (.leaf 0) (.leaf 1))) [1, 0, 1, 1] :=
  (pMatch_iff _ _ _).1 (by decide +kernel)

open XV.Lemmas.ParticleExpand in
/-- `expandContentModel(specNode, min, max, compact)` denotes `specNode{min,max}`: for every tree `specNode`,
    every Particle-Correct range (min ≤ max, max ≥ 1; §3.9.6) — `?`, `*`, `+`, the copies of the unfolding loops
    for n..m and n..unbounded, and the compact `Loop` node — and every child sequence, whatever the leaf
    matching relation `M`. -/
theorem expand_preserves {α β : Type} (M : β → α → Prop) (x : XNode α) (min : Nat) (max : Option Nat) (compact : Bool)
    (hocc : occOk min max = true) (w : List β) :
    PLang M (expand x min max compact).toParticle w ↔ PLang M (.rep min max x.toParticle) w :=
  expand_preserves' x min max compact hocc w

open XV.Lemmas.ParticleExpand in
/-- `convertContentSpecTree` preserves the language of every well-formed ContentSpecNode tree (nested groups,
    single-child groups, all-groups, ranges on leaves and on groups) when called with the flag
    `useRepeatingLeafNodes s && !hasRepeatedLeaf s` that `makeContentModel` computes (`makeTree`);
    `XV.Lemmas.ParticleExpand.convert_preserves'` is the statement with and without compact syntax. -/
theorem convert_preserves {α β : Type} [DecidableEq α] (M : β → α → Prop) (s : SNode α) (hwf : s.wf = true) (w : List β) :
    PLang M (makeTree s).toParticle w ↔ PLang M s.toParticle w :=
  convert_preserves' _ s hwf w

-- non-vacuity: (a{2,4}, (b | c){0,unbounded}){1,2}  — not compact (range on a group of two) — and a compact one
example : (SNode.group2 .Sequence (.leaf 0 2 (some 4)) (.group2 .Choice (.leaf 1 1 (some 1)) (.leaf 2 1 (some 1)) 0 none) 1 (some 2)).wf = true := by decide +kernel
example : useRepeatingLeafNodes (SNode.group2 .Sequence (.leaf 0 2 (some 4)) (.leaf 1 1 (some 1)) 1 (some 1)) = true := by decide +kernel
example : makeTree (SNode.group2 .Sequence (.leaf 0 2 (some 4)) (.leaf 1 1 (some 1)) 1 (some 1))
    = .bin .Sequence (.loopRep .OneOrMore 2 (some 4) (.leaf 0)) (.leaf 1) := by decide +kernel
example : makeTree (SNode.group1 .Sequence (.group2 .Sequence (.leaf 0 1 (some 1)) (.leaf 1 1 (some 1)) 2 (some 3)) 1 (some 1))
    = .bin .Sequence (.bin .Sequence (.bin .Sequence (.leaf 0) (.leaf 1)) (.bin .Sequence (.leaf 0) (.leaf 1)))
        (.unary .ZeroOrOne (.bin .Sequence (.leaf 0) (.leaf 1))) := by decide +kernel
/-- the hypothesis of `expand_preserves` is necessary: for {0,0} (which "Particle Correct" excludes and
    TraverseSchema never passes on) the code returns `specNode?` -/
example : expand (XNode.leaf 7) 0 (some 0) false = .unary .ZeroOrOne (.leaf 7) := by decide +kernel

open XV.Lemmas.ParticleExpand XV.Spec.ContentModel XV.Model.ContentModel in
/-- Chain to C07: for a well-formed tree over leaf ids whose conversion contains no `All` / `Loop` node, the
    code-shaped `DFAContentModel` (C07 model: buildSyntaxTree, followpos, subset construction, table walk) run on
    the converted tree accepts exactly the declared particle language over leaf ids. -/
theorem expand_dfa_iff (s : SNode Nat) (hwf : s.wf = true) (c : CM) (hc : toCM (makeTree s) = some c) (π : List Nat) :
    (Model.dfa (nodeOfCM c)).validate π = .ok ↔ PLang SymM s.toParticle π := by
  rw [XV.Lemmas.DfaFinal.dfa_iff' c π, toCM_lang _ c hc π]
  exact convert_preserves' _ s hwf π

open XV.Lemmas.ParticleExpand XV.Spec.ContentModel XV.Model.ContentModel in
example : toCM (makeTree (SNode.group1 .Sequence (.group2 .Choice (.leaf 0 1 (some 1)) (.leaf 1 0 (some 1)) 2 (some 3)) 1 (some 1)))
    = some (.seq (.seq (.choice (.leaf 0) (.opt (.leaf 1))) (.choice (.leaf 0) (.opt (.leaf 1))))
        (.opt (.choice (.leaf 0) (.opt (.leaf 1))))) := by decide +kernel

open XV.Lemmas.ParticleExpand XV.Lemmas.ParticleDfa XV.Model.ParticleDfa XV.Spec.ContentModel in
/-- The case without `Loop` nodes of `counting_eq_unrolled` (below: the full statement, which uses this theorem for
    the trees converted without compact syntax; nothing of the property is left open).  For every tree whose
    conversion contains no `Loop` and no `All` node (`toCM (makeTree s) = some c`) — i.e., all-groups apart, whenever
    `useRepeatingLeafNodes s && !hasRepeatedLeaf s` is false, or all ranges are ?, *, + — all child sequences,
    non-deterministic models included: there the schema-mode model with counting states (element map,
    `fCountingStates`, `handleRepetitions`) IS the C07 DFA model.
    Not covered here: trees converted WITH `Loop` nodes (every non-(1,1) range sits on a leaf and, by the test
    `!hasRepeatedLeaf`, all leaves are pairwise different).  Without that test the statement is false there:
    the compact tree of (a{2,2}, b, a{3,3}) rejects a a b a a a, see `counting_repaired_witness`. -/
theorem counting_eq_unrolled_partial (s : SNode Nat) (hwf : s.wf = true) (c : CM) (hc : toCM (makeTree s) = some c)
    (π : List Nat) : validateTree s π = .ok ↔ PLang SymM s.toParticle π := by
  rw [counting_reduces s c hc π]
  exact expand_dfa_iff s hwf c hc π

/-- the content model (a{2,2}, b, a{3,3}) over leaf ids 0 (a) and 1 (b): deterministic (UPA-valid), well-formed;
    `useRepeatingLeafNodes` holds, but the name `a` occurs in two leaves -/
def countingWitness : SNode Nat :=
  .group2 .Sequence (.group2 .Sequence (.leaf 0 2 (some 2)) (.leaf 1 1 (some 1)) 1 (some 1)) (.leaf 0 3 (some 3)) 1 (some 1)

open XV.Lemmas.ParticleExpand XV.Model.ParticleDfa in
/-- Witness for the test `hasRepeatedLeaf` of `makeContentModel` (fix d7e638c of xerces-c): (a{2,2}, b, a{3,3}) has
    `useRepeatingLeafNodes` but repeats a leaf, so it is converted without `Loop` nodes, and the model — by
    `counting_eq_unrolled_partial` — accepts the valid a a b a a a and rejects a a b a a.  The last conjunct: on the
    compact tree `convert true` the counting walk rejects the valid a a b a a a (and it accepts a a b a a, which the
    statement leaves out): there is one `Occurence` range per element-map entry, and the two leaves `a` share theirs. -/
theorem counting_repaired_witness :
    useRepeatingLeafNodes countingWitness = true ∧ hasRepeatedLeaf countingWitness = true ∧
    (toCM (makeTree countingWitness)).isSome = true ∧
    validateTree countingWitness [0, 0, 1, 0, 0, 0] = .ok ∧ validateTree countingWitness [0, 0, 1, 0, 0] = .fail 5 ∧
    (match buildCDFA (convert true countingWitness) with
     | some c => validate c (fun (x a : Nat) => x == a) [0, 0, 1, 0, 0, 0]
     | none => .ok) = .fail 5 := by
  decide +kernel

open XV.Model.ParticleDfa in
-- non-vacuity of the partial theorem: (a | b?){2,3} is expanded by copying; the model is executable
example : validateTree (.group1 .Sequence (.group2 .Choice (.leaf 0 1 (some 1)) (.leaf 1 0 (some 1)) 2 (some 3)) 1 (some 1)) [0, 1, 0] = .ok := by decide +kernel
open XV.Model.ParticleDfa in
-- a compact tree on which counting works: a{2,3} b
example : validateTree (.group2 .Sequence (.leaf 0 2 (some 3)) (.leaf 1 1 (some 1)) 1 (some 1)) [0, 0, 0, 1] = .ok ∧
    validateTree (.group2 .Sequence (.leaf 0 2 (some 3)) (.leaf 1 1 (some 1)) 1 (some 1)) [0, 1] = .fail 1 := by decide +kernel

open XV.Lemmas.ParticleExpand XV.Lemmas.ParticleCount XV.Model.ParticleDfa in
/-- FULL statement (DESIGN §4/C08 `counting_eq_unrolled`).  For EVERY ContentSpecNode tree `s` over leaf ids that is
    Particle-Correct (`s.wf`: every range has min ≤ max, max ≥ 1) and contains no all-group (`noAll s`: all-groups
    get an `AllContentModel`, never the DFA — `all_iff_permutation`), and EVERY child sequence `π`: the schema-mode
    `DFAContentModel` pipeline — `makeContentModel`'s choice of the compact syntax
    (`useRepeatingLeafNodes s && !hasRepeatedLeaf s`), `convertContentSpecTree` with `Loop` nodes for the ranges on
    leaves, `buildSyntaxTree` (`CMRepeatingLeaf` positions), the subset construction, `elemOccurenceMap`,
    `fCountingStates`, and the table walk of `validateContent` with the loop counter of `handleRepetitions`
    (maxOccurs test + search for an alternative entry, minOccurs test on leaving and at the end) — accepts `π`
    exactly when `π` is in the declared particle language of `s` (`PLang`, equivalently `pMatch` by `pMatch_iff`).
    Both branches are covered: trees converted WITH `Loop` nodes (all leaves pairwise different: `!hasRepeatedLeaf`)
    and trees expanded by copying.
    Proof (XV.Lemmas.ParticleCount*): in a compact tree closures only surround single leaves, so the follow
    relation only goes forward (`fol_le`), a state has at most one self-loop entry, the follow set of a `+` leaf
    is shared with no earlier position (`plus_sep`: the subset construction never merges the state entered by a
    `Loop` leaf with minOccurs ≥ 1 with a state entered by another leaf), transitions never target state 0 and
    states ≥ 1 are pairwise different (the loop invariant `Tbl` of `dfaLoop_spec`); hence the counting walk is the
    plain table walk plus a block check (`cwalk_iff`), and the particle language is the skeleton language plus the
    same block check (`compact_lang`). -/
theorem counting_eq_unrolled (s : SNode Nat) (hwf : s.wf = true) (hna : noAll s = true) (π : List Nat) :
    validateTree s π = .ok ↔ PLang SymM s.toParticle π := by
  cases hflag : (useRepeatingLeafNodes s && !hasRepeatedLeaf s) with
  | false =>
    have hmt : makeTree s = convert false s := by unfold makeTree; rw [hflag]
    obtain ⟨c, hc⟩ := toCM_convert s hwf hna
    exact counting_eq_unrolled_partial s hwf c (by rw [hmt]; exact hc) π
  | true =>
    simp only [Bool.and_eq_true, Bool.not_eq_true'] at hflag
    obtain ⟨hu, hrep⟩ := hflag
    have hmt : makeTree s = convert true s := by unfold makeTree; rw [hu, hrep]; rfl
    obtain ⟨hcomp, hnames⟩ := compact_convert s hwf hna hu
    rw [← hmt] at hcomp hnames
    refine (counting_compact s hcomp ?_ π).trans (convert_preserves' _ s hwf π)
    rw [hnames]; exact (hasRepeatedLeafIn_false _).1 hrep

/-- (a{2,3}, b{0,2}) over leaf ids 0 (a) and 1 (b): converted with two real `Loop` nodes -/
def countingLoops : SNode Nat := .group2 .Sequence (.leaf 0 2 (some 3)) (.leaf 1 0 (some 2)) 1 (some 1)

-- non-vacuity of `counting_eq_unrolled`: the hypotheses hold, the tree is converted with `Loop` nodes, the DFA has
-- counting states, both verdicts occur (too few / too many a's, too many b's), and the theorem transports them
open XV.Lemmas.ParticleCount in
example : countingLoops.wf = true ∧ noAll countingLoops = true ∧
    (useRepeatingLeafNodes countingLoops && !hasRepeatedLeaf countingLoops) = true := by decide +kernel
example : makeTree countingLoops
    = .bin .Sequence (.loopRep .OneOrMore 2 (some 3) (.leaf 0)) (.loopRep .ZeroOrMore 0 (some 2) (.leaf 1)) := by decide +kernel
open XV.Model.ParticleDfa in
example : (buildCDFA (makeTree countingLoops)).map (fun c => c.counting.isSome) = some true := by decide +kernel
open XV.Model.ParticleDfa in
example : validateTree countingLoops [0, 0, 1, 1] = .ok ∧ validateTree countingLoops [0, 0, 0] = .ok ∧
    validateTree countingLoops [0, 1] = .fail 1 ∧ validateTree countingLoops [0, 0, 0, 0] = .fail 3 ∧
    validateTree countingLoops [0, 0, 1, 1, 1] = .fail 4 := by decide +kernel
open XV.Lemmas.ParticleExpand in
example : PLang SymM countingLoops.toParticle [0, 0, 0, 1] :=
  (counting_eq_unrolled countingLoops (by decide +kernel) (by decide +kernel) _).1 (by decide +kernel)
open XV.Lemmas.ParticleExpand in
example : ¬ PLang SymM countingLoops.toParticle [0, 0, 1, 1, 1] :=
  fun h => absurd ((counting_eq_unrolled countingLoops (by decide +kernel) (by decide +kernel) _).2 h) (by decide +kernel)
-- a state entered by `b` that coincides with the counting state of `a{0,2}` (merged state sets, minOccurs = 0):
-- (b, a{0,2}, c)
open XV.Model.ParticleDfa in
example : validateTree (.group2 .Sequence (.leaf 1 1 (some 1)) (.group2 .Sequence (.leaf 0 0 (some 2)) (.leaf 2 1 (some 1)) 1 (some 1)) 1 (some 1)) [1, 2] = .ok ∧
    validateTree (.group2 .Sequence (.leaf 1 1 (some 1)) (.group2 .Sequence (.leaf 0 0 (some 2)) (.leaf 2 1 (some 1)) 1 (some 1)) 1 (some 1)) [1, 0, 0, 2] = .ok ∧
    validateTree (.group2 .Sequence (.leaf 1 1 (some 1)) (.group2 .Sequence (.leaf 0 0 (some 2)) (.leaf 2 1 (some 1)) 1 (some 1)) 1 (some 1)) [1, 0, 0, 0, 2] = .fail 3 := by decide +kernel
/-- the hypothesis `noAll` is necessary: the DFA model reads an `All` node as a sequence -/
example : (SNode.group2 .All (.leaf 0 1 (some 1)) (.leaf 1 1 (some 1)) 1 (some 1)).wf = true ∧
    XV.Model.ParticleDfa.validateTree (.group2 .All (.leaf 0 1 (some 1)) (.leaf 1 1 (some 1)) 1 (some 1)) [1, 0] = .fail 0 ∧
    pMatch (fun (x a : Nat) => x == a) (SNode.group2 .All (.leaf 0 1 (some 1)) (.leaf 1 1 (some 1)) 1 (some 1)).toParticle [1, 0] = true := by
  decide +kernel

open XV.Lemmas.ParticleAll in
/-- `AllContentModel::validateContent` (first-match lookup, `elementSeen`, `numRequiredSeen`) succeeds exactly
    on: the empty content when the all-group has minOccurs = 0, or a sequence that is a permutation of a
    selection of the members omitting only optional ones (`PLang (.all ms)`) — for every member list with
    distinct names (Element Declarations Consistent / UPA guarantee that) and every child sequence. -/
theorem all_iff_permutation {α : Type} [DecidableEq α] (ms : List (α × Bool)) (hasOptionalContent : Bool)
    (hnd : (ms.map (·.1)).Nodup) (w : List α) :
    allValidate (allModelOf ms hasOptionalContent) w = none ↔
      (w = [] ∧ hasOptionalContent = true) ∨ PLang EqM (.all ms) w := by
  have key := allLoop_iff ms hasOptionalContent hnd w 0 _ ms (.init hnd) 0 (Nat.zero_add _)
  rw [← key, allValidate, show (allModelOf ms hasOptionalContent).children.length = ms.length from List.length_map _]
  cases w with
  | nil =>
    have hoc : (allModelOf ms hasOptionalContent).hasOptionalContent = hasOptionalContent := rfl
    simp only [allLoop, hoc, List.length_nil, true_and]
    generalize (allModelOf ms hasOptionalContent).numRequired = R
    by_cases hR : R = 0
    · simp [hR]
    · simp [hR, Ne.symm hR]
  | cons x w =>
    rw [if_neg (by simp)]
    cases allLoop (allModelOf ms hasOptionalContent) (x :: w) 0 (List.replicate ms.length false) 0 <;> simp

open XV.Lemmas.ParticleAll in
/-- the constructor (`buildChildList`) builds exactly that model from the tree `convertContentSpecTree` leaves
    below an `All` node -/
theorem all_ctor {α : Type} (root : XNode α) (h : xAllShape root = true) (hoc : Bool) :
    mkAllModel root hoc = some (allModelOf root.allMembers hoc) := by
  rw [mkAllModel, buildChildList_members root h]
  simp [allModelOf]

open XV.Lemmas.ParticleAll in
example : allValidate (allModelOf [(0, false), (1, true), (2, false)] false) [2, 0] = none := by decide +kernel
open XV.Lemmas.ParticleAll in
example : allValidate (allModelOf [(0, false), (1, true), (2, false)] false) [2, 0, 2] = some 2 := by decide +kernel
open XV.Lemmas.ParticleAll in
example : PLang EqM (.all [(0, false), (1, true), (2, false)]) [1, 2, 0] :=
  ((all_iff_permutation _ false (by decide +kernel) _).1 (by decide +kernel)).resolve_left (by simp)
example : mkAllModel (makeTree (SNode.group2 .All (.leaf 0 1 (some 1)) (.leaf 1 0 (some 1)) 1 (some 1))) false
    = some ⟨[0, 1], [false, true], 1, false⟩ := by decide +kernel

open XV.Lemmas.ParticleRules in
/-- The namespace test of the wildcard branches (`Any`: always; `Any_NS`: URI ids equal; `Any_Other`: child URI
    is not the empty-namespace id 1 and differs from the leaf's URI), applied to the leaves TraverseSchema creates
    for a {namespace constraint}, and the test of `anyAttributeValidation`, are both exactly §3.10.4
    "Wildcard allows Namespace Name" — under the id encoding `uriId` (absent namespace ↦ id 1). -/
theorem wildcard_spec (c : NsConstraint) (x : QName) :
    (wildAccepts c x = true ↔ c.Allows x.ns) ∧ (attWildAccepts c x = true ↔ c.Allows x.ns) := by
  rw [wildAccepts_eq, attWildAccepts_eq]
  exact ⟨allows_iff c x.ns, allows_iff c x.ns⟩

example : wildAccepts (.other 1) ⟨2, 5⟩ = true ∧ wildAccepts (.other 1) ⟨1, 5⟩ = false ∧ wildAccepts (.other 1) ⟨0, 5⟩ = false := by decide +kernel
example : (NsConstraint.list [0, 2]).Allows 0 ∧ ¬ (NsConstraint.list [0, 2]).Allows 1 := by
  constructor <;> simp [NsConstraint.Allows]
example : attWildAccepts (.list [0, 2]) ⟨0, 1⟩ = true ∧ attWildAccepts (.list [0, 2]) ⟨1, 1⟩ = false := by decide +kernel

/-- no circular substitution groups (e-props-correct.6), as a checkable certificate: a rank on element names
    that decreases along every {substitution group affiliation} and is below the number of declarations -/
def elemRankOk (E : SubstEnv) (erank : QName → Nat) : Bool :=
  E.elems.all (fun d =>
    decide (erank d.name < E.elems.length) &&
    (match d.subst with
     | none => true
     | some hq => match E.findElem hq with
       | none => true
       | some h => decide (erank h.name < erank d.name)))

/-- no circular type definitions (ct-props-correct.3 / st-props-correct.2), as a checkable certificate -/
def typeRankOk (E : SubstEnv) (trank : Nat → Nat) : Bool :=
  E.types.all (fun td =>
    decide (trank td.name < E.types.length) &&
    (match td.base with
     | none => true
     | some m => decide (trank m < trank td.name)))

open XV.Lemmas.ParticleRules in
/-- `SubstitutionGroupComparator::isEquivalentTo(d, c)`, for complex-typed declarations (the branch
    `if (!aComplexType)` for simple types has a rule of its own and is not modelled), holds exactly when `d` is `c` or
    `d` is substitutable for `c` per §3.3.6 (chain of affiliations up to `c`, `c` does not block substitution, the
    derivation methods between the types avoid `c`'s block and the prohibited substitutions of the types on the way)
    — for every schema without circular substitution groups / type definitions (rank certificates). -/
theorem substitution_closure_spec (E : SubstEnv) (erank : QName → Nat) (trank : Nat → Nat)
    (he : elemRankOk E erank = true) (ht : typeRankOk E trank = true)
    (dq cq : QName) : isEquivalentTo E dq cq = true ↔ dq = cq ∨ Substitutable E dq cq := by
  rw [isEquivalentTo_eq, Bool.or_eq_true, decide_eq_true_eq]
  refine or_congr_right ⟨substitutable_sound E dq cq, substitutable_complete E erank trank ?_ ?_ dq cq⟩
  · intro d hd
    have := List.all_eq_true.1 he d hd
    rw [Bool.and_eq_true, decide_eq_true_eq] at this
    exact ⟨this.1, fun hq h hs hf => by simpa [hs, hf] using this.2⟩
  · intro td hd
    have := List.all_eq_true.1 ht td hd
    rw [Bool.and_eq_true, decide_eq_true_eq] at this
    exact ⟨this.1, fun m hb => by simpa [hb] using this.2⟩

/-- a small schema: head h (type 0), member m1 (type 1 = extension of 0) substitutes h, m2 substitutes m1;
    h2 blocks extension -/
def exEnv : SubstEnv :=
  { elems := [⟨⟨1, 0⟩, 0, none, true, {}, false⟩, ⟨⟨1, 1⟩, 1, some ⟨1, 0⟩, false, {}, false⟩,
              ⟨⟨1, 2⟩, 1, some ⟨1, 1⟩, false, {}, false⟩,
              ⟨⟨1, 3⟩, 0, none, false, { extension := true }, false⟩, ⟨⟨1, 4⟩, 1, some ⟨1, 3⟩, false, {}, false⟩],
    types := [⟨0, none, .restriction, {}, false⟩, ⟨1, some 0, .extension, {}, false⟩] }

example : isEquivalentTo exEnv ⟨1, 2⟩ ⟨1, 0⟩ = true ∧ isEquivalentTo exEnv ⟨1, 4⟩ ⟨1, 3⟩ = false := by decide +kernel
example : substitutionMembers exEnv ⟨1, 0⟩ = [⟨1, 1⟩, ⟨1, 2⟩] := by decide +kernel
example : Substitutable exEnv ⟨1, 2⟩ ⟨1, 0⟩ := by
  have h := (substitution_closure_spec exEnv (fun q => if q.name = 2 then 2 else if q.name = 1 ∨ q.name = 4 then 1 else 0)
    (fun t => t) (by decide +kernel) (by decide +kernel) ⟨1, 2⟩ ⟨1, 0⟩).1 (by decide +kernel)
  exact h.resolve_left (by decide +kernel)

open XV.Lemmas.ParticleRules in
/-- the Spec's executable `attrViolations` is empty exactly when the attributes are valid (§3.4.4 clauses 3, 4) -/
theorem attr_spec_iff (uses : List AttrUse) (wc : Option AttrWildcard) (globals : List AttrDecl) (attrs : List Attr) :
    attrViolations uses wc globals attrs = [] ↔ AttrsValid uses wc globals attrs := by
  unfold attrViolations AttrsValid
  simp only [List.append_eq_nil_iff, List.map_eq_nil_iff, List.filter_eq_nil_iff, Bool.not_eq_true',
    Bool.not_eq_false, Bool.and_eq_true, beq_iff_eq, not_and, List.any_eq_true, Prod.exists]

open XV.Lemmas.ParticleRules in
/-- The schema part of `buildAttList` (lookup of the attribute definition — a PROHIBITED definition admitted by the
    type's wildcard counts as absent, fix a55f890 —, attribute wildcard with skip / lax / strict, fixed-value check,
    then required / prohibited over the declared list) reports nothing exactly when the attribute set is valid: every
    attribute is allowed by a (non-prohibited) use or by the wildcard, fixed values agree, every required attribute is
    present — for every type whose uses have distinct names (ct-props-correct.4), every wildcard, every attribute set. -/
theorem attr_uses_iff (uses : List AttrUse) (hnd : (uses.map (·.name)).Nodup) (wc : Option AttrWildcard)
    (globals : List AttrDecl) (attrs : List Attr) :
    buildAttList (uses.map attDefOf) wc globals attrs = [] ↔ AttrsValid uses wc globals attrs := by
  unfold buildAttList AttrsValid
  rw [List.append_eq_nil_iff, List.flatMap_eq_nil_iff, declared_nil_iff]
  simp only [← provided_ok_iff uses hnd wc globals]
  -- what is left is the prohibited test of the second loop, read per attribute instead of per definition
  exact ⟨fun ⟨h1, h2⟩ => ⟨fun a ha => ⟨h1 a ha, fun u hu e hp => e ▸ (h2 u hu).2 hp ⟨a, ha, e.symm⟩⟩, fun u hu => (h2 u hu).1⟩,
    fun ⟨h1, h2⟩ => ⟨fun a ha => (h1 a ha).1, fun u hu => ⟨h2 u hu, fun hp ⟨a, ha, e⟩ => e ▸ (h1 a ha).2 u hu e.symm hp⟩⟩⟩

-- the case of fix a55f890: a prohibited use and a skip wildcard admitting the same name — accepted through the
-- wildcard (3.4.4 clause 3.2); with a wildcard that does not admit it: ProhibitedAttributePresent
example : AttrsValid [⟨⟨0, 1⟩, .prohibited, .none⟩] (some ⟨.any, .skip⟩) [] [(⟨0, 1⟩, 5)] ∧
    buildAttList ([⟨⟨0, 1⟩, .prohibited, .none⟩].map attDefOf) (some ⟨.any, .skip⟩) [] [(⟨0, 1⟩, 5)] = [] ∧
    buildAttList ([⟨⟨0, 1⟩, .prohibited, .none⟩].map attDefOf) (some ⟨.other 1, .skip⟩) [] [(⟨0, 1⟩, 5)]
      = ["ProhibitedAttributePresent"] := by
  refine ⟨(attr_spec_iff _ _ _ _).1 (by decide +kernel), by decide +kernel, by decide +kernel⟩

example : buildAttList ([⟨⟨0, 1⟩, .required, .none⟩, ⟨⟨0, 2⟩, .optional, .fixed 7⟩, ⟨⟨0, 3⟩, .prohibited, .none⟩].map attDefOf)
    (some ⟨.other 1, .lax⟩) [⟨⟨2, 9⟩, .fixed 4⟩] [(⟨0, 2⟩, 8), (⟨2, 9⟩, 4), (⟨0, 3⟩, 1), (⟨1, 1⟩, 0)]
    = ["NotSameAsFixedValue", "AttNotDefinedForElement", "RequiredAttrNotProvided", "ProhibitedAttributePresent"] := by decide +kernel
example : AttrsValid [⟨⟨0, 1⟩, .required, .none⟩, ⟨⟨0, 2⟩, .optional, .fixed 7⟩] (some ⟨.other 1, .lax⟩) [⟨⟨2, 9⟩, .fixed 4⟩]
    [(⟨0, 1⟩, 3), (⟨0, 2⟩, 7), (⟨2, 9⟩, 4), (⟨3, 3⟩, 1)] :=
  (attr_uses_iff _ (by decide +kernel) _ _ _).1 (by decide +kernel)
example : attrsWithDefaults [⟨⟨0, 1⟩, .optional, .default 3⟩, ⟨⟨0, 2⟩, .optional, .fixed 7⟩, ⟨⟨0, 3⟩, .optional, .none⟩] [(⟨0, 2⟩, 7)]
    = [((⟨0, 2⟩, 7), false), ((⟨0, 1⟩, 3), true)] := by decide +kernel

open XV.Spec.XsdValid XV.Lemmas.XsdValid in
/-- PARTIAL.  Full statement intended by DESIGN §4/C08 (not proved: there is no code-shaped model of the scanners'
    element handling — SGXMLScanner/IGXMLScanner::scanStartTag, SchemaValidator::validateElement / checkContent —
    to state it about):  `validElem_iff : validateElem S e = [] ↔ ValidElem S e`.
    What is proved, about the executable Spec that judges the implementation in the document tier: whenever
    `assess` reports no violation for the one element `e` it is called on, against declaration `d`, then `e` is
    `LocallyValid`: the declaration is not abstract, the xsi:type / abstract-type rules raised nothing, and for the
    governing type: simple type ⇒ no element children and no attributes; complex type ⇒ the attributes satisfy the
    declarative `AttrsValid` and, unless the element is nilled, the content matches the content type, with the child
    names in the declarative particle language `PLang`.  `assess` calls itself on the children it descends into, but
    no theorem carries the statement down to them (`validDoc_root` is the root only), and `LocallyValid` leaves out
    the xsi:nil and fixed-value rules that `assess` also checks. -/
theorem validElem_iff_partial (S : Schema) (fuel : Nat) (d : Decl) (e : Elem) (infos : List Info)
    (h : assess S (fuel + 1) d e = ([], infos)) : LocallyValid S d e := by
  unfold LocallyValid
  have h1 := congrArg Prod.fst h
  dsimp only [assess] at h1
  generalize governingType S d.type (S.declBlock d) e.xsiType = gtv at h1 ⊢
  -- the violation list `v1 ++ v2 ++ …` is empty, and each piece is `if c then [msg] else []`: every test `c` fails
  cases hct : S.findCT gtv.1 with
  | none =>
    simp only [hct, List.append_eq_nil_iff, ite_nil_iff, Bool.not_eq_true, Bool.not_eq_false', List.isEmpty_iff] at h1 ⊢
    obtain ⟨⟨⟨⟨⟨v1, _⟩, v3⟩, v4⟩, v5⟩, _⟩ := h1
    exact ⟨v1, v3, v4, v5⟩
  | some ct =>
    simp only [hct, List.append_eq_nil_iff, ite_nil_iff, Bool.not_eq_true] at h1 ⊢
    obtain ⟨⟨⟨⟨⟨v1, _⟩, v3⟩, va⟩, vc⟩, _⟩ := h1
    refine ⟨v1, v3, (attr_spec_iff _ _ _ _).1 va, fun hn => ?_⟩
    rw [hn] at vc
    cases hcont : ct.content <;>
      simp only [hcont, Bool.false_eq_true, if_false, List.append_eq_nil_iff, ite_nil_iff, ite_nil_iff', Bool.not_eq_true,
        Bool.not_eq_false', List.isEmpty_iff, Option.isSome_eq_false_iff, Option.isNone_iff_eq_none, Bool.or_eq_false_iff,
        pMatch_iff] at vc ⊢
    case empty | elementOnly => exact vc
    case simple | mixed => exact vc.1  -- these two also compare the text with a fixed value

open XV.Spec.XsdValid XV.Lemmas.XsdValid in
/-- document level: a valid document has a globally declared root that is locally valid -/
theorem validDoc_root (S : Schema) (root : Elem) (infos : List Info) (h : violations S root = ([], infos)) :
    ∃ d, S.globalDecl root.name = some d ∧ LocallyValid S d root := by
  unfold violations at h
  cases hd : S.globalDecl root.name with
  | none => rw [hd] at h; simp at h
  | some d =>
    rw [hd] at h
    exact ⟨d, rfl, validElem_iff_partial S root.depth d root infos h⟩

open XV.Spec.XsdValid in
/-- a schema for the examples: type 0 = sequence(a{2,3}, any ##other lax ?) with a required and a defaulted
    attribute; global elements r (1:1, type 0) and a (1:2, xs:string = type 900) -/
def exSchema : Schema :=
  { env := { elems := [⟨⟨1, 1⟩, 0, none, false, {}, false⟩, ⟨⟨1, 2⟩, 900, none, false, {}, false⟩],
             types := [⟨900, none, .restriction, {}, false⟩, ⟨0, none, .restriction, {}, false⟩] },
    ctypes := [⟨0, some ⟨1, 10⟩, .elementOnly (.seq (.rep 2 (some 3) (.leaf 0)) (.rep 0 (some 1) (.leaf 1))),
                [⟨⟨0, 1⟩, .required, .none⟩, ⟨⟨0, 2⟩, .optional, .default 7⟩], none⟩],
    decls := [⟨⟨1, 2⟩, true, 900, .none⟩, ⟨⟨1, 1⟩, true, 0, .none⟩],
    leaves := [.decl 0, .wild (.other 1) .lax],
    typeNames := [(⟨1, 10⟩, 0)], gattrs := [] }

open XV.Spec.XsdValid in
example : violations exSchema (.mk 0 ⟨1, 1⟩ [(⟨0, 1⟩, 5)] none none none
    [.mk 1 ⟨1, 2⟩ [] none none (some 3) [], .mk 2 ⟨1, 2⟩ [] none none none [], .mk 3 ⟨2, 9⟩ [] none none none []])
    = ([], [⟨0, ⟨1, 1⟩, 0, [((⟨0, 1⟩, 5), false), ((⟨0, 2⟩, 7), true)], none⟩,
            ⟨1, ⟨1, 2⟩, 900, [], some 3⟩, ⟨2, ⟨1, 2⟩, 900, [], none⟩]) := by decide +kernel
open XV.Spec.XsdValid in
example : (violations exSchema (.mk 0 ⟨1, 1⟩ [] none none (some 1) [.mk 1 ⟨1, 2⟩ [] none none none []])).1
    = ["attr-required-missing", "text-in-element-only", "content-model"] := by decide +kernel

end XV.Props.C08
