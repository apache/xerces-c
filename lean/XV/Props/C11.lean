/-
C11 — regular expressions match exactly the language their syntax defines.
Range algebra: XV.Model.RangeTok (code-shaped RangeToken) vs set semantics `mem`; each operation of a token is proved
here, from what XV.Lemmas.RangeTok says about the lists.
Matching: XV.Spec.Regex (`Matches`), derivative matcher proved equivalent (it is the oracle the real
engine is compared with), XSD quantifier semantics.
-/
import XV.Lemmas.RangeTok
import XV.Lemmas.Regex
namespace XV.Props.C11
open XV.Model.RangeTok XV.Lemmas.RangeTok

/-- `addRange` is set union with the (possibly reversed) interval, from every valid token, sorted or not,
overlapping or not; the token invariant is preserved.  (Not true of RangeToken::addRange before its repair, which dropped
a range overlapping an earlier one with a smaller start; the second example below is such an input, in the model.) -/
theorem addRange_set (t : Tok) (hi : Inv t) (s e : Int) :
    Inv (addRange t s e) ∧
    ∀ c, mem c (addRange t s e).ranges ↔ mem c t.ranges ∨ (min s e ≤ c ∧ c ≤ max s e) := by
  obtain ⟨hv, hs⟩ := hi
  have hle : min s e ≤ max s e := by omega
  have h12 : Valid [(min s e, max s e)] := fun p hp => List.mem_singleton.1 hp ▸ hle
  have hm12 : ∀ c, mem c [(min s e, max s e)] ↔ min s e ≤ c ∧ c ≤ max s e := fun c => by
    rw [mem_cons, or_iff_left (mem_nil c)]
  have hva : Valid (t.ranges ++ [(min s e, max s e)]) := valid_append.2 ⟨hv, h12⟩
  have hma : ∀ c, mem c (t.ranges ++ [(min s e, max s e)]) ↔ mem c t.ranges ∨ (min s e ≤ c ∧ c ≤ max s e) :=
    fun c => by rw [mem_append, hm12]
  -- the model's `v1`, `v2` unfold to `min s e`, `max s e`
  fun_cases addRange t s e with
  | case1 v1 v2 hnil => exact ⟨⟨h12, fun _ => trivial⟩, fun c => by rw [hnil, or_iff_right (mem_nil c)]; exact hm12 c⟩
  | case2 v1 v2 hne h1 =>
    obtain ⟨a1, a2, a3⟩ := setLastEnd_spec (v := v2) hne hv (by omega)
    exact ⟨⟨a1, fun h => a2 (hs h)⟩, fun c => by rw [a3]; exact or_congr_right (by omega)⟩
  | case3 v1 v2 hne h1 h2 =>
    obtain ⟨a1, a2, a3⟩ := scanInsert_spec v1 v2 t.ranges
    exact ⟨⟨fun x hx => (a1 x hx).elim (· ▸ hle) (hv x), fun _ => a2 (hs h2.1)⟩, a3⟩
  | case4 v1 v2 hne h1 h2 sorted' rs' h3 =>
    exact ⟨⟨sortRanges_valid.2 hva, fun _ => sortRanges_sorted _⟩, fun c => (sortRanges_mem c _).trans (hma c)⟩
  | case5 v1 v2 hne h1 h2 sorted' rs' h3 =>
    have h4 : lastEnd t.ranges < v1 ∧ t.sorted = true := by simpa [sorted'] using h3
    refine ⟨⟨hva, fun _ => sortedStarts_append.2 ⟨hs h4.2, trivial, fun p hp q hq => ?_⟩⟩, hma⟩
    have := starts_le_lastEnd (hs h4.2) hv p hp
    rw [List.mem_singleton.1 hq]
    show p.1 ≤ v1
    omega

/-- `sortRanges; compactRanges` keeps the set and yields an ordered list.  (Strictly separated as well when
`compactRanges` runs; a token already marked compacted is left as it is, hence `hsep` in `complement_set`.) -/
theorem sort_compact_set (t : Tok) (hs : Strong t) :
    Ordered (doCompact (doSort t)).ranges ∧ ∀ c, mem c (doCompact (doSort t)).ranges ↔ mem c t.ranges :=
  ⟨(normalise_spec t hs).1, (normalise_spec t hs).2.2.1⟩

/-- `mergeRanges` is union, from any two valid tokens (both are sorted first; the result is not compacted and keeps the
receiver's `fCompacted`). -/
theorem merge_set (t o : Tok) (ht : Inv t) (ho : Inv o) :
    Inv (mergeRanges t o).1 ∧ ∀ c, mem c (mergeRanges t o).1.ranges ↔ mem c t.ranges ∨ mem c o.ranges := by
  obtain ⟨t1, t2, _, t4, _⟩ := doSort_spec t ht
  obtain ⟨o1, o2, _, o4, _⟩ := doSort_spec o ho
  simp only [mergeRanges]
  split
  · next h => exact ⟨ht, fun c => by rw [h, or_iff_left (mem_nil c)]⟩
  split
  · next h => exact ⟨⟨o1.1, fun _ => o2⟩, fun c => by rw [nil_congr ht.1 t4 h, or_iff_right (mem_nil c)]; exact o4 c⟩
  · exact ⟨⟨fun x hx => (mem_mergeL.1 hx).elim (t1.1 x) (o1.1 x), fun _ => mergeL_sorted _ _ t2 o2⟩,
      fun c => by rw [mergeL_mem, t4 c, o4 c]⟩

/-- `subtractRanges` with a T_RANGE operand is set difference.  (A T_NRANGE operand goes to `intersectRanges` in the
C++, RangeToken.cpp:575; the model has no such case.) -/
theorem subtract_set (t o : Tok) (ht : Strong t) (ho : Strong o) :
    Strong (subtractRanges t o).1 ∧
    ∀ c, mem c (subtractRanges t o).1.ranges ↔ mem c t.ranges ∧ ¬ mem c o.ranges := by
  simp only [subtractRanges]
  split
  · next h => exact ⟨ht, fun c => by rcases h with h | h <;> simp only [h, mem_nil, false_and, not_false_eq_true, and_true]⟩
  · next h =>
    obtain ⟨t1, t2, t3, _⟩ := normalise_spec t ht
    obtain ⟨o1, _, o3, _⟩ := normalise_spec o ho
    obtain ⟨⟨r1, -⟩, r2⟩ := sweepL_spec t1 o1
    exact ⟨strong_of_ordered _ r1 (.inl (t2 fun h' => h (.inl h'))),
      fun c => by rw [← t3, ← o3]; exact (r2 c).1⟩

/-- (as in the C++, intersecting with an empty token leaves the receiver unchanged) -/
theorem intersect_set (t o : Tok) (ht : Strong t) (ho : Strong o) :
    Strong (intersectRanges t o).1 ∧
    ∀ c, t.ranges ≠ [] → o.ranges ≠ [] →
      (mem c (intersectRanges t o).1.ranges ↔ mem c t.ranges ∧ mem c o.ranges) := by
  simp only [intersectRanges]
  split
  · next h => exact ⟨ht, fun c h1 h2 => (h.elim h1 h2).elim⟩
  · next h =>
    obtain ⟨t1, t2, t3, _⟩ := normalise_spec t ht
    obtain ⟨o1, _, o3, _⟩ := normalise_spec o ho
    obtain ⟨⟨-, r1⟩, r2⟩ := sweepL_spec t1 o1
    exact ⟨strong_of_ordered _ r1 (.inl (t2 fun h' => h (.inl h'))),
      fun c _ _ => by rw [← t3, ← o3]; exact (r2 c).2⟩

/-- `complementRanges` is the complement within `[0, UTF16_MAX]`, for a non-empty token whose ranges lie in there.
`hsep`: a token marked compacted is not compacted again, and the construction is wrong on adjacent ranges, which
`Strong` does not exclude. -/
theorem complement_set (o : Tok) (ho : Strong o) (hsep : o.compacted = true → Sep o.ranges)
    (hne : o.ranges ≠ []) (hr : InRange o.ranges) :
    Strong (complementRanges o).1 ∧
    ∀ c, mem c (complementRanges o).1.ranges ↔ (0 ≤ c ∧ c ≤ UTF16_MAX) ∧ ¬ mem c o.ranges := by
  obtain ⟨n1, -, n3, n4⟩ := normalise_spec o ho
  have hsep1 := n4 hsep
  simp only [complementRanges]
  generalize (doCompact (doSort o)).ranges = rs at n1 n3 hsep1 ⊢
  match rs with
  | [] => exact absurd (nil_congr ho.1.1 n3 rfl) hne
  | (a, b) :: t =>
    obtain ⟨hab, hat⟩ := ordered_cons.1 n1
    have hin : ∀ c, mem c ((a, b) :: t) → 0 ≤ c ∧ c ≤ UTF16_MAX := fun c h => mem_inRange hr ((n3 c).1 h)
    have ha0 := (hin a ((mem_cons ..).2 (.inl ⟨Int.le_refl a, hab⟩))).1
    obtain ⟨e1, e2⟩ := complementL_eq a b t hab hat hsep1 fun c h => (hin c h).2
    obtain ⟨g1, g2⟩ := gaps_spec UTF16_MAX ((a, b) :: t) 0 ⟨by omega, hab, hat⟩ fun c h => (hin c h).2
    rw [← e1] at g1 g2
    exact ⟨strong_of_ordered _ g1.ordered e2, fun c => by rw [g2, n3]⟩

/-- `RangeToken::match` (256-bit map + linear tail) is set membership, for T_RANGE and T_NRANGE, on a sorted list
(the map is filled up to the first range that reaches 256).  `matchCh` is the C++ for `ch ≥ 0` only: below, the C++
indexes `fMap` before its start. -/
theorem match_eq_mem (rs : R) (hs : SortedStarts rs) (ch : Int) :
    (matchCh false rs ch = true ↔ mem ch rs) ∧ (matchCh true rs ch = true ↔ ¬ mem ch rs) :=
  ⟨matchCh_iff rs hs ch, matchCh_neg_iff rs hs ch⟩

open XV.Spec.Regex XV.Lemmas.Regex in
theorem derivMatch_iff (r : Re) (s : List Int) : derivMatch r s = true ↔ Matches r s :=
  XV.Lemmas.Regex.derivMatch_iff s r

open XV.Spec.Regex XV.Lemmas.Regex in
/-- the executable oracle used against `RegularExpression::matches` is exactly the language semantics -/
theorem fastMatch_iff (r : Re) (s : List Int) : fastMatch r s = true ↔ Matches r s := by
  induction s generalizing r with
  | nil => exact nullable_iff r
  | cons c s ih => exact (ih _).trans ((simp_iff _ s).trans (deriv_iff c r s))

open XV.Spec.Regex XV.Lemmas.Regex in
theorem rep_semantics (r : Re) (n : Nat) (m : Option Nat) (hm : ∀ m', m = some m' → n ≤ m') (s : List Int) :
    Matches (rep r n m) s ↔ ∃ k, n ≤ k ∧ (∀ m', m = some m' → k ≤ m') ∧ Pow r k s :=
  XV.Lemmas.Regex.rep_semantics r n m hm s

example : Inv ({ ranges := [(0x67, 0x74)], sorted := true } : Tok) := by
  refine ⟨?_, fun _ => trivial⟩
  intro p hp; simp at hp; subst hp; decide +kernel
/-- `[g-t]` then `[j-z]`: the (repaired) model keeps `x`; the unrepaired C++ dropped the second range. -/
example : (addRange { ranges := [(0x67, 0x74)], sorted := true } 0x6a 0x7a).ranges = [(0x67, 0x74), (0x6a, 0x7a)] := by
  decide +kernel
example : (doCompact (doSort (addRange { ranges := [(0x67, 0x74)], sorted := true } 0x6a 0x7a))).ranges = [(0x67, 0x7a)] := by
  decide +kernel
example : (subtractRanges { ranges := [(1, 10)], sorted := true } { ranges := [(5, 5)], sorted := true }).1.ranges
    = [(1, 4), (6, 10)] := by decide +kernel
example : (complementRanges { ranges := [(0x61, 0x63)], sorted := true }).1.ranges = [(0, 0x60), (0x64, 0x10FFFF)] := by
  decide +kernel
open XV.Spec.Regex in
example : fastMatch (.cat (.star (.alt (.cls [(0x61, 0x61)] false) (.cls [(0x62, 0x63)] false))) (.cls [(0x64, 0x64)] false))
    [0x61, 0x62, 0x63, 0x64] = true := by decide +kernel

end XV.Props.C11
