/-
C02 — well-formedness verdict.  Part 1: the character-class tables of xerces-c and the severity partition of
its error codes, over the GENERATED tables (`XV.Gen.CharTables`, `XV.Gen.ErrCodes`).
-/
import XV.Gen.CharTables
import XV.Gen.ErrCodes
import XV.Spec.XmlChar
import XV.Model.XmlChar
import XV.Lemmas.CharTable
import XV.Lemmas.XmlDoc
namespace XV.Props.C02
open XV.Spec.XmlChar XV.Model.XmlChar XV.Gen.CharTables XV.Lemmas.CharTable

/-- which generated mask constant carries which class (names as in util/XMLChar.hpp) -/
def maskOf : CharClass → Nat
  | .ncName => gNCNameCharMask | .firstName => gFirstNameCharMask | .name => gNameCharMask
  | .plainContent => gPlainContentCharMask | .specialStartTag => gSpecialStartTagCharMask
  | .control => gControlCharMask | .xmlChar => gXMLCharMask | .whitespace => gWhitespaceCharMask

def classes (v : Version) : List (Nat × CSet) := CharClass.all.map fun k => (maskOf k, classSet v k)

theorem mem_classes (v : Version) (k : CharClass) : (maskOf k, classSet v k) ∈ classes v := by
  unfold classes
  exact List.mem_map.mpr ⟨k, by cases k <;> simp [CharClass.all], rfl⟩

theorem table10_checks : checkTable pages10 (classes .v10) = true := by decide +kernel
theorem table11_checks : checkTable pages11 (classes .v11) = true := by decide +kernel

/-- Every entry of `XMLChar1_0::fgCharCharsTable1_0` carries exactly the flags that the productions of XML 1.0
    (5th ed. name classes) prescribe: for all 65536 code units and all eight masks. -/
theorem charTable10_eq_spec : ∀ c, c < 65536 → ∀ k : CharClass,
    flag (tbl10 c) (maskOf k) = specClass .v10 k c :=
  fun c hc k => checkTable_spec pages10 (classes .v10) table10_checks c hc _ (mem_classes .v10 k)

/-- The same for `XMLChar1_1::fgCharCharsTable1_1` and the XML 1.1 productions. -/
theorem charTable11_eq_spec : ∀ c, c < 65536 → ∀ k : CharClass,
    flag (tbl11 c) (maskOf k) = specClass .v11 k c :=
  fun c hc k => checkTable_spec pages11 (classes .v11) table11_checks c hc _ (mem_classes .v11 k)

/-- the generated mask list is exactly the eight classes (no flag of the table is left unspecified) -/
theorem masks_are_classes : masks = CharClass.all.map maskOf := by decide

/-- XML 1.1: the flag pair used by the char-ref check (`isXMLChar || isControlChar`) is production [2], and
    control-but-not-xmlChar is production [2a] RestrictedChar. -/
theorem flags11_productions : ∀ c, c < 65536 →
    ((flag (tbl11 c) gXMLCharMask || flag (tbl11 c) gControlCharMask) = isChar11 c) ∧
    ((flag (tbl11 c) gControlCharMask && !flag (tbl11 c) gXMLCharMask) = isRestricted11 c) := by
  intro c hc
  have h1 : flag (tbl11 c) gXMLCharMask = (isChar11 c && !isRestricted11 c) := charTable11_eq_spec c hc .xmlChar
  have h2 : flag (tbl11 c) gControlCharMask = inRanges [(0x1, 0x1F), (0x7F, 0x9F)] c := charTable11_eq_spec c hc .control
  -- RestrictedChar lies within the control class, which lies within Char: two identities of range expressions
  rw [h1, h2, isChar11, isRestricted11, inRanges_eval, inRanges_eval, inRanges_eval]
  open XV.Lemmas.RangeExp RExp in
  exact ⟨eq_of_always (a := or (and (ofRanges char11) (not (ofRanges restricted11))) (ofRanges [(0x1, 0x1F), (0x7F, 0x9F)]))
      (b := ofRanges char11) (by decide +kernel) c,
    eq_of_always (a := and (ofRanges [(0x1, 0x1F), (0x7F, 0x9F)]) (not (and (ofRanges char11) (not (ofRanges restricted11)))))
      (b := ofRanges restricted11) (by decide +kernel) c⟩

-- non-vacuity: concrete entries
example : flag (tbl10 0x41) gFirstNameCharMask = true ∧ flag (tbl10 0x2D) gFirstNameCharMask = false ∧
          flag (tbl10 0xFFFE) gXMLCharMask = false ∧ flag (tbl11 0x85) gWhitespaceCharMask = true ∧
          flag (tbl11 0x7F) gXMLCharMask = false ∧ flag (tbl10 0x7F) gXMLCharMask = true := by decide +kernel
example : specClass .v10 .firstName 0x132 = true ∧ specClass .v10 .name 0xB7 = true ∧
          specClass .v11 .xmlChar 0x1 = false ∧ specClass .v11 .control 0x1 = true := by decide

open XV.Gen.ErrCodes

/-- values of `NoError` and of the six bound markers (which are never emitted) -/
def markerVals : List Nat := [0, XMLErrs.W_LowBounds, XMLErrs.W_HighBounds, XMLErrs.E_LowBounds, XMLErrs.E_HighBounds,
  XMLErrs.F_LowBounds, XMLErrs.F_HighBounds]

/-- `XMLErrs::isFatal` holds of a real code (not a bound marker) exactly when it lies strictly between the
    generated markers `F_LowBounds` and `F_HighBounds`; the same for errors and warnings; every real code has
    exactly one severity. -/
theorem fatal_partition : ∀ nc ∈ XMLErrs.codes, markerVals.contains nc.2 = false →
    ((XMLErrs.isFatal nc.2 = true ↔ (XMLErrs.F_LowBounds < nc.2 ∧ nc.2 < XMLErrs.F_HighBounds)) ∧
     (XMLErrs.isError nc.2 = true ↔ (XMLErrs.E_LowBounds < nc.2 ∧ nc.2 < XMLErrs.E_HighBounds)) ∧
     (XMLErrs.isWarning nc.2 = true ↔ (XMLErrs.W_LowBounds < nc.2 ∧ nc.2 < XMLErrs.W_HighBounds)) ∧
     ((XMLErrs.isFatal nc.2).toNat + (XMLErrs.isError nc.2).toNat + (XMLErrs.isWarning nc.2).toNat = 1)) := by
  decide +kernel

open XMLErrs in
/-- the fatal codes that the scanners raise for well-formedness / namespace violations of the modelled fragment (by name;
    the same list is the coverage target of the correspondence run, `REACHABLE` in tools/props/c02.py) -/
def wfCodes : List Nat := [
  C.ExpectedCommentOrCDATA, C.ExpectedAttrName, C.ExpectedEqSign, C.ExpectedQuotedString, C.UnterminatedXMLDecl,
  C.ExpectedDeclString, C.InvalidDocumentStructure, C.UnterminatedEndTag, C.ExpectedWhitespace, C.IllegalSequenceInComment,
  C.UnterminatedComment, C.InvalidCharacter, C.PINameExpected, C.UnterminatedPI, C.InvalidCharacterInAttrValue,
  C.ExpectedEndOfTagX, C.UnterminatedStartTag, C.UnterminatedCDATASection, C.ExpectedCommentOrPI, C.NotValidAfterContent,
  C.ExpectedAttrValue, C.BadSequenceInCharData, C.BadDigitForRadix, C.UnterminatedCharRef, C.ExpectedEntityRefName,
  C.EntityNotFound, C.UnterminatedEntityRef, C.BracketInAttrValue, C.AttrAlreadyUsedInSTag, C.ExpectedElementName,
  C.NoPIStartsWithXML, C.XMLDeclMustBeFirst, C.XMLVersionRequired, C.StandaloneNotLegal, C.EncodingRequired,
  C.BadXMLEncoding, C.BadStandalone, C.UnsupportedXMLVersion, C.DeclStringRep, C.DeclStringsInWrongOrder,
  C.EndedWithTagsOnStack, C.InvalidElementName, C.InvalidAttrName, C.UnknownPrefix, C.ColonNotLegalWithNS,
  C.NoEmptyStrNamespace, C.NoUseOfxmlnsAsPrefix, C.NoUseOfxmlnsURI, C.PrefixXMLNotMatchXMLURI, C.XMLURINotMatchXMLPrefix,
  C.NoXMLNSAsElementPrefix, C.XMLException_Fatal, C.MoreEndThanStartTags, C.EmptyMainEntity, C.InvalidCharacterRef,
  C.PartialTagMarkupError, C.PartialMarkupInEntity, C.RecursiveEntity, C.NoUnparsedEntityRefs, C.NoExtRefsInAttValue,
  C.UnterminatedDOCTYPE, C.ExpectedContentSpecExpr, C.ExpectedAsterisk, C.ExpectedChoiceOrCloseParen, C.ExpectedSeqOrCloseParen,
  C.ExpectedDefAttrDecl, C.ExpectedAttributeType, C.ExpectedEnumValue, C.ExpectedEntityValue, C.ExpectedMarkupDecl,
  C.UnterminatedElementDecl, C.UnterminatedEntityDecl, C.UnterminatedNotationDecl, C.UnterminatedEntityLiteral, C.ExpectedSystemOrPublicId,
  C.ExpectedPublicId, C.InvalidPublicIdChar, C.ExpectedNotationName, C.ExpectedNDATA, C.ExpectedEnumSepOrParen,
  C.DuplicateDocTypeDecl, C.PERefInMarkupInIntSubset, C.NoRootElemInDOCTYPE, C.UnterminatedContentModel, C.ExpectedSeqChoiceLeaf,
  C.ExpectedOpenParen, C.ExpectedMarkup, C.ExpectedComment]

/-- every code of `wfCodes` is fatal and of no other severity: an error code moved across `F_LowBounds`/`F_HighBounds`
    (or renamed away) breaks this theorem -/
theorem wf_codes_fatal : ∀ c ∈ wfCodes, XMLErrs.isFatal c = true ∧ XMLErrs.isError c = false ∧ XMLErrs.isWarning c = false := by
  decide +kernel

/-! ## Part 2 — the reference recogniser accepts exactly the renderings of well-formed trees

Fragment of the main theorems (`entOnlyDoc c`): ALL documents of the grammar — optional XML declaration with every
pseudo-attribute, white-space and quote alternative, Misc before and after the root, elements with attributes,
empty-element tags, character data, character and entity references, CDATA sections, comments, processing instructions,
of unbounded size and nesting depth — without DOCTYPE, or with a DOCTYPE whose internal subset holds internal general
ENTITY declarations, comments, PIs and white space (the declarations the well-formedness constraints depend on:
Entity Declared, No Recursion, No < in Attribute Values through entities are all inside the theorems; Parsed Entity and
No External Entity References need an external entity, which the fragment cannot declare).
ELEMENT / ATTLIST / NOTATION / external-entity declarations: see the `_partial` section.
`WF c = lexDoc c ∧ semOk c` (XV.Spec.Xml.WF), with two things to keep in mind.
`semOk c = true` is `semDoc c = .ok ()`, and `semOk c = false` covers `Err.fatal` and `Err.unsupported` alike: the latter
when the entity closure runs out of its fuel (`semEntities`: quadratic in the number of declarations and of references
in the document element, which does not bound the references inside one entity value) and for a reference to an
external parsed entity.  So `WF` is
"well-formed, and decided so", and the `*_fatal` theorems conclude `.error e`, not `.error (.fatal _)`.
On a DOCTYPE, `lexDoc` is by definition "the rendering is read back as itself" (`lexDoctype`); that this is no more than
the field-by-field validity `lexDoctypeE` on the fragment is `XV.Lemmas.Xml.lexDoctype_iff`.
The namespace pass `nsDoc` (XV.Spec.Xml.Ns) is not part of `WF`: no theorem here speaks of it. -/
open XV.Spec.Xml XV.Lemmas.Xml

theorem semDoc_of_semOk (c : Doc) (h : semOk c = true) : semDoc c = .ok () := by
  unfold semOk at h
  split at h
  · assumption
  · cases h

theorem semDocBool_of_semOk {c : Doc} (h : semOk c = true) : semDocBool c = true := by
  have := semDoc_of_semOk c h
  unfold semDoc at this
  split at this
  · cases this
  · next hb => simpa using hb

theorem parse_ok {s : Str} {c : Doc} : parse s = .ok c ↔ parseSyn s = .ok c ∧ semOk c = true := by
  unfold parse semOk
  cases parseSyn s with
  | error e => simp
  | ok d =>
    dsimp only
    cases hs : semDoc d <;> simp <;> rintro rfl <;> simp [hs]

/-- on the fragment the reference processor accepts exactly the renderings of well-formed trees, and returns the tree -/
theorem parse_iff {s : Str} {c : Doc} (he : entOnlyDoc c = true) : parse s = .ok c ↔ render c = s ∧ WF c := by
  rw [parse_ok, parseSyn_iff he, WF, and_assoc]

/-- accept side: every well-formed tree of the fragment is accepted from its rendering, and reconstructed exactly -/
theorem parse_render (c : Doc) (hwf : WF c) (he : entOnlyDoc c = true) : parse (render c) = .ok c :=
  (parse_iff he).mpr ⟨rfl, hwf⟩

/-- reject side: anything accepted with a tree of the fragment is the rendering of that tree, which is well-formed -/
theorem parse_sound (s : Str) (c : Doc) (h : parse s = .ok c) (he : entOnlyDoc c = true) : WF c ∧ render c = s :=
  ((parse_iff he).mp h).symm

/-- the accepted language is exactly the set of renderings of well-formed trees (on the fragment) -/
theorem accepted_iff (s : Str) :
    (∃ c, parse s = .ok c ∧ entOnlyDoc c = true) ↔ (∃ c, WF c ∧ entOnlyDoc c = true ∧ render c = s) :=
  ⟨fun ⟨c, h, he⟩ => ⟨c, ((parse_iff he).mp h).2, he, ((parse_iff he).mp h).1⟩,
   fun ⟨c, hwf, he, hs⟩ => ⟨c, (parse_iff he).mpr ⟨hs, hwf⟩, he⟩⟩

/-- the rendering of a lexically valid tree of the fragment on which `semDoc` does not answer `.ok` is not accepted:
    `parse` returns the error of `semDoc`, a violated constraint (`Err.fatal`) or no verdict (`Err.unsupported`) -/
theorem violation_fatal (c : Doc) (hl : lexDoc c = true) (he : entOnlyDoc c = true) (hbad : semOk c = false) :
    ∃ e, parse (render c) = .error e := by
  simp only [parse, (parseSyn_iff he).mpr ⟨rfl, hl⟩]
  unfold semOk at hbad
  split at hbad
  · cases hbad
  · next e hs => exact ⟨e, by rw [hs]⟩

/-- `render` is injective on lexically valid trees of the fragment (no two trees print the same text) -/
theorem render_injective (c c' : Doc) (h : lexDoc c = true) (h' : lexDoc c' = true) (hd : entOnlyDoc c = true)
    (hd' : entOnlyDoc c' = true) (e : render c = render c') : c = c' := by
  have a := (parseSyn_iff hd).mpr ⟨rfl, h⟩
  rw [e, (parseSyn_iff hd').mpr ⟨rfl, h'⟩] at a
  exact (Except.ok.inj a).symm

mutual
/-- all nodes of a tree (the node itself first) -/
def subnodes : Node → List Node
  | .leaf l => [.leaf l]
  | .empty t => [.empty t]
  | .elem t kids en ew => .elem t kids en ew :: subnodesL kids
def subnodesL : List Node → List Node
  | [] => []
  | n :: ns => subnodes n ++ subnodesL ns
end

/-- the constraints checked at one node -/
def localSem (v : XV.Spec.XmlChar.Version) : Node → Bool
  | .leaf l => semLeaf v l
  | .empty t => semTag v t
  | .elem t kids en _ => semTag v t && t.name == en && noCdataEnd kids

mutual
theorem semNode_eq (v : XV.Spec.XmlChar.Version) : (n : Node) → semNode v n = (subnodes n).all (localSem v)
  | .leaf l => by simp [subnodes, localSem, semNode]
  | .empty t => by simp [subnodes, localSem, semNode]
  | .elem t kids en ew => by simp [subnodes, localSem, semNode, semNodes_eq v kids]
theorem semNodes_eq (v : XV.Spec.XmlChar.Version) : (ns : List Node) → semNodes v ns = (subnodesL ns).all (localSem v)
  | [] => rfl
  | n :: ns => by simp [subnodesL, semNodes, semNode_eq v n, semNodes_eq v ns]
end

theorem semOk_no_violation (c : Doc) (h : semOk c = true) :
    (∀ m ∈ subnodes c.root, localSem c.version m = true) ∧
    (∀ x ∈ render c, XV.Spec.XmlChar.isLiteralChar c.version x.toNat = true) := by
  have hb := semDocBool_of_semOk h
  simp only [semDocBool, semLegal, semNode_eq, Bool.and_eq_true, List.all_eq_true] at hb
  exact ⟨hb.1.2, hb.1.1.1.1⟩

theorem local_violation_fatal (c : Doc) (hl : lexDoc c = true) (he : entOnlyDoc c = true) (m : Node)
    (hm : m ∈ subnodes c.root) (hbad : localSem c.version m = false) : ∃ e, parse (render c) = .error e := by
  apply violation_fatal c hl he
  cases hs : semOk c with
  | false => rfl
  | true => have := (semOk_no_violation c hs).1 m hm; rw [hbad] at this; cases this

/-- WFC Element Type Match -/
theorem mismatched_tag_fatal (c : Doc) (hl : lexDoc c = true) (hdt : entOnlyDoc c = true) (t : Tag) (kids : List Node) (en ew : Str)
    (hm : .elem t kids en ew ∈ subnodes c.root) (hne : t.name ≠ en) : ∃ e, parse (render c) = .error e :=
  local_violation_fatal c hl hdt _ hm (by simp [localSem, hne])

/-- WFC Unique Att Spec -/
theorem dup_attr_fatal (c : Doc) (hl : lexDoc c = true) (hdt : entOnlyDoc c = true) (m : Node) (t : Tag)
    (hm : m ∈ subnodes c.root) (ht : (∃ k e w, m = .elem t k e w) ∨ m = .empty t)
    (hdup : noDup (t.atts.map (·.name)) = false) : ∃ e, parse (render c) = .error e := by
  apply local_violation_fatal c hl hdt m hm
  rcases ht with ⟨k, e, w, rfl⟩ | rfl <;> simp [localSem, semTag, hdup]

/-- WFC No < in Attribute Values (literal `<`) -/
theorem lt_in_attvalue_fatal (c : Doc) (hl : lexDoc c = true) (hdt : entOnlyDoc c = true) (m : Node) (t : Tag) (a : Attr)
    (hm : m ∈ subnodes c.root) (ht : (∃ k e w, m = .elem t k e w) ∨ m = .empty t)
    (ha : a ∈ t.atts) (hlt : AttPiece.ch '<' ∈ a.val) : ∃ e, parse (render c) = .error e := by
  apply local_violation_fatal c hl hdt m hm
  have hf : (t.atts.all fun a => a.val.all (semPiece c.version)) = false := by
    rw [Bool.eq_false_iff]
    intro h
    rw [List.all_eq_true] at h
    have := h a ha
    rw [List.all_eq_true] at this
    have := this _ hlt
    simp [semPiece] at this
  rcases ht with ⟨k, e, w, rfl⟩ | rfl <;> simp [localSem, semTag, hf]

/-- `]]>` in character data ([14] CharData) -/
theorem cdata_end_in_text_fatal (c : Doc) (hl : lexDoc c = true) (hdt : entOnlyDoc c = true) (t : Tag) (kids : List Node) (en ew : Str)
    (hm : .elem t kids en ew ∈ subnodes c.root) (hbad : noCdataEnd kids = false) : ∃ e, parse (render c) = .error e :=
  local_violation_fatal c hl hdt _ hm (by simp [localSem, hbad])

/-- WFC Legal Character (character references in content) -/
theorem bad_charref_fatal (c : Doc) (hl : lexDoc c = true) (hdt : entOnlyDoc c = true) (r : CharRef)
    (hm : .leaf (.cref r) ∈ subnodes c.root) (hbad : XV.Spec.XmlChar.isRefChar c.version r.value = false) :
    ∃ e, parse (render c) = .error e :=
  local_violation_fatal c hl hdt _ hm (by simp [localSem, semLeaf, semCharRef, hbad])

/-- [2] Char: a literal character that is not legal for the document's version -/
theorem illegal_char_fatal (c : Doc) (hl : lexDoc c = true) (hdt : entOnlyDoc c = true) (x : Char)
    (hx : x ∈ render c) (hbad : XV.Spec.XmlChar.isLiteralChar c.version x.toNat = false) :
    ∃ e, parse (render c) = .error e := by
  apply violation_fatal c hl hdt
  cases hs : semOk c with
  | false => rfl
  | true => have := (semOk_no_violation c hs).2 x hx; rw [hbad] at this; cases this

mutual
theorem mem_contentRefs (n : Str) : (m : Node) → (n ∈ contentRefs m ↔ .leaf (.eref n) ∈ subnodes m)
  | .leaf l => by cases l <;> simp [subnodes, contentRefs, eq_comm]
  | .empty t => by simp [subnodes, contentRefs]
  | .elem t kids en ew => by simp [subnodes, contentRefs, mem_contentRefsL n kids]
theorem mem_contentRefsL (n : Str) : (ms : List Node) → (n ∈ contentRefsL ms ↔ .leaf (.eref n) ∈ subnodesL ms)
  | [] => by simp [subnodesL, contentRefsL]
  | m :: ms => by simp [subnodesL, contentRefsL, mem_contentRefs n m, mem_contentRefsL n ms]
end

theorem eref_mem_contentRefsL : (ms : List Node) → (n : Str) → .leaf (.eref n) ∈ subnodesL ms → n ∈ contentRefsL ms :=
  fun ms n => (mem_contentRefsL n ms).mpr

/-- without declarations, the reachability closure fails as soon as a non-predefined name is to be examined
    (or earlier, out of fuel: that is an error too, `Err.unsupported`, so no bound on the fuel is needed) -/
theorem closure_no_env (v : XV.Spec.XmlChar.Version) : ∀ (fuel : Nat) (todo seen : List (Str × Use))
    (edges : List ((Str × Use) × (Str × Use))),
    seen.all (predefined.contains ·.1) = true → todo.all (predefined.contains ·.1) = false →
    ∃ e, entityClosure [] v fuel todo seen edges = .error e
  | 0, _, _, _, _, _ => ⟨_, rfl⟩
  | _ + 1, [], _, _, _, hbad => by cases hbad
  | f + 1, (n, u) :: rest, seen, edges, hseen, hbad => by
    simp only [entityClosure]
    split
    · next h1 =>
      -- a head that was seen is predefined, hence not the offender, which is then in the tail
      have hp := List.all_eq_true.mp hseen (n, u) (by simpa using h1)
      simp only [List.all_cons, hp, Bool.true_and] at hbad
      exact closure_no_env v f rest seen edges hseen hbad
    · split
      · next h2 =>
        simp only [List.all_cons, h2, Bool.true_and] at hbad
        exact closure_no_env v f rest ((n, u) :: seen) edges (by simp only [List.all_cons, h2, hseen, Bool.true_and]) hbad
      · exact ⟨_, rfl⟩

/-- WFC Entity Declared: a reference in content to an entity other than the five predefined ones, in a document
    without DOCTYPE -/
theorem undeclared_entity_fatal (c : Doc) (hl : lexDoc c = true) (hdt : c.doctype = none) (n : Str)
    (hm : .leaf (.eref n) ∈ subnodes c.root) (hn : predefined.contains n = false) : ∃ e, parse (render c) = .error e := by
  apply violation_fatal c hl (entOnlyDoc_of_none hdt)
  unfold semOk
  have hmem : n ∈ contentRefs c.root := (mem_contentRefs n c.root).mpr hm
  have henv : c.env = [] := by simp [Doc.env, hdt]
  have key : ∃ e, semEntities [] c.version c.root = .error e := by
    unfold semEntities
    generalize hs : (contentRefs c.root).map (fun m => (m, Use.content)) ++ (attRefs c.root).map (fun m => (m, Use.attr)) = start
    have hin : (n, Use.content) ∈ start := by
      rw [← hs]; exact List.mem_append_left _ (List.mem_map.mpr ⟨n, hmem, rfl⟩)
    have hne : start.isEmpty = false := by
      cases start with
      | nil => simp at hin
      | cons _ _ => rfl
    simp only [hne, Bool.false_eq_true, if_false]
    obtain ⟨e, he⟩ := closure_no_env c.version _ start [] [] rfl (List.all_eq_false.mpr ⟨_, hin, by rw [hn]; nofun⟩)
    exact ⟨e, by rw [he]⟩
  obtain ⟨e, he⟩ := key
  unfold semDoc
  by_cases hb : semDocBool c = true
  · simp [hb, hdt, henv, he]
  · simp [hb]

/-- the soundness reading of the same constraints: no accepted document of the fragment contains a violation -/
theorem accepted_has_no_violation (s : Str) (c : Doc) (h : parse s = .ok c) (hdt : entOnlyDoc c = true) :
    (∀ m ∈ subnodes c.root, localSem c.version m = true) ∧
    (∀ x ∈ s, XV.Spec.XmlChar.isLiteralChar c.version x.toNat = true) := by
  obtain ⟨hwf, rfl⟩ := parse_sound s c h hdt
  exact semOk_no_violation c hwf.2

/-! ### documents whose internal subset also holds ELEMENT / ATTLIST / NOTATION / external-ENTITY declarations: partial

FULL STATEMENTS (not proved; proved above under the hypothesis `entOnlyDoc c`):
  `parse_render_dtd : WF c → parse (render c) = .ok c`                       for every `c`
  `parse_sound_dtd  : parse s = .ok c → WF c ∧ render c = s`                 for every `s`, `c`
What is missing is the round trip of those four kinds of declaration inside the DOCTYPE token: they keep content
specifications, attribute types and external identifiers as raw text recognised by `scanContentSpec` / `scanAttType` /
`parseExternalID`, whose inverse lemmas are not done (`XV.Lemmas.Xml.parseDecl_iff` covers white space, comments,
PIs and internal general entities).  Proved below for ALL documents, DOCTYPE included: whatever is accepted satisfies
every constraint of `semDoc` (legal characters, Element Type Match, Unique Att Spec, No < in Attribute Values incl.
through entities, Legal Character, Entity Declared, Parsed Entity, No Recursion, No External Entity References, PI
targets, `]]>`), has an element as root, and its tree is exactly the token stream that the tokenizer produced from the
text after the XML declaration.  The verdicts on DOCTYPE documents are tied to the library by the correspondence run
only. -/
theorem parse_sound_dtd_partial (s : Str) (c : Doc) (h : parse s = .ok c) :
    semOk c = true ∧ c.root.isElement = true ∧
    (∃ body : Str, tokenize (body.length + 1) body = .ok c.toks ∧
      (c.decl = none → body = s) ∧ (∀ x, c.decl = some x → ∃ r, startsWithDecl s = some r ∧ parseXmlDecl r = .ok (x, body))) := by
  obtain ⟨h1, h2⟩ := parse_ok.mp h
  obtain ⟨b3, body, ht, hnone, hsome⟩ := parseSyn_ok h1
  exact ⟨h2, b3, body, ht, fun hd => (hnone hd).2, hsome⟩

/-- `s.toList = l` for a string literal `s`, checked as `s = String.ofList l`: there the kernel turns the literal into
    its list of characters and compares lists, whereas evaluating `String.toList` makes it encode and decode UTF-8
    character by character. -/
theorem toList_eq {s : String} {l : Str} (h : s = String.ofList l) : s.toList = l := h ▸ String.toList_ofList

theorem rejected_of_render {c : Doc} (h : ∃ e, parse (render c) = .error e) {s : String}
    (hs : s = String.ofList (render c)) : ∃ e, parse s.toList = .error e := toList_eq hs ▸ h

theorem eq_toList_append {l : Str} (n : Nat) {a b : String} (ha : a = String.ofList (l.take n))
    (hb : b = String.ofList (l.drop n)) : l = (a ++ b).toList := by
  rw [String.toList_append, toList_eq ha, toList_eq hb, List.take_append_drop]

-- non-vacuity with a DOCTYPE: entities used in content (with markup) and in an attribute value
def doc1 : Doc :=
  ⟨none, [],
   some (⟨[' '], ['a'], [' '], some ([.entity [' '] ['e'] [' '] (.internal .dq [.ch '<', .ch 'b', .ch '>', .ch 't', .cref ⟨false, ['3', '8']⟩, .ch '#', .ch '6', .ch '0', .ch ';', .ch '<', .ch '/', .ch 'b', .ch '>']) [],
                                       .ws '\n', .comment ['c'], .pi ['p'] [] [],
                                       .entity [' '] ['f'] [' '] (.internal .sq [.ch 'v', .eref ['g']]) [' '],
                                       .entity [' '] ['g'] [' '] (.internal .sq [.cref ⟨true, ['2', '6']⟩, .ch '#', .ch '6', .ch '0', .ch ';']) []], [])⟩, [.ch '\n']),
   .elem ⟨['a'], [⟨[' '], ['x'], ⟨[], []⟩, .dq, [.eref ['f']]⟩], []⟩ [.leaf (.eref ['e']), .leaf (.eref ['f'])] ['a'] [], []⟩
theorem doc1_wf : WF doc1 := by decide +kernel
example : WF doc1 ∧ entOnlyDoc doc1 = true := ⟨doc1_wf, rfl⟩
set_option maxRecDepth 100000 in
example : render doc1 = ("<!DOCTYPE a [<!ENTITY e \"<b>t&#38;#60;</b>\">\n<!--c--><?p?><!ENTITY f 'v&g;' ><!ENTITY g '&#x26;#60;'>]>\n" ++
    "<a x=\"&f;\">&e;&f;</a>").toList := eq_toList_append 104 rfl rfl
example : parse (render doc1) = .ok doc1 := parse_render doc1 doc1_wf rfl
-- two entities that refer to each other: WFC No Recursion
example : ∃ e, parse ("<!DOCTYPE a [<!ENTITY f 'v&g;'><!ENTITY g '&f;'>]><a>&f;</a>").toList = .error e :=
  rejected_of_render (violation_fatal
    ⟨none, [], some (⟨[' '], ['a'], [' '], some ([.entity [' '] ['f'] [' '] (.internal .sq [.ch 'v', .eref ['g']]) [],
      .entity [' '] ['g'] [' '] (.internal .sq [.eref ['f']]) []], [])⟩, []), .elem ⟨['a'], [], []⟩ [.leaf (.eref ['f'])] ['a'] [], []⟩
    (by decide +kernel) rfl (by decide +kernel)) rfl

-- non-vacuity: a document using most constructors
def doc0 : Doc :=
  ⟨some ⟨⟨[' '], ⟨[], [' ']⟩, .sq⟩, ['0'], some (⟨['\n'], ⟨[], []⟩, .dq⟩, ['U', 'T', 'F', '-', '8']), some (⟨[' '], ⟨[], []⟩, .dq⟩, true), [' ']⟩,
   [.comment ['c'], .ch '\n', .pi ['p'] [' '] ['d']], none,
   .elem ⟨['a'], [⟨[' '], ['b'], ⟨[], []⟩, .dq, [.ch 'x', .eref ['l', 't'], .cref ⟨false, ['6', '5']⟩]⟩], []⟩
     [.leaf (.ch 't'), .empty ⟨['c', ':', 'd'], [], [' ']⟩, .leaf (.cref ⟨true, ['4', '1']⟩), .leaf (.cdata [']', ']']),
      .elem ⟨['e'], [], []⟩ [.leaf (.eref ['a', 'm', 'p'])] ['e'] [' ']] ['a'] [],
   [.comment ['-', 'x']]⟩
theorem doc0_wf : WF doc0 := by decide +kernel
example : WF doc0 ∧ doc0.doctype = none := ⟨doc0_wf, rfl⟩
set_option maxRecDepth 100000 in
example : render doc0 = ("<?xml version= '1.0'\nencoding=\"UTF-8\" standalone=\"yes\" ?><!--c-->\n<?p d?>" ++
    "<a b=\"x&lt;&#65;\">t<c:d />&#x41;<![CDATA[]]]]><e>&amp;</e ></a><!---x-->").toList := eq_toList_append 73 rfl rfl
example : parse (render doc0) = .ok doc0 := parse_render doc0 doc0_wf rfl
example : ∃ e, parse "<a></b>".toList = .error e :=
  rejected_of_render (mismatched_tag_fatal ⟨none, [], none, .elem ⟨['a'], [], []⟩ [] ['b'] [], []⟩ (by decide +kernel) rfl ⟨['a'], [], []⟩ [] ['b'] []
    (List.mem_cons_self ..) (by decide)) rfl
example : ∃ e, parse "<a b='<'/>".toList = .error e :=
  rejected_of_render (lt_in_attvalue_fatal ⟨none, [], none, .empty ⟨['a'], [⟨[' '], ['b'], ⟨[], []⟩, .sq, [.ch '<']⟩], []⟩, []⟩ (by decide +kernel) rfl
    (.empty ⟨['a'], [⟨[' '], ['b'], ⟨[], []⟩, .sq, [.ch '<']⟩], []⟩) ⟨['a'], [⟨[' '], ['b'], ⟨[], []⟩, .sq, [.ch '<']⟩], []⟩
    ⟨[' '], ['b'], ⟨[], []⟩, .sq, [.ch '<']⟩ (List.mem_cons_self ..) (Or.inr rfl) (List.mem_cons_self ..) (List.mem_cons_self ..)) rfl
example : ∃ e, parse "<a b='1' b='2'/>".toList = .error e :=
  rejected_of_render (dup_attr_fatal ⟨none, [], none, .empty ⟨['a'], [⟨[' '], ['b'], ⟨[], []⟩, .sq, [.ch '1']⟩, ⟨[' '], ['b'], ⟨[], []⟩, .sq, [.ch '2']⟩], []⟩, []⟩
    (by decide +kernel) rfl _ ⟨['a'], [⟨[' '], ['b'], ⟨[], []⟩, .sq, [.ch '1']⟩, ⟨[' '], ['b'], ⟨[], []⟩, .sq, [.ch '2']⟩], []⟩
    (List.mem_cons_self ..) (Or.inr rfl) (by decide)) rfl
example : ∃ e, parse "<a>]]></a>".toList = .error e :=
  rejected_of_render (cdata_end_in_text_fatal
    ⟨none, [], none, .elem ⟨['a'], [], []⟩ [.leaf (.ch ']'), .leaf (.ch ']'), .leaf (.ch '>')] ['a'] [], []⟩
    (by decide +kernel) rfl ⟨['a'], [], []⟩ [.leaf (.ch ']'), .leaf (.ch ']'), .leaf (.ch '>')] ['a'] [] (List.mem_cons_self ..)
    (by decide)) rfl
example : ∃ e, parse ['<', 'a', '>', Char.ofNat 1, '<', '/', 'a', '>'] = .error e :=
  illegal_char_fatal ⟨none, [], none, .elem ⟨['a'], [], []⟩ [.leaf (.ch (Char.ofNat 1))] ['a'] [], []⟩ (by decide +kernel) rfl (Char.ofNat 1)
    (by decide) (by decide)
example : ∃ c, parse "<a/>".toList = .ok c ∧ c.doctype = none :=
  ⟨_, parse_render ⟨none, [], none, .empty ⟨['a'], [], []⟩, []⟩ (by decide +kernel) rfl, rfl⟩
example : (parse_sound "<a/>".toList ⟨none, [], none, .empty ⟨['a'], [], []⟩, []⟩ rfl rfl).2 = rfl := rfl
example : wfCodes.length = 88 ∧ XMLErrs.isFatal XMLErrs.C.FeatureUnsupported = false := by decide
example : ∃ nc ∈ XMLErrs.codes, markerVals.contains nc.2 = false ∧ XMLErrs.isFatal nc.2 = true :=
  ⟨_, List.mem_of_getElem? (i := 180) rfl, by decide⟩
example : ∃ e, parse "<a>&nbsp;</a>".toList = .error e :=
  rejected_of_render (undeclared_entity_fatal ⟨none, [], none, .elem ⟨['a'], [], []⟩ [.leaf (.eref ['n', 'b', 's', 'p'])] ['a'] [], []⟩ (by decide +kernel) rfl
    ['n', 'b', 's', 'p'] (List.mem_cons_of_mem _ (List.mem_cons_self ..)) (by decide)) rfl
example : ∃ e, parse "<a>&#0;</a>".toList = .error e :=
  rejected_of_render (bad_charref_fatal ⟨none, [], none, .elem ⟨['a'], [], []⟩ [.leaf (.cref ⟨false, ['0']⟩)] ['a'] [], []⟩ (by decide +kernel) rfl
    ⟨false, ['0']⟩ (List.mem_cons_of_mem _ (List.mem_cons_self ..)) (by decide)) rfl

end XV.Props.C02
