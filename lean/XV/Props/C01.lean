import XV.Gen.SafetyConsts
import XV.Model.Growth
import XV.Model.CharRef
import XV.Model.MsgFormat
import XV.Model.ReaderStack
import XV.Model.Expansion
import XV.Model.DomHeap
import XV.Lemmas.MsgTables
import XV.Model.DomParserReset
/-!
# C01 — arbitrary input never causes memory errors, UB, hangs or foreign exceptions  (PARTIAL)

What is proved here is the index / size / ownership arithmetic that memory safety of the parser rests on, for
code-shaped models whose constants are regenerated from the C++ text (`XV.Gen.SafetyConsts`, `XV.Gen.SafetyMsgs`):

* (a) growth: `XMLBuffer`, `ElemStack`/`WFElemStack`/`NamespaceScope` (stack, prefix map, child array),
  `RangeToken`, `ValueVectorOf`, `BaseRefVectorOf`, `DOMBuffer`: `…_grow_sufficient`, `grow_strict_iff`, `…_append_in_bounds`
  for arbitrary operation sequences, no-wrap bounds;
* (b) `scanCharRef` accumulator: `charref_no_wrap`, `charref_value_exact` for digit strings of any length;
* (c) `emitError` / `loadMsg` / `replaceTokens`: `emitError_bounded` for all replacement lengths;
* (d) `ReaderMgr` ownership: `readerStack_balanced`, `never_pop_below_base`, `recursion_detected`;
* (e) `expansion_work_bound`;
* DOM document heap (`DOMDocumentImpl::allocate`) and the UCS-4 BOM loop as conditional statements with their
  negative witnesses;
* reused DOM parser: no pointer into a released document survives `reset()`
  (`domParser_no_stale_pointer_after_reset`).

The models of (a) and of the DOM heap return the memory accesses they perform, and every `…_in_bounds` theorem
rests on `run_ok` with the invariant of its model (`QInv`, `XInv`, `VInv`, `DInv`, `HInv`).

Where a repair of the C++ is at stake the statement comes in two halves, one for either value of the constant read
off the source (`replaceTokens_public_status`, `dtd_charref_exact_of_guarded` / `dtd_charref_wraps_of_unguarded`,
`ucs4_bom_shift_as_extracted`): on any one run the hypothesis of one half is false.

The whole-parser claim (no memory error anywhere in 260 kLOC) is NOT a theorem; it is searched by the sanitizer
harness (`tools/props/c01.py`).
-/
namespace XV.Props.C01
open XV.Gen.Safety

/-- Every run below emits what one step emits (accesses, carves) and then stops, because the step raised, or goes
on from the state the step left.  If an invariant makes what a step emits good and is kept, everything a run emits
is good. -/
theorem run_ok {S Op A : Type} {good : A → Prop} {Inv : S → Prop} {run : S → List Op → List A}
    (hnil : ∀ s, run s [] = [])
    (hcons : ∀ s op ops, Inv s → ∃ out, (∀ a ∈ out, good a) ∧
      (run s (op :: ops) = out ∨ ∃ s', Inv s' ∧ run s (op :: ops) = out ++ run s' ops)) :
    ∀ (ops : List Op) (s : S), Inv s → ∀ a ∈ run s ops, good a := by
  intro ops
  induction ops with
  | nil => intro s _ a ha; simp [hnil] at ha
  | cons op ops ih =>
    intro s hs a ha
    obtain ⟨out, hout, h | ⟨s', hs', h⟩⟩ := hcons s op ops hs
    · exact hout a (h ▸ ha)
    · rw [h, List.mem_append] at ha
      exact ha.elim (hout a) (ih s' hs' a)

section Growth
open XV.Model.Growth

theorem scale_five_quarters (cap : Nat) : scale 5 4 cap = cap * 5 / 4 := rfl

/-- `⌊1.25·cap⌋ > cap` exactly from 4 on … -/
theorem grow_strict_iff (cap : Nat) : cap < scale 5 4 cap ↔ 4 ≤ cap := by
  unfold scale; omega

/-- … and below 4 the "expanded" capacity equals the old one (the stuck case) -/
theorem grow_stuck_below_four : ∀ cap, cap < 4 → scale 5 4 cap = cap := by
  intro cap h; unfold scale; omega

/-- what a `Quarter` container needs of its constants -/
structure QGood (q : Quarter) : Prop where
  den_pos : 0 < q.den
  strict : ∀ c, 4 ≤ c → c < scale q.num q.den c
  zero_ok : ∀ z, q.zeroInit = some z → 4 ≤ z
  init_ok : 4 ≤ q.init ∨ (q.init = 0 ∧ q.zeroInit.isSome)

/-- the count fits, and the capacity is one from which `qnext` grows strictly (`qnext_gt`): at least 4, or still 0
with a capacity to replace it -/
def QInv (q : Quarter) (v : QVec) : Prop :=
  v.count ≤ v.cap ∧ (4 ≤ v.cap ∨ (v.cap = 0 ∧ q.zeroInit.isSome))

theorem qnext_gt {q : Quarter} (g : QGood q) {cap : Nat} (h : 4 ≤ cap ∨ (cap = 0 ∧ q.zeroInit.isSome)) :
    cap < qnext q cap ∧ 4 ≤ qnext q cap := by
  fun_cases qnext q cap with
  | case1 z hq h0 => have := g.zero_ok z hq; omega
  | case2 z hq h0 => have := g.strict cap (by omega); omega
  | case3 hq => have h4 : 4 ≤ cap := by simpa [hq] using h
                have := g.strict cap h4; omega

theorem qstep_ok {q : Quarter} (g : QGood q) {v : QVec} (hv : QInv q v) (op : QOp) :
    QInv q (qstep q v op).1 ∧ ∀ a ∈ (qstep q v op).2, a.ok := by
  obtain ⟨h1, h2⟩ := hv
  fun_cases qstep q v op with
  | case1 hc nc =>  -- `push` on a full block
    have ⟨h3, h4⟩ := qnext_gt g h2
    refine ⟨⟨by simp; omega, Or.inl h4⟩, ?_⟩
    simp [nc, Access.ok]; omega
  | case2 hc =>  -- `push` with room
    refine ⟨⟨by simp; omega, h2⟩, ?_⟩
    simp [Access.ok]; omega
  | case3 | case4 => exact ⟨⟨by simp; omega, h2⟩, by simp⟩
  | case5 => exact ⟨⟨by simp, h2⟩, by simp⟩

theorem quarter_append_in_bounds {q : Quarter} (g : QGood q) :
    ∀ (ops : List QOp) (v : QVec), QInv q v → ∀ a ∈ qrun q v ops, a.ok :=
  run_ok (fun _ => rfl) fun _ op _ hv => ⟨_, (qstep_ok g hv op).2, .inr ⟨_, (qstep_ok g hv op).1, rfl⟩⟩

theorem quarter_init_inv {q : Quarter} (g : QGood q) : QInv q (QVec.init q) :=
  ⟨Nat.zero_le _, g.init_ok⟩

theorem QGood.of_fiveQuarters {q : Quarter} (hn : q.num = 5) (hd : q.den = 4) (hz : ∀ z ∈ q.zeroInit, 4 ≤ z)
    (hi : 4 ≤ q.init ∨ (q.init = 0 ∧ q.zeroInit.isSome)) : QGood q :=
  ⟨by omega, fun c hc => by rw [hn, hd]; exact (grow_strict_iff c).mpr hc, hz, hi⟩

/-- `grow_strict` with the real precondition: by their constants (`QGood`) every capacity these containers can have
is `0` (not yet allocated, replaced by 16/32) or at least the generated initial capacity `≥ 4`, from where
`⌊1.25·cap⌋ > cap`; the strict step itself is `qnext_gt` -/
theorem grow_strict : ∀ q ∈ quarters, QGood q.2 := fun q hq =>
  have ⟨hn, hd, hz, hi⟩ := (by decide : ∀ q ∈ quarters, q.2.num = 5 ∧ q.2.den = 4 ∧ (∀ z ∈ q.2.zeroInit, 4 ≤ z) ∧
    (4 ≤ q.2.init ∨ (q.2.init = 0 ∧ q.2.zeroInit.isSome))) q hq
  .of_fiveQuarters hn hd hz hi

/-- `append_in_bounds` for the `ElemStack`/`WFElemStack`/`NamespaceScope` stack, prefix map and child array: every
access of every push/pop/truncate/clear sequence from the constructed state is inside its block -/
theorem elemStack_append_in_bounds : ∀ q ∈ quarters, ∀ (ops : List QOp), ∀ a ∈ qrun q.2 (QVec.init q.2) ops, a.ok := by
  intro q hq ops
  exact quarter_append_in_bounds (grow_strict q hq) ops _ (quarter_init_inv (grow_strict q hq))

/-- the stuck case, exhibited: with an initial capacity of 3 the same code writes one cell past the block on the
fourth push (`⌊3·1.25⌋ = 3`) -/
theorem quarter_stuck_witness :
    ∃ a ∈ qrun ⟨3, 5, 4, none⟩ (QVec.init ⟨3, 5, 4, none⟩) [.push, .push, .push, .push], ¬ a.ok := by
  refine ⟨⟨3, 4, 3⟩, by decide, by decide⟩

/-- no wrap and exactness range: below 2^50 elements `cap·5` is far below 2^53 (so the `double` product
`cap * 1.25` is exact and the cast is `⌊cap·5/4⌋`) and the byte count of the new block fits 64 bits for elements
of up to 64 bytes -/
theorem scale_exact_range (cap : Nat) (h : cap < 2^50) :
    cap * 5 < 2^53 ∧ scale 5 4 cap < 2^51 ∧ scale 5 4 cap * 64 < 2^64 := by
  unfold scale; omega

def XInv (b : XBuf) : Prop := b.index ≤ b.cap ∧ b.cap + 1 ≤ b.alloc

/-- `grow_sufficient` for `XMLBuffer::ensureCapacity`: afterwards `fIndex + extraNeeded ≤ fCapacity`,
the invariant is kept and the copy stays inside both blocks. -/
theorem xmlBuffer_grow_sufficient {b b' : XBuf} {extra : Nat} {r : Reply} {acc : List Access}
    (hb : XInv b) (h : ensureCapacity b extra r = some (b', acc)) :
    b'.index + extra ≤ b'.cap ∧ XInv b' ∧ b'.index ≤ b.index ∧ (∀ a ∈ acc, a.ok) := by
  obtain ⟨h1, h2⟩ := hb
  unfold ensureCapacity at h
  simp only [xmlBufferGrowMul, xmlBufferGrowSlack] at h
  split at h
  · simp at h
  · rename_i newCap idx hsel
    -- whichever way `(newCap, idx)` was chosen
    have key : idx + extra ≤ newCap ∧ idx ≤ b.index := by
      split at hsel
      · split at hsel
        · split at hsel
          · simp at hsel; omega                   -- fits the handler's block size: the code tested it
          · split at hsel
            · next hh => simp at hsel hh; omega   -- after `bufferFull`: tested again, the index clamped to the old one
            · cases hsel                          -- refused
        · simp at hsel; omega                     -- doubled, within the handler's block size
      · simp at hsel; omega                       -- no full handler: doubled
    split at h
    · simp at h
      obtain ⟨rfl, rfl⟩ := h
      refine ⟨by simp; omega, ⟨by simp; omega, by simp⟩, by simp; omega, ?_⟩
      simp [Access.ok]; omega
    · simp at h
      obtain ⟨rfl, rfl⟩ := h
      refine ⟨by simp; omega, ⟨by simp; omega, by simp; omega⟩, by simp; omega, by simp⟩

/-- the three appending operations: if the test `c` asks for it, `ensureCapacity(n)`; then `n` cells are stored
at `fIndex` -/
theorem xappend_ok {b : XBuf} (hb : XInv b) {n : Nat} {r : Reply} {c : Prop} [Decidable c] (hc : ¬c → b.index + n ≤ b.cap)
    {b' : XBuf} {acc : List Access}
    (h : (if c then
            match ensureCapacity b n r with
            | none => none
            | some (b', acc) => some ({ b' with index := b'.index + n }, acc ++ [⟨b'.index, b'.index + n, b'.alloc⟩])
          else some ({ b with index := b.index + n }, [⟨b.index, b.index + n, b.alloc⟩])) = some (b', acc)) :
    XInv b' ∧ ∀ a ∈ acc, a.ok := by
  split at h
  · split at h
    · cases h
    · next b1 acc1 he =>
      cases h
      have ⟨g1, ⟨_, g3⟩, _, g4⟩ := xmlBuffer_grow_sufficient hb he
      refine ⟨⟨g1, g3⟩, List.forall_mem_append.mpr ⟨g4, ?_⟩⟩
      simp [Access.ok]; omega
  · next hn =>
    cases h
    have := hb.2; have := hc hn
    exact ⟨⟨hc hn, hb.2⟩, by simp [Access.ok]; omega⟩

theorem xstep_ok {b b' : XBuf} {op : XOp} {acc : List Access} (hb : XInv b) (h : xstep b op = some (b', acc)) :
    XInv b' ∧ ∀ a ∈ acc, a.ok := by
  have hb1 : XInv { b with index := 0 } := ⟨Nat.zero_le _, hb.2⟩
  cases op with
  | appendCh r => exact xappend_ok hb (by have := hb.1; omega) h
  | appendN count r =>
    simp only [xstep] at h
    split at h
    · cases h; exact ⟨hb, by simp⟩
    · exact xappend_ok hb (by omega) h
  | set count r =>
    simp only [xstep] at h
    split at h
    · cases h; exact ⟨hb1, by simp⟩
    · -- `fIndex = 0; append(chars, count)`, with `0 + count` written `count`
      exact xappend_ok hb1 (n := count) (c := count ≥ b.cap) (by simp only [Nat.zero_add]; omega)
        (by rw [Nat.zero_add]; exact h)
  | reset => cases h; exact ⟨hb1, by simp⟩
  | getRaw =>
    cases h
    have := hb.1; have := hb.2
    exact ⟨hb, by simp [Access.ok]; omega⟩

theorem xmlBuffer_append_in_bounds :
    ∀ (ops : List XOp) (b : XBuf), XInv b → ∀ a ∈ xrun b ops, a.ok :=
  run_ok (fun _ => rfl) fun b op ops hb => by
    simp only [xrun]
    split
    · exact ⟨[], nofun, .inl rfl⟩
    · next b' acc he => exact ⟨acc, (xstep_ok hb he).2, .inr ⟨b', (xstep_ok hb he).1, rfl⟩⟩

theorem xmlBuffer_new_inv (capacity : Nat) : XInv (XBuf.new capacity) := by
  simp [XInv, XBuf.new, xmlBufferCtorSlack]

theorem xmlBuffer_newFull_inv (capacity fullSize : Nat) : XInv (XBuf.newFull capacity fullSize) := by
  unfold XBuf.newFull
  split
  · exact xmlBuffer_new_inv capacity
  · simp [XInv, xmlBufferCtorSlack]; split <;> omega

/-- no wrap: below 2^62 characters the 64-bit `newCap` and the byte count `(newCap+1)*sizeof(XMLCh)` are the
mathematical values -/
theorem xmlBuffer_no_wrap (index extra : Nat) (h : index + extra < 2^62) :
    newCapMachine index extra = (index + extra) * xmlBufferGrowMul ∧
    ((index + extra) * xmlBufferGrowMul + xmlBufferGrowSlack) * 2 < 2^64 := by
  unfold newCapMachine
  simp only [xmlBufferGrowMul, xmlBufferGrowSlack]
  omega

def VInv (v : QVec) : Prop := v.count ≤ v.cap

/-- what `vstep` needs of the `ensureExtraCapacity` it is given; `ValueVectorOf` and `BaseRefVectorOf` differ only
in theirs -/
def EnsOK (ens : QVec → Nat → QVec × List Access) : Prop :=
  ∀ v len, VInv v → (ens v len).1.count = v.count ∧ v.count + len ≤ (ens v len).1.cap ∧ ∀ a ∈ (ens v len).2, a.ok

/-- `grow_sufficient` for `ValueVectorOf::ensureExtraCapacity`, whatever the growth factor -/
theorem valueVector_grow_sufficient (num den : Nat) : EnsOK (vvEnsure num den) := by
  intro v len hv
  unfold VInv at hv
  unfold vvEnsure
  simp only
  split
  · refine ⟨rfl, ?_, ?_⟩
    · simp; omega
    · simp [Access.ok]; omega
  · exact ⟨rfl, by simp; omega, by simp⟩

/-- `grow_sufficient` for `BaseRefVectorOf::ensureExtraCapacity` -/
theorem refVector_grow_sufficient (div : Nat) : EnsOK (rvEnsure div) := by
  intro v len hv
  unfold VInv at hv
  unfold rvEnsure
  simp only
  split
  · exact ⟨rfl, by simp; omega, by simp⟩
  · refine ⟨rfl, ?_, ?_⟩
    · simp; omega
    · simp [Access.ok]; omega

theorem vstep_ok {ens} (he : EnsOK ens) {v : QVec} (hv : VInv v) (op : VOp) :
    VInv (vstep ens v op).1 ∧ ∀ a ∈ (vstep ens v op).2, a.ok := by
  cases op with
  | add =>
    have ⟨e1, e2, e3⟩ := he v 1 hv
    simp only [vstep]
    refine ⟨by simp [VInv]; omega, List.forall_mem_append.mpr ⟨e3, ?_⟩⟩
    simp [Access.ok]; omega
  | insertAt i =>
    simp only [vstep]
    split
    · exact ⟨hv, by simp⟩
    · have ⟨e1, e2, e3⟩ := he v 1 hv
      refine ⟨by simp [VInv]; omega, List.forall_mem_append.mpr ⟨e3, ?_⟩⟩
      simp [Access.ok]; omega
  | removeAt i =>
    simp only [vstep]
    unfold VInv at hv
    split
    · exact ⟨hv, by simp⟩
    · refine ⟨by simp [VInv]; omega, ?_⟩
      simp [Access.ok]; omega
  | removeAll => exact ⟨by simp [vstep, VInv], by simp [vstep]⟩
  | ensure n =>
    have ⟨e1, e2, e3⟩ := he v n hv
    simp only [vstep]
    exact ⟨by unfold VInv; omega, e3⟩

theorem vector_append_in_bounds {ens} (he : EnsOK ens) :
    ∀ (ops : List VOp) (v : QVec), VInv v → ∀ a ∈ vrun ens v ops, a.ok :=
  run_ok (fun _ => rfl) fun _ op _ hv => ⟨_, (vstep_ok he hv op).2, .inr ⟨_, (vstep_ok he hv op).1, rfl⟩⟩

theorem valueVector_append_in_bounds (ops : List VOp) (v : QVec) (hv : VInv v) :
    ∀ a ∈ vrun (vvEnsure valueVectorNum valueVectorDen) v ops, a.ok :=
  vector_append_in_bounds (valueVector_grow_sufficient _ _) ops v hv

theorem refVector_append_in_bounds (ops : List VOp) (v : QVec) (hv : VInv v) :
    ∀ a ∈ vrun (rvEnsure refVectorHalfDiv) v ops, a.ok :=
  vector_append_in_bounds (refVector_grow_sufficient _) ops v hv

/-- `1 ≤ v.count`: when `addRange` merges the value into the last range it writes cell `count - 1` -/
theorem rtAdd_ok {v : QVec} (h : VInv v ∧ 1 ≤ v.count) (b : Bool) (i : Nat) :
    (VInv (rtAdd v b i).1 ∧ 1 ≤ (rtAdd v b i).1.count) ∧ ∀ a ∈ (rtAdd v b i).2, a.ok := by
  obtain ⟨hv, h1⟩ := h
  unfold VInv at hv
  unfold rtAdd
  cases b with
  | true => simp [VInv, Access.ok]; omega
  | false =>
    simp only [rangeTokenGuardStrict, rangeTokenGuardAdd, rangeTokenExpandBy, rtExpand, Bool.false_eq_true, if_false]
    by_cases ht : v.count + 2 ≥ v.cap
    · simp only [ht, decide_true, if_true]
      refine ⟨⟨by simp [VInv]; omega, by simp⟩, ?_⟩
      simp [Access.ok]; omega
    · simp only [ht, decide_false]
      refine ⟨⟨by simp [VInv]; omega, by simp⟩, ?_⟩
      simp [Access.ok]; omega

theorem rangeToken_append_in_bounds :
    ∀ (ops : List (Bool × Nat)) (v : QVec), VInv v → 1 ≤ v.count → ∀ a ∈ rtRun v ops, a.ok :=
  fun ops v hv h1 => run_ok (Inv := fun v => VInv v ∧ 1 ≤ v.count) (fun _ => rfl)
    (fun _ op _ h => ⟨_, (rtAdd_ok h op.1 op.2).2, .inr ⟨_, (rtAdd_ok h op.1 op.2).1, rfl⟩⟩) ops v ⟨hv, h1⟩

theorem rangeToken_first_ok : VInv rtFirst.1 ∧ 1 ≤ rtFirst.1.count ∧ ∀ a ∈ rtFirst.2, a.ok := by
  simp [rtFirst, VInv, rangeTokenInit, Access.ok]

/-- 32-bit `unsigned int`: nothing wraps below 2^31 elements -/
theorem rangeToken_no_wrap (count len : Nat) (h : count < 2^31) (hl : len ≤ 2) :
    count + len < 2^32 ∧ scale rangeTokenNum rangeTokenDen count < 2^32 ∧
    (max (count + len) (scale rangeTokenNum rangeTokenDen count)) * 4 < 2^64 := by
  simp only [scale, rangeTokenNum, rangeTokenDen]; omega

/-- sizing of `mergeRanges` / `subtractRanges` / `intersectRanges` results:
`newMax = (count + other.count >= max) ? max + other.max : max` always holds `count + other.count` entries -/
theorem rangeToken_merge_capacity (count max ocount omax : Nat) (h1 : count ≤ max) (h2 : ocount ≤ omax) :
    count + ocount ≤ (if count + ocount ≥ max then max + omax else max) := by
  split <;> omega

def DInv (b : DBuf) : Prop := b.index ≤ b.cap ∧ b.cap + 1 ≤ b.alloc

theorem domBuffer_grow_sufficient {b : DBuf} (hb : DInv b) (extra : Nat) (hx : b.index + extra ≥ b.cap) :
    (dExpand b extra).1.index = b.index ∧ b.index + extra ≤ (dExpand b extra).1.cap ∧ DInv (dExpand b extra).1 ∧
    ∀ a ∈ (dExpand b extra).2, a.ok := by
  obtain ⟨h1, h2⟩ := hb
  simp only [dExpand, scale, domBufferNum, domBufferDen, domBufferSlack]
  refine ⟨trivial, by omega, ⟨by simp; omega, by simp⟩, ?_⟩
  simp [Access.ok]; omega

theorem dstep_append_ok {b : DBuf} (hb : DInv b) (count : Nat) :
    DInv (dstep b (.append count)).1 ∧ ∀ a ∈ (dstep b (.append count)).2, a.ok := by
  have ⟨h1, h2⟩ := hb
  simp only [dstep]
  by_cases hx : b.index + count ≥ b.cap
  · have ⟨e0, e1, ⟨e2, e3⟩, e4⟩ := domBuffer_grow_sufficient hb count hx
    simp only [hx, if_true]
    refine ⟨⟨by simp; omega, by simp; omega⟩, List.forall_mem_append.mpr ⟨e4, ?_⟩⟩
    simp [Access.ok]; omega
  · simp only [hx, if_false]
    refine ⟨⟨by simp; omega, by simp; omega⟩, ?_⟩
    simp [Access.ok]; omega

/-- `DOMBuffer::set` puts `fIndex = 0` and then does what `append` does -/
theorem dstep_set (b : DBuf) (count : Nat) : dstep b (.set count) = dstep ⟨0, b.cap, b.alloc⟩ (.append count) := by
  by_cases h : b.cap ≤ count <;> simp [dstep, dExpand, h]

theorem dstep_ok {b : DBuf} (hb : DInv b) (op : DOp) : DInv (dstep b op).1 ∧ ∀ a ∈ (dstep b op).2, a.ok := by
  have ⟨h1, h2⟩ := hb
  cases op with
  | append count => exact dstep_append_ok hb count
  | set count => exact dstep_set b count ▸ dstep_append_ok (b := ⟨0, b.cap, b.alloc⟩) ⟨Nat.zero_le _, h2⟩ count
  | reset => exact ⟨⟨Nat.zero_le _, h2⟩, by simp [dstep, Access.ok]; omega⟩
  | getRaw => exact ⟨hb, by simp [dstep, Access.ok]; omega⟩

theorem domBuffer_append_in_bounds :
    ∀ (ops : List DOp) (b : DBuf), DInv b → ∀ a ∈ drun b ops, a.ok :=
  run_ok (fun _ => rfl) fun _ op _ hb => ⟨_, (dstep_ok hb op).2, .inr ⟨_, (dstep_ok hb op).1, rfl⟩⟩

/-! non-vacuity: concrete runs crossing several growth steps -/
example : (qfinal elemStack (QVec.init elemStack) (List.replicate 100 .push)) = ⟨100, 120⟩ := by decide +kernel
example : (qfinal wfElemMap (QVec.init wfElemMap) (List.replicate 40 .push)) = ⟨40, 47⟩ := by decide +kernel
example : xfinal (XBuf.new 4) [.appendN 3 (false, 0), .appendCh (false, 0), .appendCh (false, 0), .getRaw]
    = some ⟨5, 10, 11, none⟩ := by decide
example : xfinal (XBuf.newFull 1023 8) [.appendN 8 (true, 0), .appendCh (true, 0)] = some ⟨1, 8, 1024, some 8⟩ := by decide
example : xfinal (XBuf.newFull 1023 8) [.appendN 8 (true, 0), .appendCh (false, 0)] = none := by decide
example : vfinal (vvEnsure valueVectorNum valueVectorDen) ⟨0, 0⟩ (List.replicate 10 .add) = ⟨10, 10⟩ := by decide
example : dfinal (DBuf.new domBufferDefaultCap) [.append 30, .append 5, .set 100] = ⟨100, 125, 126⟩ := by decide

end Growth

section CharRef
open XV.Model.CharRef

theorem numeral_mono (radix : Nat) (hr : 1 ≤ radix) (ds : List Nat) (v : Nat) : v ≤ numeral radix v ds := by
  fun_induction numeral radix v ds with
  | case1 => exact Nat.le_refl _
  | case2 v d ds ih => have : v ≤ v * radix := Nat.le_mul_of_pos_right v hr; omega

theorem charref_step_no_wrap {g radix v d : Nat} (hg : g ≤ 0x10FFFF) (hr : radix ≤ 16) (hv : v ≤ g) (hd : d < radix) :
    v * radix + d < 2^32 := by
  have h1 : v * radix ≤ 0x10FFFF * 16 := Nat.mul_le_mul (by omega) hr
  omega

/-- `step` reduces modulo 2^32; within the guard nothing is reduced, and the 32-bit step is the mathematical one -/
theorem step_guarded {g radix v d : Nat} (hg : g ≤ 0x10FFFF) (hr : radix ≤ 16) (hv : v ≤ g) (hd : d < radix) :
    step (some g) radix v d = if v * radix + d > g then none else some (v * radix + d) := by
  have hnw := charref_step_no_wrap hg hr hv hd
  have hmod : ((v * radix) % W + d) % W = v * radix + d := by
    have : v * radix < 2^32 := by omega
    rw [W, Nat.mod_eq_of_lt this, Nat.mod_eq_of_lt hnw]
  simp only [step, hmod]

/-- `scan` (the value) and `raws` (the values before reduction) walk the same loop, so both go through one
induction, with `v ≤ g` as the loop invariant.  Once a step exceeds the guard the loop raises, and so does the
right-hand side, because the numeral only grows with more digits (`numeral_mono`). -/
theorem charref_loop {g radix : Nat} (hg : g ≤ 0x10FFFF) (hr1 : 1 ≤ radix) (hr : radix ≤ 16) :
    ∀ (ds : List Nat) (v : Nat), v ≤ g → (∀ d ∈ ds, d < radix) →
      scan (some g) radix v ds = (if numeral radix v ds ≤ g then some (numeral radix v ds) else none) ∧
      ∀ x ∈ raws (some g) radix v ds, x < 2^32 := by
  intro ds
  induction ds with
  | nil => intro v hv _; simp [scan, numeral, raws, hv]
  | cons d ds ih =>
    intro v hv hd
    have hdr : d < radix := hd d (by simp)
    simp only [scan, numeral, raws, List.mem_cons, step_guarded hg hr hv hdr]
    by_cases hgt : v * radix + d > g
    · have := numeral_mono radix hr1 ds (v * radix + d)
      simp only [hgt, if_true, List.not_mem_nil, or_false, forall_eq]
      exact ⟨by simp [show ¬ numeral radix (v * radix + d) ds ≤ g by omega], charref_step_no_wrap hg hr hv hdr⟩
    · simp only [hgt, if_false]
      have ⟨ih1, ih2⟩ := ih (v * radix + d) (by omega) (fun x hx => hd x (by simp [hx]))
      exact ⟨ih1, fun x hx => hx.elim (· ▸ charref_step_no_wrap hg hr hv hdr) (ih2 x)⟩

/-- `charref_value_exact` for any guard up to `0x10FFFF`, any radix up to 16 and any start value within the guard -/
theorem charref_scan_exact {g radix : Nat} (hg : g ≤ 0x10FFFF) (hr1 : 1 ≤ radix) (hr : radix ≤ 16) :
    ∀ (ds : List Nat) (v : Nat), v ≤ g → (∀ d ∈ ds, d < radix) →
      scan (some g) radix v ds = if numeral radix v ds ≤ g then some (numeral radix v ds) else none :=
  fun ds v hv hd => (charref_loop hg hr1 hr ds v hv hd).1

/-- the loop of `XMLScanner::scanCharRef` as extracted (guard constant from the source) -/
theorem charref_value_exact (radix : Nat) (hr : radix = xmlScannerRadixDec ∨ radix = xmlScannerRadixHex)
    (ds : List Nat) (hd : ∀ d ∈ ds, d < radix) :
    scan xmlScannerGuard radix 0 ds = if numeral radix 0 ds ≤ 0x10FFFF then some (numeral radix 0 ds) else none := by
  have h16 : 1 ≤ radix ∧ radix ≤ 16 := by
    rcases hr with rfl | rfl <;> simp [xmlScannerRadixDec, xmlScannerRadixHex]
  show scan (some 0x10FFFF) radix 0 ds = _
  exact charref_scan_exact (by omega) h16.1 h16.2 ds 0 (by omega) hd

theorem charref_no_wrap (radix : Nat) (hr : radix = xmlScannerRadixDec ∨ radix = xmlScannerRadixHex)
    (ds : List Nat) (hd : ∀ d ∈ ds, d < radix) : ∀ x ∈ raws xmlScannerGuard radix 0 ds, x < 2^32 := by
  have h16 : 1 ≤ radix ∧ radix ≤ 16 := by
    rcases hr with rfl | rfl <;> simp [xmlScannerRadixDec, xmlScannerRadixHex]
  show ∀ x ∈ raws (some 0x10FFFF) radix 0 ds, x < 2^32
  exact (charref_loop (by omega) h16.1 h16.2 ds 0 (by omega) hd).2

/-- the code after the loop yields what XML 1.0 asks of the number: a well-formed surrogate pair that encodes
exactly `n`, a single unit `≤ 0xFFFD`, or the error -/
theorem charref_finish_exact (n : Nat) :
    finish xmlScannerPairLo xmlScannerPairHi xmlScannerSingleMax xmlScannerSurr n = specOut n := by
  simp only [finish, xmlScannerSurr, xmlScannerPairLo, xmlScannerPairHi, xmlScannerSingleMax, specOut]
  rfl

theorem charref_pair_wellformed (n : Nat) (h : 0x10000 ≤ n ∧ n ≤ 0x10FFFF) :
    ∃ hi lo, specOut n = .pair hi lo ∧ 0xD800 ≤ hi ∧ hi ≤ 0xDBFF ∧ 0xDC00 ≤ lo ∧ lo ≤ 0xDFFF ∧
      (hi - 0xD800) * 1024 + (lo - 0xDC00) + 0x10000 = n := by
  refine ⟨(n - 0x10000) / 1024 + 0xD800, (n - 0x10000) % 1024 + 0xDC00, by simp [specOut, h], ?_⟩
  omega

/-- an unguarded accumulator wraps: a nine-digit hexadecimal reference is taken for `A` -/
theorem charref_unguarded_wraps :
    scan none 16 0 [1, 0, 0, 0, 0, 0, 0, 4, 1] = some 0x41 ∧ numeral 16 0 [1, 0, 0, 0, 0, 0, 0, 4, 1] = 0x100000041 := by
  decide

/-- status of `DTDScanner::scanCharRef` relative to the extracted guard: exact when guarded like the scanner's,
and wrapping to a legal character when it has no guard -/
theorem dtd_charref_exact_of_guarded (h : dtdScannerGuard = some 0x10FFFF) (radix : Nat)
    (hr : radix = dtdScannerRadixDec ∨ radix = dtdScannerRadixHex) (ds : List Nat) (hd : ∀ d ∈ ds, d < radix) :
    scan dtdScannerGuard radix 0 ds = if numeral radix 0 ds ≤ 0x10FFFF then some (numeral radix 0 ds) else none := by
  have h16 : 1 ≤ radix ∧ radix ≤ 16 := by
    rcases hr with rfl | rfl <;> simp [dtdScannerRadixDec, dtdScannerRadixHex]
  rw [h]
  exact charref_scan_exact (by omega) h16.1 h16.2 ds 0 (by omega) hd

theorem dtd_charref_wraps_of_unguarded (h : dtdScannerGuard = none) :
    ∃ ds, (∀ d ∈ ds, d < dtdScannerRadixHex) ∧ numeral dtdScannerRadixHex 0 ds > 0x10FFFF ∧
      charRef dtdScannerGuard dtdScannerRadixHex dtdScannerPairLo dtdScannerPairHi dtdScannerSingleMax dtdScannerSurr ds
        = .single 0x41 := by
  rw [h]
  exact ⟨[1, 0, 0, 0, 0, 0, 0, 4, 1], by decide, by decide, by decide⟩

example : scan xmlScannerGuard 16 0 [1, 0, 15, 15, 15, 15] = some 0x10FFFF := by decide
example : scan xmlScannerGuard 16 0 [1, 1, 0, 0, 0, 0] = none := by decide
example : scan xmlScannerGuard 10 0 ([0, 0, 0, 0, 0, 0, 0, 0, 0, 0, 0, 0, 6, 5]) = some 65 := by decide

end CharRef

section Msg
open XV.Model.MsgFormat XV.Lemmas.MsgFormat XV.Lemmas.MsgTables

theorem loadMsg_bounded (src : List Nat) (maxChars : Nat) : loadMsgCells src maxChars ≤ maxChars + 1 := by
  simp [loadMsgCells, loadMsg, List.length_take]; omega

/-- `replaceTokens` touches at most `maxChars + 1` cells when the text is of the shipped shape or the loop is guarded -/
theorem replaceTokens_bounded (guarded : Bool) (maxChars : Nat) (rep : Nat → Nat) (src : List Nat)
    (h : guarded = true ∨ (tokenThenBare src = false ∧ src.length ≤ maxChars)) :
    replaceTokensCells guarded maxChars rep src ≤ maxChars + 1 := by
  unfold replaceTokensCells replaceTokens
  split
  · omega
  · exact Nat.succ_le_succ (inner_le guarded maxChars rep src 0 false (Nat.zero_le _)
      (h.imp_right fun h => ⟨h.1, fun _ => by omega⟩))

/-- the unguarded loop does overrun for a text with a token, a character and then a bare brace: with
`maxChars = 10` and a 9-character replacement it touches 12 cells of an 11-cell buffer -/
theorem replaceTokens_overrun_witness :
    replaceTokensCells false 10 (fun _ => 9) [cOpen, c0, cClose, 65, cOpen] = 10 + 2 := by decide

/-- every `errText` array is at least one cell larger than the limit passed to the loader -/
theorem errText_sites_sized : ∀ s ∈ errTextSites, siteSized s = true := by decide +kernel

theorem errText_sites_min : ∀ s ∈ errTextSites, 128 ≤ s.2.2.2 := by decide +kernel

theorem safe_text_bounded {m : List Nat} {dim maxChars size : Nat} (hm : msgSafe dim m = true) (hd : dim ≤ maxChars)
    (hs : maxChars + 1 ≤ size) (guarded : Bool) (rep : Nat → Nat) :
    loadMsgCells m maxChars ≤ size ∧ replaceTokensCells guarded maxChars rep (loadMsg m maxChars) ≤ size := by
  simp only [msgSafe, Bool.and_eq_true, decide_eq_true_eq, Bool.not_eq_true'] at hm
  have hl : loadMsg m maxChars = m := List.take_of_length_le (by omega)
  have := loadMsg_bounded m maxChars
  have := replaceTokens_bounded guarded maxChars rep m (.inr ⟨hm.2, by omega⟩)
  rw [hl]; omega

/-- `emitError_bounded`: for every call site (`XMLScanner::emitError`, `XMLValidator::emitError`,
`XSDErrorReporter`, `XMLException::loadExceptText`, …), every shipped message and every choice of replacement-text
lengths, loading and token replacement stay inside `errText`.
A site `s` is (file, ordinal, array length `s.2.2.1`, `maxChars` `s.2.2.2`), a table `t` is (name, row width `t.2.1`,
`…ArraySize`, rows `t.2.2.2`).  No row is wider than 128 (`tables_dim`) and no site passes less
(`errText_sites_min`), so every message is loaded whole.  Which row a message id selects is not modelled: `m` is
any row, and `…ArraySize`, which `InMemMsgLoader::loadMsg` tests the id against, occurs in no statement.
The proof does not look at `replaceTokensBraceGuarded`: the shipped messages are safe for the unguarded loop too,
and that is what the tables are checked for (`shipped_messages_safe`); when the guard is in the source the second
conjunct holds of any text (`replaceTokens_bounded`). -/
theorem emitError_bounded (s) (hs : s ∈ errTextSites) (t) (ht : t ∈ XV.Gen.SafetyMsgs.messageTables) (m) (hm : m ∈ t.2.2.2)
    (rep : Nat → Nat) :
    loadMsgCells m s.2.2.2 ≤ s.2.2.1 ∧
    replaceTokensCells replaceTokensBraceGuarded s.2.2.2 rep (loadMsg m s.2.2.2) ≤ s.2.2.1 :=
  safe_text_bounded (List.all_eq_true.mp (shipped_messages_safe t ht) m hm)
    (Nat.le_trans (tables_dim t ht) (errText_sites_min s hs)) (of_decide_eq_true (errText_sites_sized s hs)) _ rep

/-- `XMLString::replaceTokens` as a public function, for *arbitrary* texts: bounded iff the brace copy is guarded.
Whether it is (`replaceTokensBraceGuarded`) is read off the source on every run; `replaceTokens_overrun_witness` is
the overrun of the unguarded loop. -/
theorem replaceTokens_public_status :
    (replaceTokensBraceGuarded = true →
      ∀ maxChars rep src, replaceTokensCells replaceTokensBraceGuarded maxChars rep src ≤ maxChars + 1) ∧
    (replaceTokensBraceGuarded = false →
      ∃ maxChars rep src, replaceTokensCells replaceTokensBraceGuarded maxChars rep src > maxChars + 1) := by
  refine ⟨?_, ?_⟩
  · intro h maxChars rep src; exact replaceTokens_bounded _ _ _ _ (Or.inl h)
  · intro h; rw [h]
    exact ⟨10, fun _ => 9, [cOpen, c0, cClose, 65, cOpen], by rw [replaceTokens_overrun_witness]; decide⟩

example : replaceTokensCells false 2047 (fun k => if k = 0 then 100000 else 3)
    [0x65, 0x20, cOpen, c0, cClose, 0x20, cOpen, c0 + 1, cClose] ≤ 2048 := by decide

end Msg

section Reader
open XV.Model.ReaderStack

/-- bookkeeping invariant: every created object is either deleted or still owned, never both, never twice -/
structure LInv (s : St) : Prop where
  bal : ∀ o, s.created.count o = s.deleted.count o + s.live.count o
  once : s.created.Nodup
  fresh : ∀ o ∈ s.created, o.id < s.next

/-- an operation that creates nothing only moves objects from "owned" to "deleted" -/
def Conserves (s s' : St) : Prop :=
  s'.created = s.created ∧ s'.next = s.next ∧
  ∀ o, s'.deleted.count o + s'.live.count o = s.deleted.count o + s.live.count o

theorem LInv.of_conserves {s s' : St} (h : LInv s) (c : Conserves s s') : LInv s' := by
  obtain ⟨c1, c2, c3⟩ := c
  exact ⟨by intro o; rw [c1, c3 o]; exact h.bal o, c1 ▸ h.once,
         by intro o ho; rw [c1] at ho; rw [c2]; exact h.fresh o ho⟩

theorem popLoop_conserves (o : Obj) (fl : List Bool) (cur : RD) (stack : List RD) (del : List Obj) :
    (popLoop cur stack del fl).2.2.count o +
        (((popLoop cur stack del fl).1 :: (popLoop cur stack del fl).2.1).flatMap RD.owns).count o
      = del.count o + ((cur :: stack).flatMap RD.owns).count o := by
  fun_induction popLoop cur stack del fl with
  | case4 cur del fl d st ih => rw [ih]; simp [List.flatMap_cons, List.count_append]; omega  -- the loop goes round
  | _ => rfl

/-- `cleanStackBackTo` runs `popReader`'s loop; the flags say where the reader asked for is -/
theorem cleanLoop_eq_popLoop (n : Nat) (stack : List RD) (cur : RD) (del : List Obj) :
    cleanLoop n cur stack del = popLoop cur stack del ((cur :: stack).map fun d => decide (d.reader = n)) := by
  fun_induction cleanLoop n cur stack del with
  | case1 cur del => cases h : decide (cur.reader = n) <;> simp [popLoop, h]
  | _ => simp [popLoop, *]

theorem pop_conserves (s : St) (t : Bool) (fl : List Bool) : Conserves s (pop s t fl) := by
  unfold pop
  split
  · rename_i prev top st hc hs
    split
    · split
      · rename_i e he
        refine ⟨rfl, rfl, ?_⟩
        intro o
        simp [St.live, curList, hc, hs, List.flatMap_cons, List.count_append, RD.owns, he, List.count_cons]
        omega
      · rename_i he
        refine ⟨rfl, rfl, ?_⟩
        intro o
        simp [St.live, curList, hc, hs, List.flatMap_cons, List.count_append]
        omega
    · refine ⟨rfl, rfl, ?_⟩
      intro o
      have := popLoop_conserves o fl top st (prev.owns ++ s.deleted)
      simp [St.live, curList, hc, hs, List.flatMap_cons, List.count_append] at this ⊢
      omega
  · exact ⟨rfl, rfl, fun _ => rfl⟩

theorem cleanBackTo_conserves (s : St) (n : Nat) : Conserves s (cleanBackTo s n) := by
  unfold cleanBackTo
  split
  · rename_i c hc
    refine ⟨rfl, rfl, ?_⟩
    intro o
    have := popLoop_conserves o ((c :: s.stack).map fun d => decide (d.reader = n)) c s.stack s.deleted
    rw [← cleanLoop_eq_popLoop] at this
    simp [St.live, curList, hc, List.flatMap_cons, List.count_append] at this ⊢
    omega
  · exact ⟨rfl, rfl, fun _ => rfl⟩

theorem reset_conserves (s : St) : Conserves s (reset s) := by
  refine ⟨rfl, rfl, ?_⟩
  intro o
  simp [reset, St.live, curList, List.count_append]
  omega

theorem destroy_conserves (s : St) : Conserves s (destroy s) := by
  refine ⟨rfl, rfl, ?_⟩
  intro o
  simp [destroy, reset, St.live, curList, List.count_append]
  omega

theorem owns_nodup (d : RD) : d.owns.Nodup := by
  cases h : d.adopted <;> simp [RD.owns, h]

theorem owns_id {d : RD} {n : Nat} (hr : d.reader = n) (ha : ∀ e, d.adopted = some e → e = n) : ∀ o ∈ d.owns, o.id = n := by
  intro o ho
  simp only [RD.owns] at ho
  cases hx : d.adopted with
  | none => simp [hx] at ho; subst ho; exact hr
  | some e => simp [hx] at ho; rcases ho with rfl | rfl <;> simp [Obj.id, hr, ha e hx]

theorem push_inv {s : St} (h : LInv s) (n : Option Nat) (a : Bool) : LInv (push s n a) := by
  generalize hd : (⟨s.next, n, if (a && n.isSome) = true then some s.next else none⟩ : RD) = d
  have hid : ∀ o ∈ d.owns, o.id = s.next :=
    owns_id (by subst hd; rfl) (by subst hd; intro e he; simp at he; exact he.2.symm)
  -- both branches create the same objects and take the same number; they differ in where the objects go
  have hcn : (push s n a).created = d.owns ++ s.created ∧ (push s n a).next = s.next + 1 := by
    unfold push; simp only [hd]; split <;> exact ⟨rfl, rfl⟩
  refine ⟨?_, ?_, ?_⟩
  · intro o
    have := h.bal o
    unfold push; simp only [hd]
    split
    · -- recursive expansion refused: reader (and adopted entity) deleted at once
      simp [St.live, curList, List.count_append] at this ⊢
      omega
    · simp [St.live, curList, List.flatMap_append, List.flatMap_cons, List.count_append] at this ⊢
      omega
  · rw [hcn.1]
    refine List.nodup_append.mpr ⟨owns_nodup d, h.once, fun x hx y hy hxy => ?_⟩
    have := hid x hx; have := h.fresh y hy; subst hxy; omega
  · intro o ho
    rw [hcn.1, List.mem_append] at ho
    rw [hcn.2]
    rcases ho with ho | ho
    · have := hid o ho; omega
    · have := h.fresh o ho; omega

theorem step_inv {s : St} (h : LInv s) (op : Op) : LInv (step s op) := by
  cases op with
  | push n a => exact push_inv h n a
  | pop t fl => exact h.of_conserves (pop_conserves s t fl)
  | cleanBackTo n => exact h.of_conserves (cleanBackTo_conserves s n)
  | reset => exact h.of_conserves (reset_conserves s)

theorem run_inv (ops : List Op) (s : St) (h : LInv s) : LInv (run s ops) := by
  fun_induction run s ops with
  | case1 => exact h
  | case2 s op ops ih => exact ih (step_inv h op)

theorem init_inv : LInv St.init := ⟨by intro o; simp [St.init, St.live, curList], List.nodup_nil, by intro o ho; simp [St.init] at ho⟩

theorem LInv.settled {s : St} (h : LInv s) {o : Obj} (hl : s.live.count o = 0) :
    s.deleted.count o = s.created.count o ∧ s.created.count o ≤ 1 :=
  ⟨by have := h.bal o; omega, List.nodup_iff_count.mp h.once o⟩

/-- `readerStack_balanced`: for every operation sequence, once the manager is reset and destroyed every object
that was created (reader or adopted entity) has been deleted exactly once, and nothing else was deleted. -/
theorem readerStack_balanced (ops : List Op) (o : Obj) :
    let s := destroy (run St.init ops)
    s.deleted.count o = s.created.count o ∧ s.created.count o ≤ 1 :=
  ((run_inv ops _ init_inv).of_conserves (destroy_conserves _)).settled (by simp [destroy, reset, St.live, curList])

/-- after `reset` alone every *reader* is already gone exactly once (adopted entities whose expansion ended with an
end-of-entity exception stay parked on `fEntityStack` until the manager is destroyed) -/
theorem readerStack_balanced_reset (ops : List Op) (n : Nat) :
    let s := reset (run St.init ops)
    s.deleted.count (.reader n) = s.created.count (.reader n) ∧ s.created.count (.reader n) ≤ 1 :=
  ((run_inv ops _ init_inv).of_conserves (reset_conserves _)).settled
    (by simp [reset, St.live, curList, List.count_eq_zero])

/-- at no time is an object deleted twice, or deleted while the manager still owns it -/
theorem readerStack_no_double_delete (ops : List Op) (o : Obj) :
    (run St.init ops).deleted.count o + (run St.init ops).live.count o ≤ 1 := by
  have h := run_inv ops _ init_inv
  have := h.bal o; have := List.nodup_iff_count.mp h.once o; omega

/-- `never_pop_below_base`: `popReader` / `cleanStackBackTo` never remove the last reader: in every case
a current reader remains, and with an empty stack `popReader` changes nothing and `cleanStackBackTo` deletes nothing -/
theorem never_pop_below_base (s : St) (h : s.cur.isSome) :
    (∀ t fl, (pop s t fl).cur.isSome) ∧ (∀ n, (cleanBackTo s n).cur.isSome) ∧
    (s.stack = [] → (∀ t fl, pop s t fl = s) ∧ (∀ n, (cleanBackTo s n).deleted = s.deleted)) := by
  refine ⟨?_, ?_, ?_⟩
  · intro t fl; unfold pop
    split
    · split
      · split <;> simp
      · simp
    · exact h
  · intro n; unfold cleanBackTo
    split
    · simp
    · exact h
  · intro hs
    refine ⟨?_, ?_⟩
    · intro t fl; unfold pop; rw [hs]; cases s.cur <;> rfl
    · intro n; unfold cleanBackTo; rw [hs]; cases s.cur <;> simp [cleanLoop]

/-- recursion check: an entity whose name is already on the stack is refused, the stack is unchanged and the
reader made for it is deleted on the spot -/
theorem recursion_detected (s : St) (name : Nat) (adopt : Bool) (h : onStack name s.stack = true) :
    (push s (some name) adopt).stack = s.stack ∧ (push s (some name) adopt).cur = s.cur ∧
    .reader s.next ∈ (push s (some name) adopt).deleted := by
  simp [push, isRecursive, h, RD.owns]

/-! non-vacuity: a history with an adopted entity whose expansion ends in an end-of-entity exception, a refused
recursive expansion, a clean-back and a reset: 6 objects created, the adopted entity parked until destruction -/
example :
    let ops : List Op := [.push none false, .push (some 1) true, .push (some 2) false, .push (some 1) false,
                          .pop true [], .pop true [], .push (some 3) false, .cleanBackTo 1, .reset]
    (run St.init ops).created.length = 6 ∧ (run St.init ops).ents = [2] ∧ (run St.init ops).live = [.entity 2] ∧
    (destroy (run St.init ops)).deleted.length = 6 := by decide

end Reader

section Expansion
open XV.Model.Expansion

/-- `k` more expansions are allowed (`count + k = L`), so `q.length + k * M` bounds what is left to do: a character
takes one off it, and so does a reference at least (`k` falls by one, the queue gains at most `M - 1`). -/
theorem expansion_bound_gen (table : Nat → List Tok) (M L : Nat) (hM : ∀ n, (table n).length ≤ M)
    (fuel : Nat) (q : List Tok) (count k delivered steps : Nat) (hk : count + k = L) :
      let r := run table (some L) fuel q count delivered steps
      r.delivered ≤ delivered + q.length + k * M ∧ r.steps ≤ steps + q.length + k * M ∧
      delivered ≤ r.delivered ∧
      (fuel > q.length + k * M → r.outcome ≠ .outOfFuel) := by
  -- the branches of `run` in its order: out of fuel, queue empty, a character, a reference past the limit, a reference
  -- within it, and (not with `some L`) no limit
  fun_induction run table (some L) fuel q count delivered steps generalizing k with
  | case1 => simp; omega
  | case2 => simp
  | case3 fuel q count d st ih =>
    have := ih k hk
    simp only [List.length_cons] at this ⊢
    exact ⟨by omega, by omega, by omega, fun hf => this.2.2.2 (by omega)⟩
  | case4 => simp; omega
  | case5 fuel n q count d st l hl hc ih =>
    cases hl
    obtain ⟨k, rfl⟩ : ∃ k', k = k' + 1 := ⟨k - 1, by omega⟩
    have ih := ih k (by omega)
    have := hM n
    simp only [List.length_append, List.length_cons, Nat.succ_mul] at ih ⊢
    exact ⟨by omega, by omega, by omega, fun hf => ih.2.2.2 (by omega)⟩
  | case6 _ _ _ _ _ _ hl => cases hl

/-- `expansion_work_bound`: with an expansion limit `L` and replacement texts of at most `M` tokens (the table may
be recursive), a document of `n` tokens delivers at most `n + L·M` characters, takes at most `n + L·M` scanner
steps, and that much fuel always suffices: the run ends by finishing or by the limit error. -/
theorem expansion_work_bound (table : Nat → List Tok) (M L : Nat) (hM : ∀ n, (table n).length ≤ M)
    (doc : List Tok) (fuel : Nat) :
    (run table (some L) fuel doc 0 0 0).delivered ≤ doc.length + L * M ∧
    (run table (some L) fuel doc 0 0 0).steps ≤ doc.length + L * M ∧
    (fuel > doc.length + L * M → (run table (some L) fuel doc 0 0 0).outcome ≠ .outOfFuel) := by
  have := expansion_bound_gen table M L hM fuel doc 0 L 0 0 (by omega)
  simp only at this
  exact ⟨by omega, by omega, this.2.2.2⟩

/-- non-vacuity and the contrast: a self-referencing entity `e = "x&e;"` is cut off by the limit after exactly
`L` characters, and runs for as long as the fuel lasts when no limit is set -/
example : run (fun _ => [.ch, .ref 0]) (some 5) 20 [.ref 0] 0 0 0 = ⟨.limitExceeded, 5, 11⟩ := by decide
example : (run (fun _ => [.ch, .ref 0]) none 40 [.ref 0] 0 0 0).outcome = .outOfFuel := by decide
/-- "billion laughs" two levels deep, 3×3: 9 characters from a 1-token document, within `1 + 4·3` -/
example : run (fun n => if n = 1 then [.ref 0, .ref 0, .ref 0] else [.ch, .ch, .ch]) (some 4) 100 [.ref 1] 0 0 0
    = ⟨.finished, 9, 13⟩ := by decide

end Expansion

section Heap
open XV.Model.DomHeap

/-- `safe` = one of the two repairs is in place; otherwise every block must be able to hold the header and the
largest sub-allocation -/
def HInv (safe : Bool) (maxSub : Nat) (h : Heap) : Prop :=
  (safe = true ∨ header + maxSub ≤ h.heapAllocSize) ∧ h.freeOff + h.freeRemaining = h.blockSize ∧ h.blockSize < 2^63 ∧
  h.heapAllocSize < 2^62

theorem newBlockSize_ok {clamped : Bool} {hs amount : Nat} (h : clamped = true ∨ header + amount ≤ hs)
    (h4 : hs < 2^62) (ha : amount ≤ 2^61) :
    header + amount ≤ newBlockSize clamped hs amount ∧ newBlockSize clamped hs amount < 2^63 := by
  unfold newBlockSize header at *
  by_cases hc : hs < 8 + amount
  · rcases h with h | h
    · simp [h, hc]; omega
    · omega
  · cases clamped <;> simp [hc] <;> omega

/-- the 64-bit unsigned subtraction of `allocate` when nothing is borrowed -/
theorem sub_wrap {a b : Nat} (hb : b ≤ a) (ha : a < 2^64) : (a + 2^64 - b) % 2^64 = a - b := by omega

theorem domAllocate_ok {maxSub maxHeap : Nat} {h : Heap} (clamped routed : Bool) (hi : HInv (clamped || routed) maxSub h)
    (amount : Nat) (hmax : maxHeap ≤ 2^61) (hsub : maxSub ≤ 2^61) :
    HInv (clamped || routed) maxSub (allocate clamped routed maxSub maxHeap h amount).1 ∧
    (∀ c, (allocate clamped routed maxSub maxHeap h amount).2 = some c → c.ok) := by
  unfold allocate
  split
  · exact ⟨hi, nofun⟩
  split
  · exact ⟨hi, nofun⟩
  -- the block the request is carved from: the current one, or a fresh one that can hold header and request
  generalize hblk : (if amount > h.freeRemaining then _ else h : Heap) = blk
  have ⟨⟨b1, b2, b3, b4⟩, hf⟩ : HInv (clamped || routed) maxSub blk ∧ amount ≤ blk.freeRemaining := by
    obtain ⟨h1, h2, h3, h4⟩ := hi
    subst hblk
    split
    · -- clamped; or routed, and the test that sends a misfit to the system allocator has just failed; or `h1`
      have key : clamped = true ∨ header + amount ≤ h.heapAllocSize := by
        cases clamped <;> cases routed <;> simp_all <;> omega
      have ⟨g1, g2⟩ := newBlockSize_ok (clamped := clamped) key h4 (by omega)
      generalize newBlockSize clamped h.heapAllocSize amount = size at g1 g2 ⊢
      unfold header at g1 h1
      dsimp only [header]
      rw [sub_wrap (a := size) (b := 8) (by omega) (by omega)]
      exact ⟨⟨h1.imp_right fun h1 => by simp only [header]; split <;> omega, by simp only; omega, g2,
        by simp only; split <;> omega⟩, by omega⟩
    · exact ⟨⟨h1, h2, h3, h4⟩, by omega⟩
  dsimp only
  rw [sub_wrap hf (by omega)]
  exact ⟨⟨b1, by simp only; omega, b3, b4⟩, fun c hc => by cases hc; simp only [Carve.ok]; omega⟩

/-- every sub-allocation of every request sequence stays inside its block, provided one of the repairs is in place
or a block can hold the header and the largest sub-allocation, and the configured sizes are small enough for the
64-bit arithmetic (`maxHeap`, `maxSub ≤ 2^61`, block size below 2^62) -/
theorem domHeap_in_bounds {maxSub maxHeap : Nat} (clamped routed : Bool) (hmax : maxHeap ≤ 2^61) (hsub : maxSub ≤ 2^61) :
    ∀ (reqs : List Nat) (h : Heap), HInv (clamped || routed) maxSub h →
      ∀ c ∈ carves clamped routed maxSub maxHeap h reqs, c.ok :=
  run_ok (fun _ => rfl) fun h a _ hi =>
    have ⟨hi', hc'⟩ := domAllocate_ok clamped routed hi a hmax hsub
    ⟨_, by intro c hc; split at hc <;> simp at hc; exact hc ▸ hc' _ ‹_›, .inr ⟨_, hi', rfl⟩⟩

/-- the shipped defaults (`kInitialHeapAllocSize`, `kMaxHeapAllocSize`, `kMaxSubAllocationSize`) satisfy the precondition
even without a repair -/
theorem domHeap_default_ok : HInv false domMaxSub (Heap.new domInitialHeap) ∧ domMaxHeap ≤ 2^61 ∧ domMaxSub ≤ 2^61 := by
  simp [HInv, Heap.new, domMaxSub, domInitialHeap, domMaxHeap, header]

theorem domHeap_default_in_bounds (reqs : List Nat) :
    ∀ c ∈ carves (!domAllocateBlockUnclamped) domAllocateRoutesMisfit domMaxSub domMaxHeap (Heap.new domInitialHeap) reqs, c.ok := by
  have ⟨d1, d2, d3⟩ := domHeap_default_ok
  refine domHeap_in_bounds _ _ d2 d3 reqs _ ⟨Or.inr ?_, d1.2⟩
  rcases d1.1 with h | h
  · simp at h
  · exact h

/-- as extracted: with a repair in place *every* block size below 2^62 that `Initialize` /
`setMemoryAllocationBlockSize` may set is safe (the other two sizes `Initialize` can set are the shipped ones here and
variables in `domHeap_in_bounds`); without a repair there is a block size that is not (`domAllocate_oob_small_heap`) -/
theorem domHeap_as_extracted (initial : Nat) (hi : initial < 2^62) (reqs : List Nat)
    (hsafe : (!domAllocateBlockUnclamped || domAllocateRoutesMisfit) = true) :
    ∀ c ∈ carves (!domAllocateBlockUnclamped) domAllocateRoutesMisfit domMaxSub domMaxHeap (Heap.new initial) reqs, c.ok := by
  have ⟨_, d2, d3⟩ := domHeap_default_ok
  exact domHeap_in_bounds _ _ d2 d3 reqs _ ⟨Or.inl hsafe, by simp [Heap.new], by simp [Heap.new], by simpa [Heap.new] using hi⟩

/-- F17 (DESIGN.md §5), the negative witness for the unrepaired code: a block size that
`setMemoryAllocationBlockSize` / `Initialize(initialDOMHeapAllocSize, …)` accept (`size > kMaxSubAllocationSize`,
here 257) makes the very first 256-byte request run 7 bytes past its block, and `fFreeBytesRemaining` wraps to
2^64 − 7 so no later request opens a new block. -/
theorem domAllocate_oob_small_heap :
    (allocate false false 256 524288 (Heap.new 257) 256).2 = some ⟨8, 256, 257⟩ ∧ ¬ (Carve.ok ⟨8, 256, 257⟩) ∧
    (allocate false false 256 524288 (Heap.new 257) 256).1.freeRemaining = 2^64 - 7 := by
  decide +kernel

/-- the same request under either repair -/
theorem domAllocate_clamped_witness :
    (allocate true false 256 524288 (Heap.new 257) 256).2 = some ⟨8, 256, 264⟩ ∧ Carve.ok ⟨8, 256, 264⟩ ∧
    (allocate false true 256 524288 (Heap.new 257) 256).2 = none := by
  decide +kernel

end Heap

section Ucs4Bom
open XV.Model.DomHeap

/-- UCS-4 BOM removal `for (i = 0; i < fRawBytesAvail - slack; i++) buf[i] = buf[i + shift]` over a raw buffer of
`size` bytes: in bounds for every fill level iff the loop stops `shift` bytes early. With `slack = 0` the
full-buffer case (any UCS-4 document with BOM of at least 48 KiB) reads `size + 3`; the slack in the source is read
off on every run (`ucs4_bom_shift_as_extracted`).  `avail - slack` is truncated in the model, so a fill level below
`slack` counts as "no read" where the unsigned bound of the C++ would wrap; the loop is only reached with at least
four bytes, since UCS-4 is auto-sensed from the first four (`XMLRecognizer::basicEncodingProbe`). -/
theorem ucs4_bom_shift_status (size slack shift : Nat) (hs : shift ≤ size) :
    (shift ≤ slack → ∀ avail, avail ≤ size → ∀ r, bomShiftMaxRead slack shift avail = some r → r < size) ∧
    (slack < shift → ∃ r, bomShiftMaxRead slack shift size = some r ∧ size ≤ r) := by
  refine ⟨?_, ?_⟩
  · intro h avail ha r hr
    unfold bomShiftMaxRead at hr
    split at hr
    · simp at hr
    · simp at hr; omega
  · intro h
    unfold bomShiftMaxRead
    have : ¬ (size - slack = 0) := by omega
    simp only [this, if_false]
    exact ⟨_, rfl, by omega⟩

theorem ucs4_bom_shift_as_extracted :
    (ucs4BomLoopShift ≤ ucs4BomLoopSlack → ∀ avail, avail ≤ rawBufSize →
        ∀ r, bomShiftMaxRead ucs4BomLoopSlack ucs4BomLoopShift avail = some r → r < rawBufSize) ∧
    (ucs4BomLoopSlack < ucs4BomLoopShift →
        ∃ r, bomShiftMaxRead ucs4BomLoopSlack ucs4BomLoopShift rawBufSize = some r ∧ rawBufSize ≤ r) :=
  ucs4_bom_shift_status rawBufSize ucs4BomLoopSlack ucs4BomLoopShift (by decide)

end Ucs4Bom

section DomParserReset
open XV.Gen.DomParserFields XV.Model.DomParserReset

/-- `domParser_reset_complete`: every data member of `AbstractDOMParser` that is a raw pointer to a DOM node class is
set to 0 by `reset()` or a same-object method it calls (as extracted; path-insensitive) -/
theorem domParser_reset_complete : ∀ m ∈ members, m.docPointer = true → m.name ∈ assignedNullInReset := by
  decide

/-- … and `reset()` is called on the way into the next parse: `resetDocument()` and `parseReset()` call it, and every
scanner's `scanReset(const InputSource&)` calls `fDocHandler->resetDocument()` (that `scanReset` runs before the first
callback of a parse is not part of the statement) -/
theorem domParser_reset_reached :
    resetDocumentCallsReset = true ∧ parseResetCallsReset = true ∧ ∀ s ∈ scanResetAnnounces, s.2 = true := by
  decide

/-- hence, whatever the parser pointed at and whichever documents were released in between, after `reset()` no
document-pointing member points into a released document -/
theorem domParser_no_stale_pointer_after_reset (st : PState) (released : Nat → Bool) :
    stale (reset assignedNullInReset st) released = [] := by
  unfold stale
  apply List.filter_eq_nil_iff.mpr
  intro n hn
  simp only [List.mem_map, List.mem_filter] at hn
  obtain ⟨m, ⟨hm, hd⟩, rfl⟩ := hn
  have := domParser_reset_complete m hm hd
  simp [reset, this]

/-- the statement is not vacuous (there are such members, `fCurrentEntity` among them), and a `reset()` that skips one
member does leave a stale pointer -/
theorem domParser_reset_nonvacuous :
    (∃ m ∈ members, m.docPointer = true ∧ m.name = "fCurrentEntity") ∧
    stale (reset (assignedNullInReset.filter (· ≠ "fCurrentEntity")) (fun _ => some 7)) (fun d => d == 7) = ["fCurrentEntity"] := by
  decide

end DomParserReset

end XV.Props.C01
