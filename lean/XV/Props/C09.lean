/-
C09 — schema datatypes: lexical, value-space, facet and canonical-form correctness.  Decimal, integer, hexBinary and
base64Binary come first; white space and boolean, the date/time family, the constraining facets and xs:duration follow in
sections of their own.

Models (code-shaped, XV.Model.Decimal / XV.Model.Codec): XMLBigDecimal::parseDecimal, toCompare/compareValues,
getCanonicalRepresentation, totalDigits/scale as computed there; XMLBigInteger::parseBigInteger, compareValues,
getCanonicalRepresentation; HexBin and Base64 (tables regenerated from the sources).
Specs (XV.Spec.Decimal / XV.Spec.Codec): XSD 1.0 Part 2 §3.2.3, §3.3.13, §3.2.15, §3.2.16 (E2-54), RFC 2045 Table 1.

`parseDecimal` is the parser WITH the minimal repair of defect F10 ("." "+." "-." accepted as 0); the code as
it stands is `parseDecimalOrig`, for which `decimal_lexical_orig_fails` keeps the witnesses.
-/
import XV.Lemmas.Decimal
import XV.Lemmas.Codec
import XV.Lemmas.Ws
import XV.Lemmas.DateTime
import XV.Lemmas.Facets
import XV.Lemmas.Duration
namespace XV.Props.C09
open XV.Spec.Decimal XV.Model.Decimal XV.Lemmas.Decimal

/-- A string is accepted iff, after white-space processing, it is in the lexical space of xs:decimal. -/
theorem decimal_lexical (s : List Char) :
    (∃ d, parseDecimal s = .ok d) ↔ isDecimalLex (trimWs s) = true :=
  trim_accepts (parseBody true) isDecimalLex rfl parseBody_lex s

/-- The unrepaired parser violates `decimal_lexical`: a lone decimal point (with or without sign, with or
without surrounding white space) is accepted — as zero — although it is not a decimal (defect F10). -/
theorem decimal_lexical_orig_fails :
    parseDecimalOrig ['.'] = .ok ⟨0, [], 0, 0⟩ ∧ isDecimalLex (trimWs ['.']) = false ∧
    parseDecimalOrig ['+', '.'] = .ok ⟨0, [], 0, 0⟩ ∧ isDecimalLex (trimWs ['+', '.']) = false ∧
    parseDecimalOrig [' ', '-', '.', '\n'] = .ok ⟨0, [], 0, 0⟩ ∧ isDecimalLex (trimWs [' ', '-', '.', '\n']) = false :=
  ⟨by rfl, by decide, by rfl, by decide, by rfl, by decide⟩

/-- What a successful parse holds (sign · intVal · 10^-scale) is the number the lexical form denotes, in
normal form: digits only, no leading zero in the integer part, no trailing zero in the fraction. -/
theorem decimal_value (s : List Char) (d : BigDecimal) (h : parseDecimal s = .ok d) :
    Normal d ∧ cmpSpec (decVal d) (val (trimWs s)) = .eq := by
  obtain ⟨hn, t, hv⟩ := parse_ok true s d h
  have e : scaleUp (decVal d) 0 = decVal d := by simp [scaleUp]
  have := cmpSpec_scaleUp (decVal d) (decVal d) 0 t
  rw [e, cmpSpec_refl] at this
  exact ⟨hn, by rw [hv, this]⟩

/-- `compareValues` / `toCompare` is the order of the values, whatever the lexical forms. -/
theorem decimal_compare_value (x y : List Char) (dx dy : BigDecimal)
    (hx : parseDecimal x = .ok dx) (hy : parseDecimal y = .ok dy) :
    toCompare dx dy = ordInt (cmpSpec (val (trimWs x)) (val (trimWs y))) := by
  obtain ⟨hnx, tx, hvx⟩ := parse_ok true x dx hx
  obtain ⟨hny, ty, hvy⟩ := parse_ok true y dy hy
  rw [hvx, hvy, cmpSpec_scaleUp]
  exact toCompare_spec dx dy hnx hny

/-- reflexive: every value compares EQUAL to itself, and to any other lexical form of the same value -/
theorem decimal_compare_refl (x x' : List Char) (dx dx' : BigDecimal)
    (hx : parseDecimal x = .ok dx) (hx' : parseDecimal x' = .ok dx')
    (he : cmpSpec (val (trimWs x)) (val (trimWs x')) = .eq) : toCompare dx dx' = 0 ∧ toCompare dx dx = 0 := by
  constructor
  · rw [decimal_compare_value x x' dx dx' hx hx', he]; rfl
  · rw [decimal_compare_value x x dx dx hx hx, cmpSpec_refl]; rfl

/-- antisymmetric: swapping the arguments of `toCompare` negates the result -/
theorem decimal_compare_antisymm (x y : List Char) (dx dy : BigDecimal)
    (hx : parseDecimal x = .ok dx) (hy : parseDecimal y = .ok dy) :
    toCompare dy dx = - toCompare dx dy := by
  rw [decimal_compare_value y x dy dx hy hx, decimal_compare_value x y dx dy hx hy, cmpSpec_swap]
  cases cmpSpec (val (trimWs x)) (val (trimWs y)) <;> rfl

/-- transitive (≤ with ≤ gives ≤; if one of them is strict, so is the result) -/
theorem decimal_compare_trans (x y z : List Char) (dx dy dz : BigDecimal)
    (hx : parseDecimal x = .ok dx) (hy : parseDecimal y = .ok dy) (hz : parseDecimal z = .ok dz)
    (h1 : toCompare dx dy ≤ 0) (h2 : toCompare dy dz ≤ 0) :
    toCompare dx dz ≤ 0 ∧ (toCompare dx dy < 0 ∨ toCompare dy dz < 0 → toCompare dx dz < 0) := by
  rw [decimal_compare_value x y dx dy hx hy] at h1 ⊢
  rw [decimal_compare_value y z dy dz hy hz] at h2 ⊢
  rw [decimal_compare_value x z dx dz hx hz]
  -- `ordInt (cmpSpec a b)` is `decCmp a b`, which obeys the order laws
  exact XV.Lemmas.Facets.decLaws.le_chain _ _ _ h1 h2

/-- equal values compare alike against everything, whatever their lexical form -/
theorem decimal_compare_lexical_independent (x x' y : List Char) (dx dx' dy : BigDecimal)
    (hx : parseDecimal x = .ok dx) (hx' : parseDecimal x' = .ok dx') (_hy : parseDecimal y = .ok dy)
    (he : cmpSpec (val (trimWs x)) (val (trimWs x')) = .eq) :
    toCompare dx dy = toCompare dx' dy ∧ dx = dx' := by
  have h0 := (decimal_compare_refl x x' dx dx' hx hx' he).1
  have e := toCompare_eq_zero dx dx' (decimal_value x dx hx).1 (decimal_value x' dx' hx').1 h0
  exact ⟨by rw [e], e⟩

/-- The canonical representation is a valid, canonical lexical form (and needs no white-space processing). -/
theorem canonical_valid (s c : List Char) (h : canonical s = some c) :
    isDecimalLex c = true ∧ isCanonicalDecimal c = true ∧ trimWs c = c := by
  obtain ⟨d, hp, rfl⟩ := canonical_some s c h
  have hn := (parse_ok true s d hp).1
  exact ⟨(canon_lex d hn).1, (canon_lex d hn).2, (canon_trim d hn).1⟩

/-- The canonical representation denotes the value of the string it was computed from. -/
theorem canonical_value (s c : List Char) (h : canonical s = some c) :
    cmpSpec (val c) (val (trimWs s)) = .eq := by
  obtain ⟨d, hp, rfl⟩ := canonical_some s c h
  obtain ⟨hn, t, hv⟩ := parse_ok true s d hp
  obtain ⟨u, hu⟩ := canon_val d hn
  rw [hu, hv, cmpSpec_scaleUp]
  exact cmpSpec_refl _

/-- The canonical representation is a fixed point of `getCanonicalRepresentation`. -/
theorem canonical_idempotent (s c : List Char) (h : canonical s = some c) : canonical c = some c := by
  obtain ⟨d, hp, rfl⟩ := canonical_some s c h
  unfold canonical canonicalG
  rw [parse_canon d (parse_ok true s d hp).1]

/-- Values that compare EQUAL have the same canonical representation, and conversely
(the fact the identity-constraint hash table of C10 relies on). -/
theorem eq_same_canonical (x y : List Char) (dx dy : BigDecimal)
    (hx : parseDecimal x = .ok dx) (hy : parseDecimal y = .ok dy) :
    toCompare dx dy = 0 ↔ canonical x = canonical y := by
  have hnx := (parse_ok true x dx hx).1
  have hny := (parse_ok true y dy hy).1
  unfold parseDecimal at hx hy
  unfold canonical canonicalG
  -- both sides say `dx = dy`: normal records are unique per value, and the canonical form is read back as the record
  rw [hx, hy, toCompare_eq_zero_iff hnx hny]
  exact ⟨fun e => by rw [e], fun h => canonOf_inj hnx hny (Option.some.inj h)⟩

/-- totalDigits and fractionDigits as computed by `parseDecimal` are the E2-44 / §4.3.12 quantities:
`scale ≤ fd` iff the value is `i·10^-n` for some `n ≤ fd`; `totalDigits ≤ td` iff the value is `i·10^-n` with
`|i| < 10^td` and `n ≤ td` (what DecimalDatatypeValidator::checkContent tests). -/
theorem digits_facets_spec (s : List Char) (d : BigDecimal) (h : parseDecimal s = .ok d) (td fd : Nat) :
    (d.scale ≤ fd ↔ fractionDigitsOk (val (trimWs s)) fd) ∧
    (d.totalDigits ≤ td ↔ totalDigitsOk (val (trimWs s)) td) := by
  obtain ⟨hn, t, hv⟩ := parse_ok true s d h
  rw [hv]
  exact ⟨fractionDigits_spec d hn t fd, totalDigits_spec d hn t td⟩

/-- accepted iff in the lexical space of xs:integer after white-space processing -/
theorem integer_lexical (s : List Char) :
    (∃ r, parseBigInteger s = .ok r) ↔ isIntegerLex (trimWs s) = true :=
  trim_accepts parseIntBody isIntegerLex rfl (fun b hb => (parseIntBody_spec b hb).1) s

/-- `compareValues` is the order of the integer values -/
theorem integer_compare_value (x y : List Char) (rx ry : Int × List Char)
    (hx : parseBigInteger x = .ok rx) (hy : parseBigInteger y = .ok ry) :
    (rx.1 * ((natOf rx.2 : Nat) : Int) = intVal (trimWs x)) ∧
    compareValuesInt rx ry =
      (if intVal (trimWs x) < intVal (trimWs y) then -1 else if intVal (trimWs y) < intVal (trimWs x) then 1 else 0) := by
  obtain ⟨hnx, hvx⟩ := parseInt_spec x rx hx
  obtain ⟨hny, hvy⟩ := parseInt_spec y ry hy
  refine ⟨hvx.symm, ?_⟩
  rw [compareValuesInt_eq rx ry hnx, toCompare_spec _ _ (asDec_normal rx hnx) (asDec_normal ry hny), ordInt_cmpSpec, hvx,
    hvy]
  simp only [decVal, asDec, Int.pow_zero, Int.mul_one]

/-- the canonical representation of an integer is a fixed point and a valid lexical form -/
theorem integer_canonical_idempotent (s c : List Char) (h : canonicalInt s = some c) :
    canonicalInt c = some c ∧ isIntegerLex (trimWs c) = true := by
  obtain ⟨r, hp, rfl⟩ := canonicalInt_some s c h
  have hc := parseInt_canonOf r (parseInt_spec s r hp).1
  exact ⟨canonicalInt_ok _ r hc, (integer_lexical _).mp ⟨r, hc⟩⟩

section Codecs
open XV.Spec.Codec XV.Model.Codec XV.Lemmas.Codec XV.Gen.Codec

/-- The generated tables and constants say what RFC 2045 Table 1 and the hex digits need them to say: the two
character-to-value tables and the alphabet are the Spec's functions (conjuncts 1–3), of the shift and mask lists
`split1st` and `set1st` give the Spec's arithmetic (7, 8; the other four: `split2_spec` … `set3_spec` in Lemmas/Codec), the
constants are the Spec's.  Conjuncts 4–6 are about the Spec alone: its value table inverts its alphabet, B04 and B16 are
tests on the value. -/
theorem codec_tables_spec :
    (∀ c, c < 255 → hexNum c = (hexDigitVal c).getD 0xFF) ∧
    (∀ c, c < 255 → XV.Model.Codec.inv c = (b64Val c).getD 0xFF) ∧
    (∀ v, v < 64 → alpha v = b64Char v) ∧
    (∀ v, v < 64 → b64Val (b64Char v) = some v) ∧
    (∀ c, c < 256 → isB04 c = (match b64Val c with | some v => v % 16 == 0 | none => false)) ∧
    (∀ c, c < 256 → isB16 c = (match b64Val c with | some v => v % 4 == 0 | none => false)) ∧
    (∀ a, a < 256 → split1stOctet a = (a / 4, a % 4 * 16)) ∧
    (∀ v1, v1 < 64 → ∀ v2, v2 < 64 → set1stOctet v1 v2 = (v1 * 4 + v2 / 16) % 256) ∧
    (hexBaseLength = 255 ∧ b64BaseLength = 255 ∧ fourByte = 4 ∧ base64Padding = XV.Spec.Codec.pad ∧
      quadsPerLine = 15 ∧ chLF = 0xA ∧ chSpace = sp ∧ pad2Mask = 15 ∧ pad1Mask = 3) :=
  ⟨hexNum_spec, inv_spec, alpha_spec, b64_inverse, isB04_spec, isB16_spec, fun a _ => split1_spec a,
    fun v1 _ v2 h2 => set1_spec v1 v2 h2, consts_spec⟩

/-- `isArrayByteHex` (hence `getDataLength ≠ -1`, hence validity) is exactly the lexical space of hexBinary. -/
theorem hex_valid_iff (s : List Nat) : isArrayByteHex s = isHexLex s := by
  rw [isArrayByteHex_eq, hexValue_isSome]

/-- decode ∘ canonical-encode = id on every non-empty octet string (the C++ returns 0 for the empty string). -/
theorem hex_roundtrip (bs : List Nat) (h : AllBytes bs) (hne : bs ≠ []) :
    hexDecode (hexEncode bs) = some bs ∧ isArrayByteHex (hexEncode bs) = true := by
  rw [hexDecode_eq, isArrayByteHex_eq, hexValue_encode bs h]
  cases bs with
  | nil => exact absurd rfl hne
  | cons b r => exact ⟨rfl, rfl⟩

/-- whatever `decodeToXMLByte` returns is the value of the lexical form, and `getCanonicalRepresentation` (the upper-casing)
returns the canonical encoding of that value -/
theorem hex_decode_sound (s bs : List Nat) (h : hexDecode s = some bs) :
    isHexLex s = true ∧ hexValue s = some bs ∧ AllBytes bs ∧ hexCanonical s = some (hexEncode bs) := by
  rw [hexDecode_eq] at h
  split at h
  · cases h
  · exact ⟨by rw [← hexValue_isSome, h]; rfl, h, (hex_upper s bs h).2, by rw [hexCanonical_eq, h]; rfl⟩

/-- the canonical representation is a valid lexical form and a fixed point -/
theorem hex_canonical_idempotent (s c : List Nat) (h : hexCanonical s = some c) :
    isHexLex c = true ∧ hexCanonical c = some c := by
  rw [hexCanonical_eq] at h
  obtain ⟨bs, hbs, rfl⟩ := Option.map_eq_some_iff.mp h
  have hv := hexValue_encode bs (hex_upper s bs hbs).2
  exact ⟨by rw [← hexValue_isSome, hv]; rfl, by rw [hexCanonical_eq, hv]; rfl⟩

/-- `Base64::decode(Base64::encode(bs)) = bs` for every non-empty octet string (RFC 2045 mode: `encode`
breaks lines every 15 quartets), and the canonical form produced on the way is the Spec's. -/
theorem base64_roundtrip (bs : List Nat) (h : AllBytes bs) (hne : bs ≠ []) :
    ∃ e, encode bs = some e ∧ decode .rfc2045 e = some (bs, b64Encode bs) := by
  have hlen : ¬ ((bs.length + 2) / 3 == 0) = true := by
    have : 0 < bs.length := List.length_pos_iff.mpr hne
    simp; omega
  refine ⟨encodeLoop bs 1, by unfold encode; rw [if_neg hlen], ?_⟩
  rw [decode_rfc, encodeLoop_strip bs h 1, decodeQuads_encode bs h hne]
  rfl

/-- the canonical lexical form decodes to the octets it encodes, in schema mode as well -/
theorem base64_roundtrip_schema (bs : List Nat) (h : AllBytes bs) (hne : bs ≠ []) :
    decode .schema (b64Encode bs) = some (bs, b64Encode bs) ∧ isBase64Lex (b64Encode bs) = true :=
  ⟨decode_canonical .schema bs h hne, decode_schema_lex _ _ (decode_canonical .schema bs h hne)⟩

/-- Anything accepted is — modulo the white space the mode allows — the canonical encoding of the returned
octets: nothing else is ever decoded.  In schema mode the accepted string is in the E2-54 lexical space. -/
theorem base64_decode_sound (s bs can : List Nat) :
    (decode .rfc2045 s = some (bs, can) →
      can = b64Encode bs ∧ AllBytes bs ∧ bs ≠ [] ∧ can = s.filter (fun c => !XV.Model.Codec.isWhitespace c)) ∧
    (decode .schema s = some (bs, can) →
      can = b64Encode bs ∧ AllBytes bs ∧ bs ≠ [] ∧ can = unspace s ∧ isBase64Lex s = true) := by
  constructor
  · intro h
    rw [decode_rfc, decoded_iff] at h
    exact ⟨h.2.2.2, h.2.1, h.2.2.1, h.1⟩
  · intro h
    have hl := decode_schema_lex s _ h
    rw [decode_schema] at h
    split at h
    · rw [decoded_iff] at h
      exact ⟨h.2.2.2, h.2.1, h.2.2.1, h.1, hl⟩
    · cases h

/-- The repaired `decodeToXMLByte` accepts exactly the non-empty strings of the E2-54 lexical space. -/
theorem base64_schema_iff (s : List Nat) :
    (decodeX true .schema s).isSome = true ↔ (isBase64Lex s = true ∧ s ≠ []) := by
  rw [decodeX_repaired, decode_schema_isSome, Bool.and_eq_true, and_comm]
  simp only [Bool.not_eq_true', List.isEmpty_eq_false_iff]

/-- the canonical form returned by a successful decode is a fixed point of the decoder (either mode) -/
theorem base64_canonical_idempotent (conf : Conformance) (s bs can : List Nat) (h : decode conf s = some (bs, can)) :
    decode conf can = some (bs, can) := by
  cases conf with
  | rfc2045 =>
    obtain ⟨a, b, c, _⟩ := (base64_decode_sound s bs can).1 h
    rw [a]; exact decode_canonical .rfc2045 bs b c
  | schema =>
    obtain ⟨a, b, c, _⟩ := (base64_decode_sound s bs can).2 h
    rw [a]; exact decode_canonical .schema bs b c

/-- The code as it stands narrows every XMLCh with `(XMLByte)`: U+0141 U+0051 '=' '=' is accepted as "AQ==",
and U+0100 cuts the string like a terminator — neither string is in the lexical space. -/
theorem base64_narrowing_orig_fails :
    decodeX false .schema [0x141, 0x51, 0x3D, 0x3D] = some ([1], [0x41, 0x51, 0x3D, 0x3D]) ∧
    isBase64Lex [0x141, 0x51, 0x3D, 0x3D] = false ∧
    decodeX false .schema [0x41, 0x51, 0x3D, 0x3D, 0x100, 0x78, 0x78] = some ([1], [0x41, 0x51, 0x3D, 0x3D]) ∧
    isBase64Lex [0x41, 0x51, 0x3D, 0x3D, 0x100, 0x78, 0x78] = false ∧
    decodeX true .schema [0x141, 0x51, 0x3D, 0x3D] = none := by
  refine ⟨by decide +kernel, by decide +kernel, by decide +kernel, by decide +kernel, by decide +kernel⟩

end Codecs

section WsBool
open XV.Spec.Ws XV.Model.Ws XV.Lemmas.Ws XV.Lemmas.Trim XV.Gen.Codec

/-- `XMLString::replaceWS` is §4.3.6 replace; it is idempotent -/
theorem replace_spec (s : List Nat) : replaceWS s = replaceSpec s ∧ replaceWS (replaceWS s) = replaceWS s := by
  refine ⟨replace_eq s, ?_⟩
  apply replaced_id
  rw [replace_eq, isWSReplaced_iff]; exact replaceSpec_ok s

/-- `XMLString::collapseWS` is §4.3.6 collapse: the space-free tokens of the replaced string joined by single #x20 -/
theorem collapse_spec (s : List Nat) : collapseWS s = collapseSpec s := by
  obtain ⟨pre, post, hs, hpre, hpost, hh, hl⟩ := trim_split isSpaceCh (replaceSpec s)
  rw [collapseWS_eq, collapseSpec, tokens]
  conv => rhs; rw [hs, tokensAux_leading _ _ hpre, tokensAux_trailing _ _ hpost]
  exact (body_tokens _ ((ne_sp_iff _).mp hh) ((ne_sp_iff _).mp hl)).symm

/-- collapse is idempotent (a collapsed string is a fixed point, and every output is collapsed) -/
theorem collapse_idempotent (s : List Nat) : collapseWS (collapseWS s) = collapseWS s := by
  exact collapse_fix _ (collapse_collapsed s)

/-- collapsing after replacing changes nothing (the order the scanner may apply them in does not matter) -/
theorem collapse_after_replace (s : List Nat) : collapseWS (replaceWS s) = collapseWS s := by
  rw [collapse_spec, collapse_spec]
  unfold collapseSpec
  rw [← replace_eq, ← replace_eq, (replace_spec s).2]

/-- boolean: a string is found in the value space table (`boolIndex`; the table is {false, true, 0, 1}, inside the proof)
iff it is one of the four lexical forms; the canonical form is `true` / `false`, of the same value, and a fixed point;
`compare` is value equality. -/
theorem boolean_spec (s : List Nat) :
    ((boolIndex s).isSome = (boolLex s).isSome) ∧
    (∀ b, boolLex s = some b → boolCanonical s = some (boolCanon b) ∧ boolLex (boolCanon b) = some b ∧
        boolCanonical (boolCanon b) = some (boolCanon b)) ∧
    (∀ t a b, boolLex s = some a → boolLex t = some b → (boolCompare s t = 0 ↔ a = b)) := by
  have hv : booleanValueSpace = [[0x66, 0x61, 0x6C, 0x73, 0x65], [0x74, 0x72, 0x75, 0x65], [0x30], [0x31]] := by decide
  -- the two lexical forms of each value
  have key : ∀ (x : List Nat) (b : Bool), boolLex x = some b → x = boolCanon b ∨ x = if b then [0x31] else [0x30] := by
    intro x b h
    unfold boolLex at h
    split at h
    · injection h with h; subst h; assumption
    · split at h
      · injection h with h; subst h; assumption
      · cases h
  refine ⟨?_, ?_, ?_⟩
  · unfold boolIndex boolLex
    rw [hv, List.findIdx?_isSome]
    simp only [List.any_cons, List.any_nil, Bool.or_false]
    split
    · rename_i h; rcases h with rfl | rfl <;> rfl
    · split
      · rename_i h; rcases h with rfl | rfl <;> rfl
      · rename_i h1 h2
        simp only [not_or] at h1 h2
        simp [Ne.symm h1.1, Ne.symm h1.2, Ne.symm h2.1, Ne.symm h2.2]
  · intro b hb
    cases b <;> rcases key s _ hb with e | e <;> subst e <;> decide
  · intro t a b ha hb
    cases a <;> cases b <;> rcases key s _ ha with e | e <;> rcases key t _ hb with f | f <;> subst e <;> subst f <;>
      decide

end WsBool

/-! ## date/time family (XMLDateTime) — partial

Modelled code-shaped: validateDateTime, normalize, compareOrder, compare.  The field parsers are represented by the
Spec's lexical recogniser (tied to the code by the correspondence harness only), fractional seconds are digit strings
(a double in the C++); xs:duration has its own section below.  Hence the `_partial` names; the full statements are in the
comments.  Instants and zone offsets are `instantDT`, `shiftMin` of Lemmas/DateTime, on the model's fields: no theorem ties
them to the Spec's `instant` / `specOrder`, none produces `Zoned` from a validated parse (`rollover24`, `parseK`), and of the
14-hour rule (`getRetVal`, `compareResult`) there is only the evaluated pair of `datetime_orig_fails`. -/
section DateTime
open XV.Spec.DateTime XV.Model.DateTime XV.Lemmas.DateTime

/-- `validateDateTime` accepts the parsed fields iff they satisfy §3.2.7.1: year ≠ 0, month 1–12, day within the month
(leap years by the year value), hour ≤ 23 or 24:00:00(.0*), minute ≤ 59, second ≤ 60, time zone within ±14:00. -/
theorem datetime_valid_iff (k : Kind) (r : Raw) : validateDateTime (ofRaw k r) = valid r := by
  rw [Bool.eq_iff_iff, validate_iff]
  unfold ValidFields
  obtain ⟨e1, e2, e3, e4, e5, e6, e7⟩ := ofRaw_fields k r
  rw [e1, e2, e3, e4, e5, e6, e7, ofRaw_tz]
  unfold valid
  simp only [Bool.and_eq_true, decide_eq_true_eq, bne_iff_ne, ne_eq, Bool.or_eq_true, beq_iff_eq]
  -- both sides are linear arithmetic in the fields, but for two tests that both contain as they stand
  rw [dim_of, ← daysInMonth_dim]
  by_cases hf : (r.frac.all (· == 0)) = true <;> by_cases ht : tzValid r.tz = true <;>
    simp only [hf, ht, Bool.false_eq_true, and_true, and_false, or_false, imp_false, iff_self] <;> omega

/-- Full statement: for every lexical form, the value after `normalize` is the same instant of the time line.
Proved here for the fields `normalize` receives after validation (and after the 24:00:00 roll-over of the repaired
parser): the result is in UTC, every field is back in range (month 1–12, day within the month — across month, year
and leap-day boundaries —, hour 0–23, minute 0–59), seconds/fraction are untouched, and the instant is the local time
minus the zone offset.  Year arithmetic is linear (XSD 1.0 Appendix E): a carry may produce the year 0. -/
theorem normalize_preserves_instant_partial (d : DT) (h : Zoned d) :
    (normalize d).utc = UTC_STD ∧ (normalize d).second = d.second ∧ (normalize d).ms = d.ms ∧
    (normalize d).hasTime = d.hasTime ∧
    1 ≤ (normalize d).month ∧ (normalize d).month ≤ 12 ∧
    1 ≤ (normalize d).day ∧ (normalize d).day ≤ maxDayInMonthFor (normalize d).year (normalize d).month ∧
    0 ≤ (normalize d).hour ∧ (normalize d).hour ≤ 23 ∧ 0 ≤ (normalize d).minute ∧ (normalize d).minute ≤ 59 ∧
    instantDT (normalize d) = instantDT d + shiftMin d * 60 := by
  obtain ⟨zh, zm, hzh, hzm, hshift, e⟩ := normalize_zoned d h
  rw [e, hshift]
  have hmo := h.month; have hmin := h.minute; have hhr := h.hour; have hday := h.day
  have hb := dim_range (isLeap d.year) d.month.toNat
  rw [show d.month = (d.month.toNat : Int) by omega, dim_of] at hday
  -- `normalize d` settles the fields of `d` with the offset added to hour and minute; at most a day is carried
  obtain ⟨y, m, dd, hm, hd, e, hi⟩ := settle_spec 4 { d with minute := d.minute + zm, hour := d.hour + zh }
    (by rw [carry_day]; simp only; omega)
  rw [e] at hi ⊢
  simp only [instantDT, dn, ← dn_idx d hmo] at hi ⊢
  exact ⟨trivial, trivial, trivial, trivial, hm.1, hm.2, hd.1, hd.2, by omega, by omega, by omega, by omega, by omega⟩

/-- Full statement: `compare a b = r → r ≠ INDETERMINATE → specOrder a b = r`, for seconds ≤ 59: the code compares field
by field, so 23:59:60 comes before 00:00:00 of the next day, which the Spec's `instant` makes equal to it.
Proved here for the determinate case proper: two values in normal range (what `normalize` and the roll-over leave;
second ≤ 59) that are both zoned or both unzoned compare as their instants on the time line, then by fractional seconds.
(With `l.utc = r.utc`, `compare` is `compareOrder` whatever the flag.) -/
theorem compare_spec_partial (l r : DT) (hl : InRange l) (hr : InRange r) (hu : l.utc = r.utc) :
    XV.Model.DateTime.compare true l r =
      if instantDT l < instantDT r then -1
      else if instantDT r < instantDT l then 1
      else if l.hasTime then cmpMs l.ms r.ms else 0 := by
  unfold XV.Model.DateTime.compare
  have : (l.utc == r.utc) = true := by rw [hu]; simp
  rw [if_pos this]
  exact compareOrder_inrange l r hl hr hu

/-- Full statement: the determinate results of `compare` obey the order laws.  Proved here for `compareOrder` (which is
`compare` on equal zonedness) on values in normal range with equal zonedness and no fractional seconds: a value is EQUAL
to itself, swapping the arguments negates the result, ≤ is transitive, and < if either step is. -/
theorem datetime_trans_partial (a b c : DT) (ha : InRange a) (hb : InRange b) (hc : InRange c)
    (hab : a.utc = b.utc) (hbc : b.utc = c.utc) (fa : a.ms = []) (fb : b.ms = []) (fc : c.ms = []) :
    compareOrder a a = 0 ∧ compareOrder b a = - compareOrder a b ∧
    (compareOrder a b ≤ 0 → compareOrder b c ≤ 0 → compareOrder a c ≤ 0 ∧
      (compareOrder a b < 0 ∨ compareOrder b c < 0 → compareOrder a c < 0)) := by
  -- on such values `compareOrder` is `intCmp` of the instants, whose laws are those of the integers
  have key : ∀ x y : DT, InRange x → InRange y → x.utc = y.utc → x.ms = [] → y.ms = [] →
      compareOrder x y = XV.Lemmas.Facets.intCmp (instantDT x) (instantDT y) := fun x y hx hy hu fx fy => by
    rw [compareOrder_inrange x y hx hy hu, fx, fy, show cmpMs [] [] = 0 from rfl, ite_self]; rfl
  rw [key a a ha ha rfl fa fa, key b a hb ha hab.symm fb fa, key a b ha hb hab fa fb, key b c hb hc hbc fb fc,
    key a c ha hc (hab.trans hbc) fa fc]
  have ab := XV.Lemmas.Facets.intCmp_cases (instantDT a) (instantDT b)
  have ba := XV.Lemmas.Facets.intCmp_cases (instantDT b) (instantDT a)
  have aa := XV.Lemmas.Facets.intCmp_cases (instantDT a) (instantDT a)
  exact ⟨by omega, by omega, XV.Lemmas.Facets.intLaws.le_chain _ _ _⟩

/-- The code as it stands (`repaired = false`): 24:00:00 is not brought to the following day unless a time zone is
present, so two lexical forms of one instant compare LESS; and a zoned and an unzoned value exactly 14 hours apart
compare EQUAL where §3.2.7.4 says indeterminate.  The repaired model agrees with the Spec on both. -/
theorem datetime_orig_fails :
    let s (x : String) : List Nat := x.toList.map Char.toNat
    (∃ a b, parseK false .dateTime (s "2000-01-01T24:00:00") = some a ∧ parseK false .dateTime (s "2000-01-02T00:00:00") = some b ∧
        XV.Model.DateTime.compare false a b = -1) ∧
    (∃ ra rb, parse .dateTime (s "2000-01-01T24:00:00") = some ra ∧ parse .dateTime (s "2000-01-02T00:00:00") = some rb ∧
        specOrder .dateTime ra rb = .eq) ∧
    (∃ a b, parseK true .dateTime (s "2000-01-01T24:00:00") = some a ∧ parseK true .dateTime (s "2000-01-02T00:00:00") = some b ∧
        XV.Model.DateTime.compare true a b = 0) ∧
    (∃ a b, parseK false .time (s "02:00:00Z") = some a ∧ parseK false .time (s "16:00:00") = some b ∧
        XV.Model.DateTime.compare false a b = 0 ∧ XV.Model.DateTime.compare true a b = INDETERMINATE) ∧
    (∃ ra rb, parse .time (s "02:00:00Z") = some ra ∧ parse .time (s "16:00:00") = some rb ∧
        specOrder .time ra rb = .indeterminate) := by
  intro s
  -- the parsed values are named, so that every conjunct is one closed evaluation
  exact ⟨⟨⟨2000, 1, 1, 24, 0, 0, [], 0, 0, 0, true⟩, ⟨2000, 1, 2, 0, 0, 0, [], 0, 0, 0, true⟩, by decide +kernel⟩,
    ⟨⟨2000, 1, 1, 24, 0, 0, [], .none⟩, ⟨2000, 1, 2, 0, 0, 0, [], .none⟩, by decide +kernel⟩,
    ⟨⟨2000, 1, 2, 0, 0, 0, [], 0, 0, 0, true⟩, ⟨2000, 1, 2, 0, 0, 0, [], 0, 0, 0, true⟩, by decide +kernel⟩,
    ⟨⟨2000, 1, 15, 2, 0, 0, [], 1, 0, 0, true⟩, ⟨2000, 1, 15, 16, 0, 0, [], 0, 0, 0, true⟩, by decide +kernel⟩,
    ⟨⟨2000, 1, 15, 2, 0, 0, [], .utc⟩, ⟨2000, 1, 15, 16, 0, 0, [], .none⟩, by decide +kernel⟩⟩

end DateTime

/-! ## constraining facets, restriction chains, list, union

Models (XV.Model.Facets, code-shaped): AbstractNumericFacetValidator::inspectFacet / inspectFacetBase / inheritFacet,
AbstractNumericValidator::boundsCheck, DecimalDatatypeValidator digits facets and enumeration, AbstractStringValidator
length facets, List/UnionDatatypeValidator::checkContent.  The value space is abstract (`cmp`, digit counts, length);
`decLaws` / `intLaws` instantiate the order laws for decimal values (`XV.Spec.Decimal.cmpSpec`) and for integers, which is
what the instants of the time line are (date/time values in normal range with equal zonedness compare as their instants:
`compare_spec_partial`; the instance for such values themselves is not stated). -/
section Facets
open XV.Spec.Facets XV.Model.Facets XV.Lemmas.Facets
variable {V : Type} (cmp : V → V → Int) (dg : V → Nat × Nat) (len : V → Nat)

/-- `boundsCheck` + digits + enumeration are §4.3: maxInclusive is ≤, maxExclusive is <, minInclusive is ≥,
minExclusive is >, totalDigits / fractionDigits bound the digit counts, enumeration is value equality.  `hl`: `stepOk` also
holds the length facets, which `checkNumeric` does not test.  Of the order laws only totality is used. -/
theorem bounds_spec (L : OrderLaws cmp) (f : Step V) (v : V)
    (hl : f.length = none ∧ f.minLength = none ∧ f.maxLength = none) :
    checkNumeric cmp dg f v = true ↔ stepOk cmp dg len f v := by
  obtain ⟨l1, l2, l3⟩ := hl
  -- an inclusive bound: "not greater" is "less or equal", by totality
  have le : ∀ m, (cmp v m != 1) = true ↔ cmp v m = -1 ∨ cmp v m = 0 := fun m => by
    have := L.total v m; rw [bne_iff_ne]; omega
  have ge : ∀ m, (cmp v m != -1) = true ↔ cmp v m = 1 ∨ cmp v m = 0 := fun m => by
    have := L.total v m; rw [bne_iff_ne]; omega
  rw [checkNumeric_parts]
  unfold enumPart maxPart minPart digitsPart stepOk
  simp only [Bool.and_eq_true, Option.all_eq_true, l1, l2, l3, le, ge, beq_iff_eq, List.any_eq_true, Bool.not_eq_true',
    decide_eq_false_iff_not, Nat.not_lt, gt_iff_lt, reduceCtorEq, false_imp_iff, implies_true, true_and]
  exact ⟨fun ⟨⟨he, ⟨hxe, hxi⟩, hne, hni⟩, hfd, htd⟩ => ⟨hxi, hxe, hni, hne, htd, hfd, he⟩,
    fun ⟨hxi, hxe, hni, hne, htd, hfd, he⟩ => ⟨⟨he, ⟨hxe, hxi⟩, hne, hni⟩, hfd, htd⟩⟩

-- `hwf` is not needed: each bound of the base is implied by whichever bound the step declares on that side.  Nor is
-- `hdg`: a member of the step's enumeration has to pass only the enumeration of the base (`enumPart_override`)
set_option linter.unusedVariables false in
/-- Along a chain of restriction steps of ANY length that the derivation checks accept (`validFrom`: inspectFacet and
inspectFacetBase at every step), the facet set `inheritFacet` leaves in force accepts a value iff the starting type
and EVERY step accept it: inheritance drops a base bound only when the step's own bound implies it. -/
theorem inherit_eq_conjunction (L : OrderLaws cmp) (hdg : ∀ a e, cmp a e = 0 → dg a = dg e)
    (base : Step V) (steps : List (Step V)) (hwf : WF base) (hv : validFrom cmp dg base steps = true) (v : V) :
    checkNumeric cmp dg (effective base steps) v = true ↔
      (checkNumeric cmp dg base v = true ∧ ∀ s ∈ steps, checkNumeric cmp dg s v = true) := by
  rw [chain_conj cmp dg L steps base hv v]
  simp [List.all_eq_true]

/-- the same for decimal values ordered by `cmpSpec` (what DecimalDatatypeValidator compares) -/
theorem inherit_eq_conjunction_decimal (dgd : Int × Nat → Nat × Nat) (hdg : ∀ a e, decCmp a e = 0 → dgd a = dgd e)
    (steps : List (Step (Int × Nat))) (hv : validFrom decCmp dgd {} steps = true) (v : Int × Nat) :
    checkNumeric decCmp dgd (effective {} steps) v = true ↔ ∀ s ∈ steps, checkNumeric decCmp dgd s v = true := by
  rw [inherit_eq_conjunction decCmp dgd decLaws hdg {} steps (by simp [WF]) hv v]
  simp [checkNumeric, boundsCheck]

/-- a derived type accepts a subset of what its base accepts -/
theorem restriction_monotone (L : OrderLaws cmp) (hdg : ∀ a e, cmp a e = 0 → dg a = dg e)
    (base : Step V) (steps : List (Step V)) (t : Step V) (hwf : WF base)
    (hv : validFrom cmp dg base (steps ++ [t]) = true) (v : V)
    (h : checkNumeric cmp dg (effective base (steps ++ [t])) v = true) :
    checkNumeric cmp dg (effective base steps) v = true := by
  have hv' : validFrom cmp dg base steps = true := by
    rw [validFrom_append, Bool.and_eq_true] at hv; exact hv.1
  rw [inherit_eq_conjunction cmp dg L hdg base (steps ++ [t]) hwf hv v] at h
  rw [inherit_eq_conjunction cmp dg L hdg base steps hwf hv' v]
  exact ⟨h.1, fun s hs => h.2 s (List.mem_append_left _ hs)⟩

-- `hlen` is not needed, as `hdg` above
set_option linter.unusedVariables false in
/-- string types: length / minLength / maxLength / enumeration along a chain of any length -/
theorem length_inherit_eq_conjunction (hcmp : ∀ a e c, cmp a e = 0 → cmp a c = cmp e c)
    (hlen : ∀ a e, cmp a e = 0 → len a = len e) (base : Step V) (steps : List (Step V))
    (hv : validFromS cmp len base steps = true) (v : V) :
    checkString cmp len (effectiveS base steps) v = true ↔
      (checkString cmp len base v = true ∧ ∀ s ∈ steps, checkString cmp len s v = true) := by
  rw [chain_conj_S cmp len hcmp steps base hv v]
  simp [List.all_eq_true]

/-- list: every white-space separated item valid for the item type, and the length facets count the items -/
theorem list_iff (item : List Nat → Bool) (f : Step (List (List Nat))) (tokens : List (List Nat)) :
    listCheck item f tokens = true ↔
      listOk (fun it => item it = true)
        (fun n => (∀ k, f.maxLength = some k → n ≤ k) ∧ (∀ k, f.minLength = some k → k ≤ n) ∧ (∀ k, f.length = some k → n = k))
        tokens := by
  -- each optional length facet is an `Option.all`
  have parts : listCheck item f tokens = (tokens.all item && f.maxLength.all (fun n => !(tokens.length > n)) &&
      f.minLength.all (fun n => !(tokens.length < n)) && f.length.all (fun n => tokens.length == n)) := by
    unfold listCheck; cases f.maxLength <;> cases f.minLength <;> cases f.length <;> rfl
  rw [parts]
  simp only [listOk, Bool.and_eq_true, List.all_eq_true, Option.all_eq_true, Bool.not_eq_true', decide_eq_false_iff_not,
    Nat.not_lt, gt_iff_lt, beq_iff_eq, and_assoc]

/-- union: the member loop returns the FIRST member type that accepts; the value is valid iff some member accepts -/
theorem union_iff (members : List (List Nat → Bool)) (s : List Nat) :
    unionCheck members s = unionMember members s ∧ ((unionCheck members s).isSome = true ↔ unionOk members s) := by
  have e : unionCheck members s = unionMember members s := unionCheck_eq members s
  refine ⟨e, ?_⟩
  rw [e]; unfold unionMember unionOk
  rw [List.findIdx?_isSome]; simp

end Facets

/-! ## xs:duration (XMLDateTime::parseDuration, addDuration, compare(…, strict))

Spec (XV.Spec.Duration): lexical space of §3.2.6.1, value (months, seconds), the partial order of §3.2.6.2 through the
four reference dateTimes.  Model (XV.Model.Duration, code-shaped): parseDuration on the buffer indices, addDuration for
DATETIMES[0..3], compareResult, compare. -/
section Duration
open XV.Model.DateTime XV.Model.Duration XV.Spec.DateTime XV.Spec.Duration XV.Lemmas.Duration

/-- `compare(a, b, strict)` is determinate exactly when the four reference comparisons agree, and then it is their
common value; as soon as two of them differ it is INDETERMINATE — all four reference dateTimes are consulted. -/
theorem duration_indeterminate_iff (p1 p2 : DT) (h : compareOrder p1 p2 ≠ 0) :
    compareDur p1 p2 true =
      (if compareOrder (addDuration p1 0) (addDuration p2 0) = compareOrder (addDuration p1 1) (addDuration p2 1) ∧
          compareOrder (addDuration p1 1) (addDuration p2 1) = compareOrder (addDuration p1 2) (addDuration p2 2) ∧
          compareOrder (addDuration p1 2) (addDuration p2 2) = compareOrder (addDuration p1 3) (addDuration p2 3)
       then compareOrder (addDuration p1 0) (addDuration p2 0) else INDETERMINATE) := by
  rw [compareDur_eq_chain]
  have : (compareOrder p1 p2 == 0) = false := by simpa using h
  rw [this]
  simp only [Bool.false_eq_true, if_false]
  exact chain_table _ (compareOrder_tri _ _) _ (compareOrder_tri _ _) _ (compareOrder_tri _ _) _ (compareOrder_tri _ _)

/-- §3.2.6.2 is a strict partial order (durations without fractional seconds): irreflexive, asymmetric, transitive. -/
theorem duration_order_strict_partial (a b c : Dur) (ha : a.frac = []) (hb : b.frac = []) (hc : c.frac = []) :
    durOrder a a ≠ .lt ∧ (durOrder a b = .lt → durOrder b a ≠ .lt) ∧
    (durOrder a b = .lt → durOrder b c = .lt → durOrder a c = .lt) := by
  rw [Ne, Ne, durOrder_lt_iff a a ha ha, durOrder_lt_iff a b ha hb, durOrder_lt_iff b a hb ha, durOrder_lt_iff b c hb hc,
    durOrder_lt_iff a c ha hc]
  -- the order is `<` at every reference date, and there is one: the three laws are those of `<` on the integers
  have r0 : ((1696, 9) : Int × Nat) ∈ refs := by decide
  exact ⟨fun h => Int.lt_irrefl _ (h _ r0), fun h h' => Int.lt_asymm (h _ r0) (h' _ r0),
    fun h h' r hr => Int.lt_trans (h r hr) (h' r hr)⟩

/-- Full statement: for all durations within the no-wrap ranges, `compare(a, b, strict)` = the order of §3.2.6.2.
Proved for non-negative durations without fractional seconds (`compareDur_spec`; the model's fields are unbounded
integers; for either sign wherever the shortcut does not fire: `compareDur_spec_of_ne`), and stated here on the boundary
family: n months (n = 0..14) against d days for every d from 28·n to 31·n+2 — a range that holds every length an n-month
span can have at any of the four reference dates — in both argument orders, and against the same spans in hours.  The
bounds on n and k play no part in the proof: each conjunct is `compareDur_spec` at these fields. -/
theorem duration_compare_sweep_partial :
    (∀ n, n < 15 → ∀ k, k < 3 * n + 3 →
      compareDur (monthsDT n) (daysDT (28 * n + k)) true = ord4Code (durOrder (monthsD n) (daysD (28 * n + k))) ∧
      compareDur (daysDT (28 * n + k)) (monthsDT n) true = ord4Code (durOrder (daysD (28 * n + k)) (monthsD n))) ∧
    (∀ n, n < 8 → ∀ k, k < 3 * n + 3 →
      compareDur (monthsDT n) (hoursDT (24 * (28 * n + k))) true = ord4Code (durOrder (monthsD n) (hoursD (24 * (28 * n + k))))) :=
  ⟨fun n _ k _ => ⟨compareDur_spec (monthsD n) (daysD (28 * n + k)) rfl rfl rfl rfl,
      compareDur_spec (daysD (28 * n + k)) (monthsD n) rfl rfl rfl rfl⟩,
    fun n _ k _ => compareDur_spec (monthsD n) (hoursD (24 * (28 * n + k))) rfl rfl rfl rfl⟩

/-- Full statement: `parseDuration s` succeeds iff `s` is in the lexical space, and then holds its value.  Checked here
on EVERY string of length ≤ 4 over {P T 1 Y M D H S . -} (11 111 strings): by kernel evaluation where the string begins
with 'P' or "-P", by `parseDuration_head` / `parseDuration_minus` otherwise; longer strings are covered by the
correspondence only. -/
theorem duration_lexical_partial :
    (stringsUpTo [0x50, 0x54, 0x31, 0x59, 0x4D, 0x44, 0x48, 0x53, 0x2E, 0x2D] 4).all (fun s =>
      match parseDuration true s, parse s with
      | none, none => true
      | some d, some v => d.year * 12 + d.month == monthsOf v &&
          ((d.day * 24 + d.hour) * 60 + d.minute) * 60 + d.second == secondsOf v && d.ms == v.frac
      | _, _ => false) = true := by
  rw [List.all_eq_true]
  intro s hs
  rw [mem_stringsUpTo_succ] at hs
  -- a string that begins with neither 'P' nor "-P" is rejected by both sides; behind 'P' or "-P" every tail is evaluated
  rcases hs with rfl | ⟨c, _, t, ht, rfl⟩
  · decide
  · by_cases hP : c = 0x50
    · subst hP; revert t; refine List.all_eq_true.mp ?_; decide +kernel
    · by_cases hM : c = 0x2D
      · subst hM
        rw [mem_stringsUpTo_succ] at ht
        rcases ht with rfl | ⟨c', _, t', ht', rfl⟩
        · decide
        · by_cases hP' : c' = 0x50
          · subst hP'; revert t'; refine List.all_eq_true.mp ?_; decide +kernel
          · obtain ⟨h1, h2⟩ := parseDuration_minus true c' t' hP'
            rw [h1, h2]
      · obtain ⟨h1, h2⟩ := parseDuration_head true c t hP hM
        rw [h1, h2]

/-- The code as it stands accepts a designator without digits ("PY", "PT.5S" …): `parseInt` of an empty range is 0. -/
theorem duration_lexical_orig_fails :
    (parseDuration false [0x50, 0x59]).isSome = true ∧ parse [0x50, 0x59] = none ∧
    (parseDuration false [0x50, 0x54, 0x2E, 0x35, 0x53]).isSome = true ∧ parse [0x50, 0x54, 0x2E, 0x35, 0x53] = none ∧
    parseDuration true [0x50, 0x59] = none := by decide +kernel

/-- The shortcut `compareOrder(pDate1, pDate2) == EQUAL` at the head of `compare(…, strict)` normalises the duration
fields as if they were a date: -P1M and -P30D both become (-1, 10, 31) and the code answers EQUAL, while the order of
§3.2.6.2 leaves them incomparable (hence the hypothesis of `duration_indeterminate_iff`). -/
theorem duration_compare_shortcut_fails :
    ((parseDuration true [0x2D, 0x50, 0x31, 0x4D]).bind fun a => (parseDuration true [0x2D, 0x50, 0x33, 0x30, 0x44]).map fun b =>
        (compareOrder a b, compareDur a b true)) = some (0, 0) ∧
    ((parse [0x2D, 0x50, 0x31, 0x4D]).bind fun a => (parse [0x2D, 0x50, 0x33, 0x30, 0x44]).map fun b =>
        ord4Code (durOrder a b)) = some 2 := by decide +kernel

end Duration

/-! ## Non-vacuity: the hypotheses are met by concrete non-trivial data. -/
section NonVacuity
open XV.Spec.Codec XV.Model.Codec

example : parseDecimal " -001.2300 ".toList = .ok ⟨-1, "123".toList, 3, 2⟩ ∧
    isDecimalLex (trimWs " -001.2300 ".toList) = true ∧ val (trimWs " -001.2300 ".toList) = (-12300, 4) :=
  ⟨by rfl, by decide +kernel, by decide +kernel⟩
example : isDecimalLex ".5".toList = true ∧ isDecimalLex "5.".toList = true ∧ isDecimalLex ".".toList = false ∧
    isDecimalLex "+".toList = false ∧ isDecimalLex "1e3".toList = false ∧ isDecimalLex "1.2.3".toList = false := by
  decide +kernel
example : parseDecimal ".".toList = .error .invChars ∧ parseDecimal "1..2".toList = .error .twoManyDecPoint ∧
    parseDecimal " \t ".toList = .error .wsString ∧ parseDecimal [] = .error .emptyString := ⟨by rfl, by rfl, by rfl, by rfl⟩
-- equal values, different lexical forms; and a strict order decided in the fraction
example : ∃ dx dy, parseDecimal "1.50".toList = .ok dx ∧ parseDecimal "+01.5".toList = .ok dy ∧ toCompare dx dy = 0 :=
  ⟨_, _, by rfl, by rfl, by decide⟩
example : ∃ dx dy, parseDecimal "0.09".toList = .ok dx ∧ parseDecimal "0.1".toList = .ok dy ∧ toCompare dx dy = -1 ∧
    cmpSpec (val "0.09".toList) (val "0.1".toList) = .lt := ⟨_, _, by rfl, by rfl, by decide, by decide⟩
example : ∃ dx dy, parseDecimal "-10".toList = .ok dx ∧ parseDecimal "-9.99".toList = .ok dy ∧ toCompare dx dy = -1 :=
  ⟨_, _, by rfl, by rfl, by decide⟩
example : canonical " -001.2300 ".toList = some "-1.23".toList ∧ canonical "+.50".toList = some "0.5".toList ∧
    canonical "100".toList = some "100.0".toList ∧ canonical "-0.000".toList = some "0.0".toList ∧
    isCanonicalDecimal "-1.23".toList = true ∧ isCanonicalDecimal "01.0".toList = false ∧
    isCanonicalDecimal "-0.0".toList = false := by decide +kernel
-- 0.0010 has scale 3 and totalDigits 3 as computed (E2-44: the trailing zero does not count), and fractionDigits 3 admits it
example : ∃ d, parseDecimal "0.0010".toList = .ok d ∧ d.scale = 3 ∧ d.totalDigits = 3 ∧
    fractionDigitsOk (val "0.0010".toList) 3 := by
  refine ⟨_, by rfl, rfl, rfl, 1, 3, ?_, by decide⟩
  unfold valEq; decide
example : parseBigInteger " -0012 ".toList = .ok (-1, "12".toList) ∧ isIntegerLex "-0012".toList = true ∧
    isIntegerLex "1.0".toList = false ∧ canonicalInt "+007".toList = some "7".toList ∧ canonicalInt "-0".toList = some "0".toList :=
  ⟨by rfl, by decide +kernel, by decide +kernel, by decide +kernel, by decide +kernel⟩
example : compareValuesInt (1, "12".toList) (-1, "5".toList) = 1 ∧ compareValuesInt (1, "99".toList) (1, "100".toList) = -1 := by decide
example : hexDecode [0x30, 0x61, 0x46, 0x66] = some [0x0A, 0xFF] ∧ hexEncode [0x0A, 0xFF] = [0x30, 0x41, 0x46, 0x46] ∧
    isHexLex [0x30, 0x67] = false ∧ isHexLex [0x30] = false ∧ AllBytes [0x0A, 0xFF] :=
  ⟨by decide +kernel, by decide, by decide, by decide, by intro b hb; simp at hb; omega⟩
example : b64Encode [1] = [0x41, 0x51, 0x3D, 0x3D] ∧ b64Encode [0x4D, 0x61, 0x6E] = [0x54, 0x57, 0x46, 0x75] ∧
    decode .schema [0x41, 0x51, 0x20, 0x3D, 0x3D] = some ([1], [0x41, 0x51, 0x3D, 0x3D]) ∧   -- "AQ ==" : a single #x20 is legal
    decode .schema [0x41, 0x51, 0x20, 0x20, 0x3D, 0x3D] = none ∧                            -- two are not
    decode .schema [0x41, 0x52, 0x3D, 0x3D] = none ∧                                        -- "AR==" : non-zero padding bits
    decode .rfc2045 [0x41, 0x51, 0x0A, 0x3D, 0x3D, 0x0A] = some ([1], [0x41, 0x51, 0x3D, 0x3D]) ∧
    isBase64Lex [0x41, 0x51, 0x20, 0x3D, 0x3D] = true ∧ isBase64Lex [0x41, 0x52, 0x3D, 0x3D] = false ∧
    encode [1] = some [0x41, 0x51, 0x3D, 0x3D, 0x0A] :=
  ⟨by decide, by decide, by decide +kernel, by decide +kernel, by decide +kernel, by decide +kernel, by decide, by decide,
   by decide +kernel⟩

example : XV.Model.Ws.collapseWS [0x20, 0x9, 0x61, 0x20, 0xA, 0x20, 0x62, 0xD] = [0x61, 0x20, 0x62] ∧
    XV.Spec.Ws.collapseSpec [0x20, 0x9, 0x61, 0x20, 0xA, 0x20, 0x62, 0xD] = [0x61, 0x20, 0x62] ∧
    XV.Model.Ws.collapseWS [0x20, 0x9] = [] ∧ XV.Model.Ws.replaceWS [0x9, 0x61, 0xA] = [0x20, 0x61, 0x20] := by decide
example : XV.Spec.Ws.boolLex [0x31] = some true ∧ XV.Spec.Ws.boolLex [0x54, 0x52, 0x55, 0x45] = none ∧
    XV.Model.Ws.boolCompare [0x31] [0x74, 0x72, 0x75, 0x65] = 0 ∧ XV.Model.Ws.boolCompare [0x31] [0x30] = 1 := by decide

-- date/time: a value that `normalize` carries across a leap day, and two in-range values
example : XV.Lemmas.DateTime.Zoned ⟨2000, 2, 29, 23, 30, 0, [], XV.Model.DateTime.UTC_NEG, 14, 0, true⟩ ∧
    XV.Model.DateTime.normalize ⟨2000, 2, 29, 23, 30, 0, [], XV.Model.DateTime.UTC_NEG, 14, 0, true⟩ =
      ⟨2000, 3, 1, 13, 30, 0, [], XV.Model.DateTime.UTC_STD, 14, 0, true⟩ ∧
    XV.Model.DateTime.normalize ⟨1900, 3, 1, 0, 10, 0, [], XV.Model.DateTime.UTC_POS, 0, 30, true⟩ =
      ⟨1900, 2, 28, 23, 40, 0, [], XV.Model.DateTime.UTC_STD, 0, 30, true⟩ := by
  refine ⟨⟨Or.inr rfl, by decide, by decide, by decide, by decide, by decide, by decide⟩, by decide +kernel, by decide +kernel⟩
example : XV.Lemmas.DateTime.InRange ⟨2000, 3, 1, 13, 30, 0, [], XV.Model.DateTime.UTC_STD, 0, 0, true⟩ :=
  ⟨by decide, by decide, by decide, by decide, by decide, Or.inr rfl⟩
example : XV.Spec.DateTime.valid ⟨2000, 2, 29, 24, 0, 0, [0], .neg 14 0⟩ = true ∧
    XV.Spec.DateTime.valid ⟨1900, 2, 29, 0, 0, 0, [], .none⟩ = false ∧
    XV.Spec.DateTime.valid ⟨2000, 1, 1, 24, 0, 1, [], .none⟩ = false ∧
    XV.Spec.DateTime.valid ⟨2000, 1, 1, 0, 0, 0, [], .pos 14 1⟩ = false := by decide

-- facets: decimal{minExclusive 0} -> {maxInclusive 10}: a valid chain; the inherited set keeps the lower bound
example :
    let s1 : XV.Spec.Facets.Step (Int × Nat) := { minExcl := some (0, 0) }
    let s2 : XV.Spec.Facets.Step (Int × Nat) := { maxIncl := some (10, 0) }
    let dg0 : Int × Nat → Nat × Nat := fun _ => (0, 0)
    XV.Model.Facets.validFrom XV.Lemmas.Facets.decCmp dg0 {} [s1, s2] = true ∧
    (XV.Model.Facets.effective {} [s1, s2]).minExcl = some (0, 0) ∧
    XV.Model.Facets.checkNumeric XV.Lemmas.Facets.decCmp dg0 (XV.Model.Facets.effective {} [s1, s2]) (5, 0) = true ∧
    XV.Model.Facets.checkNumeric XV.Lemmas.Facets.decCmp dg0 (XV.Model.Facets.effective {} [s1, s2]) (0, 0) = false ∧
    XV.Model.Facets.checkNumeric XV.Lemmas.Facets.decCmp dg0 (XV.Model.Facets.effective {} [s1, s2]) (-1, 0) = false ∧
    XV.Model.Facets.checkNumeric XV.Lemmas.Facets.decCmp dg0 (XV.Model.Facets.effective {} [s1, s2]) (100, 1) = true ∧
    XV.Model.Facets.checkNumeric XV.Lemmas.Facets.decCmp dg0 (XV.Model.Facets.effective {} [s1, s2]) (101, 1) = false ∧
    -- loosening the bound is refused when the type is built
    XV.Model.Facets.validFrom XV.Lemmas.Facets.decCmp dg0 {} [s2, { maxIncl := some (11, 0) }] = false := by
  decide +kernel
example : XV.Model.Facets.unionCheck [fun s => s == [1], fun s => s.length == 1, fun _ => true] [2] = some 1 ∧
    XV.Model.Facets.listCheck (fun s => s.length == 1) { maxLength := some 2 } [[1], [2]] = true ∧
    XV.Model.Facets.listCheck (fun s => s.length == 1) { maxLength := some 2 } [[1], [2], [3]] = false := by decide

-- duration: P2M against P62D is indeterminate (62 days only from 1903-07-01), P2M < P63D, P1M > P27D
example : XV.Spec.Duration.durOrder (XV.Lemmas.Duration.monthsD 2) (XV.Lemmas.Duration.daysD 62) = .indeterminate ∧
    XV.Spec.Duration.durOrder (XV.Lemmas.Duration.monthsD 2) (XV.Lemmas.Duration.daysD 63) = .lt ∧
    XV.Spec.Duration.durOrder (XV.Lemmas.Duration.monthsD 1) (XV.Lemmas.Duration.daysD 27) = .gt ∧
    XV.Model.Duration.compareDur (XV.Lemmas.Duration.monthsDT 2) (XV.Lemmas.Duration.daysDT 62) true = 2 ∧
    XV.Model.DateTime.compareOrder (XV.Lemmas.Duration.monthsDT 2) (XV.Lemmas.Duration.daysDT 62) ≠ 0 := by decide +kernel

end NonVacuity

end XV.Props.C09
