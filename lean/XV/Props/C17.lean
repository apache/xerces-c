/-
C17 — distinct parser, document and transcoder objects are safe to use concurrently.

What is proved here is the *logic* of the synchronisation, for every trace / schedule and any number of threads:
  * lockset discipline ⇒ every pair of conflicting accesses is ordered by happens-before (no data race);
  * the executable trace checker that judges the traces recorded from the real library (hook H2) accepts
    exactly the traces that satisfy the declarative discipline;
  * the check / lock / re-check / build / publish / unlock protocol initialises once and every user sees the value;
  * the synchronized string pool: ids are stable and every interleaving is linearizable;
  * every modelled guarded access point still has its XMLMutexLock in the current sources (Gen.LockSites).
What is NOT proved (and cannot be, at this level): hardware / compiler memory-model effects, code that carries
no access marker, ICU internals.  See ASSUMPTIONS in tools/props/c17.py.
-/
import XV.Lemmas.Trace
import XV.Lemmas.LazyInit
import XV.Lemmas.SyncPool
import XV.Model.LockTable
import XV.Lemmas.StrCode
namespace XV.Props.C17

section Traces
open XV.Spec.Trace

/-- In a well-formed trace that follows the lockset discipline, any two conflicting accesses (same resource,
different threads, at least one write) are ordered by happens-before, one way or the other (by `hb_lt`, the way they
occur in the trace). -/
theorem lockset_implies_drf (g : Resource → Mutex) (sg : Site → Mutex) (tr : List Event)
    (hw : WellFormedLocks tr) (hl : LocksetOK g sg tr) :
    ∀ i j e₁ e₂, tr[i]? = some e₁ → tr[j]? = some e₂ → conflicting e₁ e₂ → HB tr i j ∨ HB tr j i := by
  rintro i j e₁ e₂ hi hj ⟨t₁, t₂, r, w₁, w₂, rfl, rfl, hne, _⟩
  rcases Nat.lt_trichotomy i j with hlt | heq | hgt
  · exact Or.inl (XV.Lemmas.Trace.drf_ordered hw hl hlt hi hj hne)
  · subst heq; rw [hi] at hj; cases hj; exact absurd rfl hne
  · exact Or.inr (XV.Lemmas.Trace.drf_ordered hw hl hgt hj hi (Ne.symm hne))

/-- Mutual exclusion: two threads never hold the same mutex at the same point of a well-formed trace. -/
theorem mutual_exclusion (tr : List Event) (hw : WellFormedLocks tr) (t t' : Thread) (m : Mutex) (k : Nat)
    (h : Holds tr t m k) (h' : Holds tr t' m k) : t = t' :=
  XV.Lemmas.Trace.holds_unique hw h h'

/-- Happens-before only relates earlier positions to later ones (so `HB i j ∨ HB j i` is never both). -/
theorem hb_lt (tr : List Event) (i j : Nat) (h : HB tr i j) : i < j := by
  induction h with
  | po h _ _ _ => exact h
  | sw h _ _ => exact h
  | trans _ _ ih1 ih2 => exact Nat.lt_trans ih1 ih2

/-- The verified checker: accepts exactly the traces that are well-formed and follow the discipline. -/
theorem checkTrace_sound_complete (g : Resource → Mutex) (sg : Site → Mutex) (tr : List Event) :
    checkTrace g sg tr = .ok () ↔ WellFormedLocks tr ∧ LocksetOK g sg tr := by
  rw [XV.Lemmas.Trace.spec_iff_evOk, checkTrace,
    XV.Lemmas.Trace.run_ok_iff g sg tr tr 0 [] rfl (XV.Lemmas.Trace.inv_zero tr)]
  simp only [Nat.zero_le, true_imp_iff]

theorem checkInitOnce_sound_complete (tr : List Event) : checkInitOnce tr = .ok () ↔ InitOnce tr := by
  rw [checkInitOnce, XV.Lemmas.Trace.runInit_ok_iff]
  exact and_iff_left fun _ _ _ hd => nomatch hd

/-- What an accepted trace gives: no data race on any marked resource, and at most one completed
initialisation per site. -/
theorem accepted_trace_race_free (g : Resource → Mutex) (sg : Site → Mutex) (tr : List Event)
    (h1 : checkTrace g sg tr = .ok ()) (h2 : checkInitOnce tr = .ok ()) :
    (∀ i j e₁ e₂, tr[i]? = some e₁ → tr[j]? = some e₂ → conflicting e₁ e₂ → HB tr i j ∨ HB tr j i) ∧ InitOnce tr := by
  obtain ⟨hw, hl⟩ := (checkTrace_sound_complete g sg tr).1 h1
  exact ⟨lockset_implies_drf g sg tr hw hl, (checkInitOnce_sound_complete tr).1 h2⟩

/-! Non-vacuity.  Resource 7 guarded by mutex 1; site 3 guarded by mutex 1.  Two threads. -/
def gEx : Resource → Mutex := fun _ => 1
def goodTrace : List Event :=
  [.acq 0 1, .acc 0 7 true, .initBegin 0 3, .initEnd 0 3, .rel 0 1, .acq 1 1, .acc 1 7 false, .rel 1 1]
/-- the lock around thread 1's access deleted -/
def badTrace : List Event := [.acq 0 1, .acc 0 7 true, .rel 0 1, .acc 1 7 false]
/-- thread 1 enters while thread 0 is inside (a mutex that does not exclude) -/
def overlapTrace : List Event := [.acq 0 1, .acq 1 1, .acc 0 7 true, .acc 1 7 true, .rel 1 1, .rel 0 1]
def twiceTrace : List Event :=
  [.acq 0 1, .initBegin 0 3, .initEnd 0 3, .rel 0 1, .acq 1 1, .initBegin 1 3, .initEnd 1 3, .rel 1 1]

example : checkTrace gEx gEx goodTrace = .ok () ∧ checkInitOnce goodTrace = .ok () := by decide
example : WellFormedLocks goodTrace ∧ LocksetOK gEx gEx goodTrace :=
  (checkTrace_sound_complete gEx gEx goodTrace).1 (by decide)
example : conflicting (goodTrace[1]) (goodTrace[6]) := ⟨0, 1, 7, true, false, rfl, rfl, by decide, Or.inl rfl⟩
example : HB goodTrace 1 6 :=
  HB.trans (k := 5) (HB.trans (k := 4) (HB.po (e₁ := .acc 0 7 true) (e₂ := .rel 0 1) (by decide) rfl rfl rfl)
    (HB.sw (t := 0) (t' := 1) (m := 1) (by decide) rfl rfl))
    (HB.po (e₁ := .acq 1 1) (e₂ := .acc 1 7 false) (by decide) rfl rfl rfl)
example : checkTrace gEx gEx badTrace = .error (.unguarded 3 1 1) := by decide
example : ¬ (WellFormedLocks badTrace ∧ LocksetOK gEx gEx badTrace) := by
  rw [← checkTrace_sound_complete]; decide
example : checkTrace gEx gEx overlapTrace = .error (.acquireHeld 1 1 1) := by decide
example : checkTrace gEx gEx twiceTrace = .ok () ∧ checkInitOnce twiceTrace = .error (.secondInit 6 1 3) := by decide
example : ¬ InitOnce twiceTrace := by rw [← checkInitOnce_sound_complete]; decide

end Traces

open XV.Model.LazyInit in
/-- For every number of threads, every entry point (with or without the unlocked first check) and every
schedule: at most one initialisation completes; a thread that finished obtained the initialised value, and
exactly one initialisation had completed by then; a thread about to use the value finds the flag up and the data there.
(The last conjunct says only that `lock` names at most one thread, which holds of any state; that the holder is a thread
inside the critical section is `XV.Lemmas.LazyInit.Inv.cs`/`.holder` and is not part of this statement.) -/
theorem init_once (val : Nat) (entry : Thread → Bool) (sched : List Thread) :
    let s := run val sched (init entry)
    s.inits ≤ 1 ∧
    (∀ t v, s.pc t = .done v → v = val ∧ s.inits = 1) ∧
    (∀ t, s.pc t = .use → s.flag = true ∧ s.data = val) ∧
    (∀ t t', s.lock = some t → s.lock = some t' → t = t') := by
  intro s
  have hi : XV.Lemmas.LazyInit.Inv val s := XV.Lemmas.LazyInit.inv_run val sched _ (XV.Lemmas.LazyInit.inv_init val entry)
  refine ⟨?_, ?_, ?_, ?_⟩
  · cases hf : s.flag with
    | true => have := (hi.flagT hf).2; omega
    | false => have := hi.flagF hf; omega
  · intro t v h
    obtain ⟨h1, h2⟩ := hi.finished t v h
    exact ⟨h1, (hi.flagT h2).2⟩
  · intro t h
    have hf := hi.atUse t h
    exact ⟨hf, (hi.flagT hf).1⟩
  · intro t t' h h'; rw [h] at h'; cases h'; rfl

open XV.Model.LazyInit in
/-- No deadlock: in every reachable state in which some thread has not finished, some thread can move.  As stated, a
thread that was never scheduled and starts at the unlocked check is such a thread; the proof gives more: the thread that
can move is `t` itself while the mutex is free, and the holder of the mutex otherwise. -/
theorem init_no_deadlock (val : Nat) (entry : Thread → Bool) (sched : List Thread) (t : Thread) :
    let s := run val sched (init entry)
    (∀ v, s.pc t ≠ .done v) → ∃ t', XV.Lemmas.LazyInit.Enabled val t' s := by
  intro s hnd
  have hi : XV.Lemmas.LazyInit.Inv val s := XV.Lemmas.LazyInit.inv_run val sched _ (XV.Lemmas.LazyInit.inv_init val entry)
  cases hl : s.lock with
  | none => exact ⟨t, XV.Lemmas.LazyInit.enabled_of_not_blocked val t s hnd fun _ => hl⟩
  | some t' =>
    -- the holder of the mutex is inside the critical section, so neither finished nor waiting
    have hcs := hi.holder t' hl
    exact ⟨t', XV.Lemmas.LazyInit.enabled_of_not_blocked val t' s (fun v hv => by rw [hv] at hcs; exact hcs)
      fun hv => by rw [hv] at hcs; exact hcs.elim⟩

/-! Non-vacuity: two threads, both pass the unlocked first check before either initialises; and the three
mutations (no re-check, no exclusion, flag stored before the data) each break the statement. -/
section
open XV.Model.LazyInit
def sched2 : List Thread := [0, 1, 0, 0, 0, 0, 0, 1, 1, 1, 0, 1]
example : (run 42 sched2 (init fun _ => true)).inits = 1 ∧
    (run 42 sched2 (init fun _ => true)).pc 0 = .done 42 ∧ (run 42 sched2 (init fun _ => true)).pc 1 = .done 42 := by
  decide
/-- re-check deleted: the second thread initialises again -/
example : (runV ⟨false, true, false⟩ 42 [0, 1, 0, 0, 0, 0, 0, 1, 1, 1, 1] (init fun _ => true)).inits = 2 := by decide
/-- lock deleted: both threads are inside the critical section and both initialise -/
example : (runV ⟨true, false, false⟩ 42 [0, 1, 0, 1, 0, 1, 0, 1, 0, 1] (init fun _ => true)).inits = 2 := by decide
/-- flag stored before the data: a thread that only ran the unlocked check uses uninitialised data -/
example : (runV ⟨true, true, true⟩ 42 [0, 0, 0, 0, 1, 1, 1] (init fun _ => true)).pc 1 = .done 0 := by decide
end

-- `hw` is not needed: an id is the first position of its string in `all p`, and `all p` only grows at its end
set_option linter.unusedVariables false in
open XV.Model.SyncPool XV.Lemmas.SyncPool in
/-- An id once returned always denotes the same string: after `addOrFind s` returned `k` — whatever operations of the
model (`Op`) were executed before and whatever are executed afterwards, one at a time — `getValueForId k` yields `s`, and
`addOrFind s`/`getId s` yield `k`. -/
theorem ids_stable (p : SSP) (hw : WF p) (pre post : List Op) (s : String) :
    let p1 := (runAtomic p pre).1
    let r := atomic p1 (.addOrFind s)
    let p2 := (runAtomic r.1 post).1
    ∃ k, r.2 = .id k ∧ k ≠ 0 ∧ (atomic p2 (.valueForId k)).2 = .str s ∧
      (atomic p2 (.addOrFind s)).2 = .id k ∧ (atomic p2 (.getId s)).2 = .id k := by
  intro p1 r p2
  obtain ⟨hr, h0⟩ := atomic_addOrFind_id p1 s
  have h2 : idOf (all p2) s = idOf (all r.1) s := idOf_runAtomic h0 post
  refine ⟨_, hr, h0, ?_, ?_, ?_⟩
  · rw [atomic_valueForId_eq, ← h2, valueOf_idOf (h2 ▸ h0)]; rfl
  · rw [atomic_addOrFind_eq, if_pos (h2 ▸ h0), h2]
  · rw [atomic_getId_eq, h2]

open XV.Model.SyncPool XV.Lemmas.SyncPool in
/-- `getId` never invents an id: a non-zero answer denotes the queried string, zero means the string is in
neither pool; the pool is not changed. -/
theorem getId_denotes (p : SSP) (s : String) :
    (atomic p (.getId s)).1 = p ∧
    ∃ k, (atomic p (.getId s)).2 = .id k ∧ (k = 0 → s ∉ p.const.strs ∧ s ∉ p.over.strs) ∧
      (k ≠ 0 → valueOf p k = some s) := by
  rw [atomic_getId_eq]
  refine ⟨rfl, _, rfl, fun h => ?_, valueOf_idOf⟩
  have := (idOf_eq_zero_iff _ s).1 h
  exact ⟨fun hm => this (List.mem_append_left _ hm), fun hm => this (List.mem_append_right _ hm)⟩

open XV.Model.SyncPool in
/-- The code AS WRITTEN violates `getId_denotes`: with a non-empty const pool, `getId` of an unknown string returns the id
of the last const string (`XMLStringPool::getId(toFind)+constCount`). -/
theorem getId_asIs_not_stable :
    ∃ (p : SSP) (s : String) (k : Nat), (atomicAsIs p (.getId s)).2 = .id k ∧ k ≠ 0 ∧ valueOf p k ≠ some s :=
  ⟨⟨⟨["urn:a", "urn:b"]⟩, ⟨[]⟩⟩, "urn:never-seen", 2, by decide, by decide, by decide⟩

open XV.Model.SyncPool XV.Lemmas.SyncPool in
/-- Linearizability at operation granularity.  For every initial pool, every per-thread program and EVERY
interleaving of the unlocked and locked phases of the threads' operations: executing the completed operations
one at a time, in completion order, single-threaded, gives exactly the results the threads observed and exactly
the final pool; and each thread's completed operations, its pending one and its remaining ones are its program
(completion order respects program order). -/
theorem linearizable (p0 : SSP) (prog : Thread → List Op) (sched : List Thread) :
    let s := (Sys.init p0 prog).run sched
    runAtomic p0 (s.log.map (·.2.1)) = (s.pool, s.log.map (·.2.2)) ∧
    ∀ t, ((s.log.filter (·.1 == t)).map (·.2.1)) ++ (s.pending t).toList ++ s.prog t = prog t := by
  intro s
  have hi := linv_run p0 prog sched _ (linv_init p0 prog)
  exact ⟨hi.lin, hi.order⟩

/-! Non-vacuity: const pool {a,b}; two threads interleave their phases; ids are shifted by the const count. -/
section
open XV.Model.SyncPool
def p0 : SSP := ⟨⟨["urn:a", "urn:b"]⟩, ⟨[]⟩⟩
def prog2 : Thread → List Op
  | 0 => [.addOrFind "urn:x", .getId "urn:y", .valueForId 3]
  | 1 => [.addOrFind "urn:y", .addOrFind "urn:x", .addOrFind "urn:a"]
  | _ => []
example : XV.Lemmas.SyncPool.WF p0 := by
  refine ⟨by decide, by decide, ?_⟩; intro s _; simp [p0]
example : ((Sys.init p0 prog2).run [0, 1, 1, 0, 0, 1, 0, 1, 1, 0, 0, 1]).log =
    [(1, .addOrFind "urn:y", .id 3), (0, .addOrFind "urn:x", .id 4), (0, .getId "urn:y", .id 3),
     (1, .addOrFind "urn:x", .id 4), (1, .addOrFind "urn:a", .id 1), (0, .valueForId 3, .str "urn:y")] := by decide +kernel
example : (atomic p0 (.getId "urn:never-seen")).2 = .id 0 ∧ (atomicAsIs p0 (.getId "urn:never-seen")).2 = .id 2 := by
  decide
end

open XV.Model.LockTable XV.Gen.LockSites in
/-- Every modelled access point has at least one XMLMutexLock on the expected mutex in its function: deleting the only
one (or all of them) breaks this theorem, deleting one of several is left to `all_markers_guarded` and
`all_guarded_site_counts`; adding locks breaks nothing. -/
theorem all_guarded_resources_have_site :
    ∀ g ∈ guardTable, ∃ s ∈ lockSites, s.file = g.file ∧ s.func = g.func ∧ s.mutex = g.mutex := by
  simp only [XV.Lemmas.StrCode.eq_iff_code]
  decide +kernel

open XV.Model.LockTable XV.Gen.LockSites in
/-- Every access marker (hook H2) sits in a function body after an XMLMutexLock on the mutex it names, and
every marker belongs to a modelled access point with the mutex the model expects — so the guard function the
trace checker is run with is the one of `guardTable`. -/
theorem all_markers_guarded :
    (∀ m ∈ markers, ∃ s ∈ lockSites, s.file = m.file ∧ s.fnLine = m.fnLine ∧ s.mutex = m.mutex ∧ s.line < m.line) ∧
    (∀ m ∈ markers, ∃ g ∈ guardTable, g.file = m.file ∧ g.func = m.func ∧ g.resource = m.resource ∧ g.mutex = m.mutex) ∧
    (∀ g ∈ guardTable, ∃ m ∈ markers, g.file = m.file ∧ g.func = m.func ∧ g.resource = m.resource ∧ g.mutex = m.mutex) := by
  simp only [XV.Lemmas.StrCode.eq_iff_code]
  decide +kernel

open XV.Model.LockTable XV.Gen.LockSites in
/-- Counting obligation: every modelled function still has at least the expected number of XMLMutexLock sites on
the expected mutex and at least as many access markers of the resource.  Removing a lock TOGETHER WITH its marker
(which leaves `all_markers_guarded` intact) breaks this theorem; adding locks or markers does not. -/
theorem all_guarded_site_counts :
    ∀ c ∈ siteCounts,
      c.sites ≤ (lockSites.filter (fun s => s.file == c.file && s.func == c.func && s.mutex == c.mutex)).length ∧
      c.sites ≤ (markers.filter (fun m => m.file == c.file && m.func == c.func && m.mutex == c.mutex &&
                                          m.resource == c.resource && m.kind == "access")).length := by
  simp only [XV.Lemmas.StrCode.beq_eq_code]
  decide +kernel

-- `all_guarded_site_counts` ranges over a table that has all its rows
example : XV.Model.LockTable.siteCounts.length = 17 := by decide

end XV.Props.C17
