/-
C04 — the parse result is independent of input chunking, buffer alignment and source type.

Model: XV.Model.Reader (code-shaped XMLReader: refreshRawBuffer, xcodeMoreChars, refreshCharBuffer,
getNextChar/peekNextChar, handleEOL, the constructors) composed with the C05 transcoder model
XV.Model.Utf8.transcodeFrom (and the ISO-8859-1 / US-ASCII / UTF-16 transcoders).
Spec:  XV.Spec.Reader (decodeAll = the whole byte string read sequence by sequence; normEOL = XML
end-of-line normalisation; posStep = line/column bookkeeping).

The stream is any `List (List Nat)` — each inner list is what one `readBytes` call returns —
satisfying `Clean` (nothing is returned only at the end of the input: the BinInputStream contract).
Buffer sizes and low-water mark are parameters; the theorems hold for every `Cfg` with
charBufSize ≥ 2 and rawBufSize ≥ 6 (room for one surrogate pair / one longest UTF-8 lead+trail
sequence), hence for the constants regenerated from XMLReader.hpp (`stdCfg`).
-/
import XV.Lemmas.ReaderCtor
namespace XV.Props.C04
open XV.Gen.ReaderConsts
open XV.Model.Utf8 XV.Model.Reader XV.Spec.Reader
open XV.Lemmas.ReaderDec XV.Lemmas.ReaderInv XV.Lemmas.ReaderDeliver XV.Lemmas.ReaderReach XV.Lemmas.ReaderCtor

/-- The bytes a forced-encoding reader decodes: everything after the byte-order mark that its
constructor recognised in the FIRST read. -/
def payload (cfg : Cfg) (enc : Enc) (cs : List (List Nat)) : List Nat :=
  cs.flatten.drop (bomLen enc (firstRead cfg cs))

/-- **What is delivered.**  From a forced-encoding reader (not a parameter entity) over any `Clean` partition `cs`
of the byte stream, for any buffer geometry with room for a surrogate pair and the longest UTF-8 sequence (`hcb`, `hrb`)
and any low-water mark, repeated getNextChar delivers the whole-input reading of the bytes after the byte-order mark
(`payload`), end-of-line normalised if the entity is external — all of it when that reading ends normally, a prefix
of it followed by the same exception when it ends in an undecodable sequence. -/
theorem delivered_spec (cfg : Cfg) (enc : Enc) (nel ext : Bool) (cs : List (List Nat))
    (hcb : 2 ≤ cfg.charBufSize) (hrb : 6 ≤ cfg.rawBufSize) (hc : Clean cs) :
    (delivered (mkForced cfg enc nel ext false cs)).2 = (decodeAll enc (payload cfg enc cs)).2 ∧
    (delivered (mkForced cfg enc nel ext false cs)).1 <+: deliver nel ext (decodeAll enc (payload cfg enc cs)).1 ∧
    ((decodeAll enc (payload cfg enc cs)).2 = .eof →
      (delivered (mkForced cfg enc nel ext false cs)).1 = deliver nel ext (decodeAll enc (payload cfg enc cs)).1) := by
  obtain ⟨hs, hn, hx, hp⟩ := mkForced_facts cfg enc nel ext cs hcb hrb hc
  have := delivered_of_sinv _ hs
  rw [hn, hx, hp] at this
  exact this

/-- **Refill positions do not matter** (and neither does the partition): two forced-encoding readers over the same
bytes, with *any* two buffer geometries (of at least 2 characters and 6 bytes) / low-water marks and *any* two `Clean`
partitions, end the same way and, when that is the end of the input, deliver the same characters.  When the bytes end in
an undecodable sequence both raise the same exception; the number of characters handed out before it may differ (one
list is a prefix of the other) — `error_offset_depends_on_chunking` shows that this cannot be strengthened for the code
as it stands.  `hbom`: the constructors look for a byte-order mark in the first read only (`bom_of_four`: guaranteed
when both first reads have at least 4 bytes). -/
theorem refill_position_invariant (cfg cfg' : Cfg) (enc : Enc) (nel ext : Bool) (cs cs' : List (List Nat))
    (hcb : 2 ≤ cfg.charBufSize) (hrb : 6 ≤ cfg.rawBufSize) (hcb' : 2 ≤ cfg'.charBufSize) (hrb' : 6 ≤ cfg'.rawBufSize)
    (hc : Clean cs) (hc' : Clean cs') (hflat : cs.flatten = cs'.flatten)
    (hbom : bomLen enc (firstRead cfg cs) = bomLen enc (firstRead cfg' cs')) :
    (delivered (mkForced cfg enc nel ext false cs)).2 = (delivered (mkForced cfg' enc nel ext false cs')).2 ∧
    ((delivered (mkForced cfg enc nel ext false cs)).2 = .eof →
      (delivered (mkForced cfg enc nel ext false cs)).1 = (delivered (mkForced cfg' enc nel ext false cs')).1) ∧
    ((delivered (mkForced cfg enc nel ext false cs)).1 <+: (delivered (mkForced cfg' enc nel ext false cs')).1 ∨
     (delivered (mkForced cfg' enc nel ext false cs')).1 <+: (delivered (mkForced cfg enc nel ext false cs)).1) := by
  obtain ⟨hs, hn, hx, hp⟩ := mkForced_facts cfg enc nel ext cs hcb hrb hc
  obtain ⟨hs', hn', hx', hp'⟩ := mkForced_facts cfg' enc nel ext cs' hcb' hrb' hc'
  exact delivered_congr hs hs' (by rw [hp, hp', hflat, hbom]) (hn'.trans hn.symm) (hx'.trans hx.symm)

theorem std_cb (lw : Nat) : 2 ≤ (stdCfg lw).charBufSize := by show 2 ≤ kCharBufSize; decide
theorem std_rb (lw : Nat) : 6 ≤ (stdCfg lw).rawBufSize := by show 6 ≤ kRawBufSize; decide

/-- **Chunk invariance** for this build of the library (sizes regenerated from XMLReader.hpp, any
low-water mark): the delivered characters do not depend on the partition of the byte stream, in the sense and under
the hypotheses of `refill_position_invariant` (equal when the input is decodable to its end, else one list a prefix of
the other before the same exception; `hbom`). -/
theorem chars_chunk_invariant (lw : Nat) (enc : Enc) (nel ext : Bool) (cs cs' : List (List Nat))
    (hc : Clean cs) (hc' : Clean cs') (hflat : cs.flatten = cs'.flatten)
    (hbom : bomLen enc (firstRead (stdCfg lw) cs) = bomLen enc (firstRead (stdCfg lw) cs')) :
    (delivered (mkForced (stdCfg lw) enc nel ext false cs)).2 = (delivered (mkForced (stdCfg lw) enc nel ext false cs')).2 ∧
    ((delivered (mkForced (stdCfg lw) enc nel ext false cs)).2 = .eof →
      (delivered (mkForced (stdCfg lw) enc nel ext false cs)).1 = (delivered (mkForced (stdCfg lw) enc nel ext false cs')).1) ∧
    ((delivered (mkForced (stdCfg lw) enc nel ext false cs)).1 <+: (delivered (mkForced (stdCfg lw) enc nel ext false cs')).1 ∨
     (delivered (mkForced (stdCfg lw) enc nel ext false cs')).1 <+: (delivered (mkForced (stdCfg lw) enc nel ext false cs)).1) :=
  refill_position_invariant (stdCfg lw) (stdCfg lw) enc nel ext cs cs' (std_cb lw) (std_rb lw) (std_cb lw) (std_rb lw)
    hc hc' hflat hbom

/-- Four bytes decide it: the UTF-8 test wants three bytes and a fourth to exist (`raw.length > 3`). -/
theorem bomLen_take (enc : Enc) : ∀ raw : List Nat, bomLen enc (raw.take 4) = bomLen enc raw
  | [] | [_] | [_, _] | [_, _, _] | [_, _, _, _] => rfl
  | _ :: _ :: _ :: _ :: _ :: _ => by cases enc <;> rfl

/-- The byte-order-mark hypothesis holds whenever both first reads return at least four bytes
(both are prefixes of the same byte string). -/
theorem bom_of_four (enc : Enc) (a a' bs : List Nat) (hp : a <+: bs) (hp' : a' <+: bs)
    (h4 : 4 ≤ a.length) (h4' : 4 ≤ a'.length) : bomLen enc a = bomLen enc a' := by
  obtain ⟨t, rfl⟩ := hp
  obtain ⟨t', ht'⟩ := hp'
  rw [← bomLen_take enc a, ← bomLen_take enc a', ← List.take_append_of_le_length (l₂ := t) h4, ← ht',
    List.take_append_of_le_length h4']

theorem firstRead_prefix (cfg : Cfg) (cs : List (List Nat)) : firstRead cfg cs <+: cs.flatten :=
  ⟨_, readBytes_flat cs cfg.rawBufSize⟩

/-- **CR as the last character of a buffer, LF as the first of the next ⇒ one LF.**  In any `SInv`
state of an external entity whose character window holds just a CR while the bytes still to be transcoded read,
without error to their end (`hb`), as LF followed by `rest`, the pair is delivered as a single LF followed by the
normalisation of `rest`. -/
theorem eol_across_refill (r : Reader) (h : SInv r) (hx : r.external = true) (rest : List Nat)
    (hw : r.charWin = [chCR]) (hb : decodeAll (encOf r) (bytes r) = (chLF :: rest, .eof)) :
    delivered r = (chLF :: normEOL r.nel rest, .eof) := by
  obtain ⟨d1, d2, d3⟩ := delivered_of_sinv r h
  have hp : pend r = (chCR :: chLF :: rest, .eof) := by unfold pend; rw [hw, hb]; rfl
  rw [hp] at d1 d3
  rw [deliver, hx, if_pos rfl, normEOL_cr_cons, if_pos (.inl rfl)] at d3
  exact Prod.ext (d3 rfl) d1

/-- **xcodeMoreChars terminates**: with the loop bound that `Inv` asks of a reader (bytes + chunks left in the
stream + 2; the constructors set it), the `while (!bytesEaten)` loop never runs out of fuel — for any stream behaviour
and whatever the transcoder returns. -/
theorem xcodeMoreChars_terminates (r : Reader) (maxChars : Nat) (h : Inv r) :
    xcodeMoreChars r maxChars ≠ .fuelOut := by
  intro hf
  have := xcodeMoreChars_safe r maxChars h
  rwa [hf] at this

/-- **Positions are a function of what was handed out**: line and column after a getNextChar depend
only on the position before and on the delivered character — hence (with the theorems above) not on
the partition or on the buffer geometry. -/
theorem position_of_delivered (r r' : Reader) (c : Nat) (h : SInv r) (hg : getNextChar r = .char c r') :
    (r'.line, r'.col) = posStep (r.line, r.col) c :=
  (getNextChar_step h hg).pos

/-- **Composition with C05**: a forced-UTF-8 reader over ANY `Clean` partition of the UTF-8 encoding of a scalar
string delivers exactly the UTF-16 form of that string (Spec: Unicode Tables 3-6/3-7, D91), end-of-line normalised if
the entity is external, and ends without an error.  (`hnb`: the string does not start with the byte-order mark the
constructor would strip — stated on the first read.) -/
theorem wellformed_utf8_delivered (cfg : Cfg) (nel ext : Bool) (cs : List (List Nat)) (ss : List Nat)
    (hcb : 2 ≤ cfg.charBufSize) (hrb : 6 ≤ cfg.rawBufSize) (hc : Clean cs)
    (hs : XV.Spec.Utf8.Scalars ss) (hflat : cs.flatten = XV.Spec.Utf8.encodeAll ss)
    (hnb : bomLen .utf8 (firstRead cfg cs) = 0) :
    delivered (mkForced cfg .utf8 nel ext false cs) = (deliver nel ext (XV.Spec.Utf8.utf16All ss), .eof) := by
  have hall : decodeAll .utf8 (XV.Spec.Utf8.encodeAll ss) = (XV.Spec.Utf8.utf16All ss, .eof) := by
    have := A8_encodeAll ss hs []
    rwa [List.append_nil, A8_nil, List.append_nil] at this
  obtain ⟨a1, a2, a3⟩ := delivered_spec cfg .utf8 nel ext cs hcb hrb hc
  have hpay : payload cfg .utf8 cs = XV.Spec.Utf8.encodeAll ss := by unfold payload; rw [hnb, hflat]; rfl
  rw [hpay, hall] at a1 a3
  exact Prod.ext (a3 rfl) a1

/-- fCharIndex ≤ fCharsAvail ≤ kCharBufSize, fRawBufIndex ≤ fRawBytesAvail ≤ kRawBufSize, and the live
windows of the model are exactly the index ranges -/
def IdxOK (r : Reader) : Prop :=
  r.charIdx ≤ r.charsAvail ∧ r.charsAvail ≤ r.cfg.charBufSize ∧ r.rawIdx ≤ r.rawAvail ∧ r.rawAvail ≤ r.cfg.rawBufSize ∧
  r.charsAvail - r.charIdx = r.charWin.length ∧ r.rawAvail - r.rawIdx = r.rawWin.length ∧ r.sizeWin.length = r.charWin.length

theorem idxOK_of_cinv (r : Reader) (h : CInv r) : IdxOK r := by
  have h1 := h.inv.char_len; have h2 := h.inv.raw_len
  exact ⟨by omega, h.inv.char_le, by omega, h.inv.raw_le, by omega, by omega, h.inv.size_len⟩

/-- **Index invariant** after one getNextChar that hands out a character, from any `SInv` reader (the
readers of the delivery theorems; any partition, any geometry): fCharIndex ≤ fCharsAvail ≤ kCharBufSize,
fRawBufIndex ≤ fRawBytesAvail ≤ kRawBufSize.  (`reader_inv_reachable` is the statement for every reachable
state, every modelled operation and both constructors.) -/
theorem index_invariant (r r' : Reader) (c : Nat) (h : SInv r) (hg : getNextChar r = .char c r') :
    r'.charIdx ≤ r'.charsAvail ∧ r'.charsAvail ≤ r'.cfg.charBufSize ∧
    r'.rawIdx ≤ r'.rawAvail ∧ r'.rawAvail ≤ r'.cfg.rawBufSize := by
  have hc := getNextChar_cinv r ⟨h.inv, Nat.le_of_succ_le h.cb⟩
  rw [hg] at hc
  obtain ⟨h1, h2, h3, h4, -⟩ := idxOK_of_cinv r' hc
  exact ⟨h1, h2, h3, h4⟩

/-- **The index invariant holds in every reachable state** (C01 leaves the reader's buffers to this theorem):
after any sequence of getNextChar / peekNextChar / getNextCharIfNot / skippedChar / skippedSpace /
skippedString / peekString / refreshCharBuffer / setEncoding calls — whatever they returned — on a reader
built by either constructor (forced encoding or auto-sensing, PE or not) over ANY stream behaviour (any
partition, empty reads included), for any buffer geometry with at least one character slot.
The run goes on from the reader that the model's result carries (`stepOp`): after an exception raised inside
refreshCharBuffer that is the reader as it was when refreshCharBuffer was called (without the refill of the raw
buffer that preceded the throw), and when a model loop runs out of its budget (`.fuelOut`) the reader the
operation was called on; the theorem says nothing of the state in which a throw leaves the C++ object, nor
that the look-ahead loops end within their budget. -/
theorem reader_inv_reachable (cfg : Cfg) (hcb : 1 ≤ cfg.charBufSize) (nel ext pe : Bool) (cs : List (List Nat))
    (ops : List Op) :
    (∀ enc, IdxOK (runOps (mkForced cfg enc nel ext pe cs) ops)) ∧
    (∀ r, mkAuto cfg nel ext pe cs = .ok r → IdxOK (runOps r ops)) := by
  constructor
  · intro enc
    exact idxOK_of_cinv _ (runOps_cinv ops _ (mkForced_cinv cfg enc nel ext pe cs hcb))
  · intro r hr
    exact idxOK_of_cinv _ (runOps_cinv ops _ (mkAuto_cinv hcb hr))

/-- **Auto-sensing depends on the partition only through the first read.**  Two `Clean` partitions of the same
bytes whose FIRST `readBytes` returns the same bytes give the same result: the same constructor outcome
and the same delivered characters, in the sense of `refill_position_invariant`.  (Partial: the full statement would replace `hfr` by "both first reads
have at least fgUCS4PreLen = 24 bytes and contain the whole XML/text declaration, or the whole input";
`sniff_depends_on_first_read` shows that *some* hypothesis on the first read is indispensable for the code
as it stands: the probe and doInitDecode never look beyond it.) -/
theorem sniff_partial (cfg : Cfg) (nel ext : Bool) (cs cs' : List (List Nat))
    (hcb : 2 ≤ cfg.charBufSize) (hrb : 6 ≤ cfg.rawBufSize) (hc : Clean cs) (hc' : Clean cs')
    (hflat : cs.flatten = cs'.flatten) (hfr : firstRead cfg cs = firstRead cfg cs') :
    match mkAuto cfg nel ext false cs, mkAuto cfg nel ext false cs' with
    | .ok r, .ok r' =>
        (delivered r).2 = (delivered r').2 ∧ ((delivered r).2 = .eof → (delivered r).1 = (delivered r').1) ∧
        ((delivered r).1 <+: (delivered r').1 ∨ (delivered r').1 <+: (delivered r).1)
    | .couldNotDecodeFirstLine, .couldNotDecodeFirstLine => True
    | .unmodelled f, .unmodelled f' => f = f'
    | _, _ => False := by
  rw [mkAuto_first_read cfg nel ext false cs cs' hfr]
  cases hm : mkAuto cfg nel ext false cs with
  | couldNotDecodeFirstLine => trivial
  | unmodelled f => rfl
  | ok r =>
    obtain ⟨hs, hst⟩ := mkAuto_sinv hm hcb hrb hc
    -- the first reads are the same, so what is left of the two streams holds the same bytes
    have hfl : (readBytes cs' cfg.rawBufSize).2.flatten = r.stream.flatten := by
      have e := (readBytes_flat cs cfg.rawBufSize).trans (hflat.trans (readBytes_flat cs' cfg.rawBufSize).symm)
      rw [show (readBytes cs cfg.rawBufSize).1 = _ from hfr] at e
      rw [hst]
      exact (List.append_cancel_left e).symm
    have hm' := mkAuto_first_read cfg nel ext false cs cs' hfr
    rw [hm] at hm'
    exact delivered_congr hs (mkAuto_sinv hm' hcb hrb hc').1 (withStream_pend r _ _ hfl) rfl rfl

/-! ### What does NOT hold for the code as it stands (witnesses, evaluated by the kernel) -/

/-- **The position of a decoding error depends on the chunking.**  Same bytes (`ab` + the stray continuation
byte 80), same geometry (this build's constants, low-water mark 0): read in one piece the exception escapes
before anything is delivered (XMLUTF8Transcoder throws away the block it was decoding); read as
`ab` | `80` the two characters are delivered first.  This is why `chars_chunk_invariant` can only
promise "one delivered list is a prefix of the other" when the input is undecodable. -/
theorem error_offset_depends_on_chunking :
    delivered (mkForced (stdCfg 0) .utf8 false true false [[0x61, 0x62, 0x80]]) = ([], .exc .formatError) ∧
    delivered (mkForced (stdCfg 0) .utf8 false true false [[0x61, 0x62], [0x80]]) = ([0x61, 0x62], .exc .formatError) := by
  constructor <;> decide +kernel

/-- **A byte-order mark is only recognised in the first read** (forced UTF-8): fed in one piece the BOM
is skipped, fed one byte at a time it is delivered as U+FEFF. -/
theorem bom_depends_on_first_read :
    delivered (mkForced (stdCfg 100) .utf8 false true false [[0xEF, 0xBB, 0xBF, 0x3C, 0x61, 0x2F, 0x3E]])
      = ([0x3C, 0x61, 0x2F, 0x3E], .eof) ∧
    delivered (mkForced (stdCfg 100) .utf8 false true false [[0xEF], [0xBB], [0xBF], [0x3C], [0x61], [0x2F], [0x3E]])
      = ([0xFEFF, 0x3C, 0x61, 0x2F, 0x3E], .eof) := by
  constructor <;> decide +kernel

/-- characters delivered by an auto-sensing reader (`none`: the constructor threw / family not modelled) -/
def deliveredAuto (cfg : Cfg) (nel ext : Bool) (cs : List (List Nat)) : Option (List Nat × End) :=
  match mkAuto cfg nel ext false cs with
  | .ok r => some (delivered r)
  | _ => none

/-- **Auto-sensing looks at the first read only** (DESIGN §5 F2): a UTF-16LE document with BOM read in
one piece is recognised; read one byte at a time the probe sees a single byte, falls back to UTF-8 and the
first getNextChar fails on the byte FF. -/
theorem sniff_depends_on_first_read :
    deliveredAuto (stdCfg 100) false true [[0xFF, 0xFE, 0x3C, 0x00, 0x61, 0x00, 0x2F, 0x00, 0x3E, 0x00]]
      = some ([0x3C, 0x61, 0x2F, 0x3E], .eof) ∧
    deliveredAuto (stdCfg 100) false true [[0xFF], [0xFE], [0x3C], [0x00], [0x61], [0x00], [0x2F], [0x00], [0x3E], [0x00]]
      = some ([], .exc .formatError) := by
  constructor <;> decide +kernel

/-! ### Non-vacuity: the hypotheses are met by concrete, non-trivial data -/

example : Clean [[0x61, 0xE2], [0x82], [0xAC, 0x0D], [0x0A, 0x62]] := by
  simp [Clean]
/-- sniff_partial: same first read (the whole declaration), different partitions afterwards -/
example : firstRead (stdCfg 100) [[0x3C, 0x3F, 0x78, 0x6D, 0x6C, 0x20, 0x3F, 0x3E], [0x3C, 0x61], [0x2F, 0x3E]]
    = firstRead (stdCfg 100) [[0x3C, 0x3F, 0x78, 0x6D, 0x6C, 0x20, 0x3F, 0x3E], [0x3C], [0x61, 0x2F], [0x3E]] := by
  decide +kernel
example : deliveredAuto (stdCfg 100) false true [[0x3C, 0x3F, 0x78, 0x6D, 0x6C, 0x20, 0x3F, 0x3E], [0x3C, 0x61], [0x2F, 0x3E]]
    = some ([0x3C, 0x3F, 0x78, 0x6D, 0x6C, 0x20, 0x3F, 0x3E, 0x3C, 0x61, 0x2F, 0x3E], .eof) := by decide +kernel
/-- reader_inv_reachable: a run with look-ahead operations across refills of 2-character buffers -/
example : IdxOK (runOps (mkForced ⟨2, 6, 0⟩ .utf8 true true true [[0x3C, 0x21], [0x2D, 0x2D, 0xF0], [0x9F, 0x98, 0x80, 0x0D]])
    [.peekString [0x3C, 0x21], .skippedString [0x3C, 0x21, 0x2D, 0x2D], .getNextChar, .skippedSpace, .getNextChar,
     .peekNextChar, .getNextChar, .getNextChar, .getNextChar]) := by
  unfold IdxOK; decide +kernel

/-- a 3-byte character and a CR LF pair both cut by chunk boundaries, buffers of 2 characters / 6 bytes:
the CR is the last character of a buffer, the LF the first of the next -/
example : delivered (mkForced ⟨2, 6, 0⟩ .utf8 false true false [[0x61, 0xE2], [0x82], [0xAC, 0x0D], [0x0A, 0x62]])
    = ([0x61, 0x20AC, 0x0A, 0x62], .eof) := by decide +kernel
example : delivered (mkForced ⟨2, 6, 0⟩ .utf8 false true false [[0x61, 0xE2, 0x82, 0xAC, 0x0D, 0x0A, 0x62]])
    = ([0x61, 0x20AC, 0x0A, 0x62], .eof) := by decide +kernel
example : decodeAll .utf8 [0x61, 0xE2, 0x82, 0xAC, 0x0D, 0x0A, 0x62] = ([0x61, 0x20AC, 0x0D, 0x0A, 0x62], .eof) := by
  decide +kernel
example : normEOL false [0x61, 0x20AC, 0x0D, 0x0A, 0x62] = [0x61, 0x20AC, 0x0A, 0x62] := by decide +kernel
example : bomLen .utf8 [0x61, 0xE2] = 0 ∧ bomLen .utf8 [0xEF, 0xBB, 0xBF, 0x3C] = 3 ∧ bomLen .utf8 [0xEF] = 0 := by
  decide +kernel
/-- the state `eol_across_refill` talks about is reached: after one getNextChar the window holds just CR -/
example : (match getNextChar (mkForced ⟨2, 6, 0⟩ .utf8 false true false [[0x61, 0x0D, 0x0A, 0x62]]) with
    | .char _ r => r.charWin | _ => []) = [chCR] := by decide +kernel

end XV.Props.C04
