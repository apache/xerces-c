/-
C15 — a parser's result is independent of its history; cached grammars are transparent.
The property theorems, their non-vacuity examples and the witnesses of the recorded defects.

Models: XV.Model.ParserState (parser object as a state machine over an abstract `World`), XV.Model.GrammarPool
(code-shaped XMLGrammarPoolImpl and GrammarResolver), XV.Gen.ScannerFields (GENERATED from the clang AST of the
scanner classes + the reviewed classification tools/c15_fields.json), XV.Gen.ParserFields (the same for the parser
classes, + tools/c15_parser_fields.json).

PARTIAL: what a scan does (`World.scan/next/load`) is an abstract parameter, so "validating with a cached grammar
gives the same verdicts/defaults/types as with the grammar inline" is NOT derivable here; it is tied by the
differential correspondence of tools/props/c15.py (the real parser against a freshly constructed one configured
with `cfgOf h` / `poolOf h` as computed by this model).
-/
import XV.Gen.ScannerFields
import XV.Gen.ParserFields
import XV.Lemmas.GrammarPool
import XV.Lemmas.ParserState
namespace XV.Props.C15
open XV.Model.GrammarPool XV.Model.ParserState XV.Lemmas.GrammarPool XV.Lemmas.ParserState
open XV.Gen.ScannerFields (ClassInfo classes fieldNames seqBumpedBy)

/-- For ALL histories `h` of operations on one parser object and every document `d`: what `parse d` delivers after
`h` is what a freshly constructed parser delivers that is configured with the last-writer-wins configuration
`cfgOf h` and sees the grammar pool `poolOf h` - provided scanReset is complete. -/
theorem history_independent (w : World) (rc : ResetComplete w) (h : List Op) (d : Doc) :
    lastObs (run w (h ++ [.parse d])) = .outcome (freshOutcome w (cfgOf w h) (poolOf w h) d .full) := by
  rw [run, exec_snoc]
  exact (lastObs_snoc _ _).trans (congrArg Obs.outcome (history_independent_mode rc h d .full))

/-- the same for a parse that is aborted by a handler exception at callback `k` … -/
theorem history_independent_throw (w : World) (rc : ResetComplete w) (h : List Op) (d : Doc) (k : Nat) :
    lastObs (run w (h ++ [.parseThrow d k])) = .outcome (freshOutcome w (cfgOf w h) (poolOf w h) d (.throwAt k)) := by
  rw [run, exec_snoc]
  exact (lastObs_snoc _ _).trans (congrArg Obs.outcome (history_independent_mode rc h d (.throwAt k)))

/-- … and for the first step of a progressive parse.  Only the outcome is compared: `freshOutcome` does not return the
success flag of `scanFirst`, so the flag the caller observes is left open (`∃ ok`). -/
theorem history_independent_first (w : World) (rc : ResetComplete w) (h : List Op) (d : Doc) :
    ∃ ok, lastObs (run w (h ++ [.parseFirst d])) = .first (freshOutcome w (cfgOf w h) (poolOf w h) d .first) ok := by
  rw [run, exec_snoc]
  exact ⟨_, (lastObs_snoc _ _).trans (congrArg (Obs.first · _) (history_independent_mode rc h d .first))⟩

/-- the whole observable state, not just the last outcome: the real machine (per-parse members persist) and the
reference machine (every scan starts from the per-parse state of a new scanner) coincide on every history -/
theorem real_eq_reference (w : World) (rc : ResetComplete w) (h : List Op) : run w h = runRef w h :=
  exec_ref rc h (fresh w)

def mask : List Nat → Nat
  | [] => 0
  | i :: l => 1 <<< i ||| mask l

theorem testBit_mask (l : List Nat) (f : Nat) : (mask l).testBit f = true ↔ f ∈ l := by
  induction l with
  | nil => simp [mask]
  | cons i l ih =>
    rw [mask, Nat.testBit_or, Bool.or_eq_true, ih, Nat.one_shiftLeft, Nat.testBit_two_pow, decide_eq_true_eq,
      List.mem_cons, eq_comm]

/-- Membership in the generated field lists is decided through `mask`, the members of a list as the bits of one number: the
kernel computes with numbers natively, so one bit test replaces the walk through the list that the library instance makes
for every member of every list. -/
local instance (f : Nat) (l : List Nat) : Decidable (f ∈ l) := decidable_of_iff _ (testBit_mask l f)

/-- every data member of every scanner class is classified (a member added later breaks this) -/
theorem all_classified : ∀ c ∈ classes, ∀ f ∈ c.fields,
    f ∈ c.configFields ∨ f ∈ c.perParseFields ∨ f ∈ c.scratchFields := by decide +kernel

/-- every per-parse member is re-initialised by scanReset (assignment or reset-call in its closure), or is a reviewed
exception, or a recorded defect (`knownUnreset`: empty on the current tree; fReaderMgr until /repo 66d76a0, fXMLVersion
until c5d1395) -/
theorem reset_complete : ∀ c ∈ classes, ∀ f ∈ c.perParseFields,
    f ∈ c.resetAssigned ∨ f ∈ c.resetCalled ∨ f ∈ c.knownReinitialisedElsewhere ∨ f ∈ c.knownUnreset := by decide +kernel

/-- scanReset never assigns a configuration member a value computed from object state, except for the recorded
defect (`knownConfigOverwrite`: empty on the current tree; IGXMLScanner fSkipDTDValidation, DESIGN F11, until /repo 3eb9a2e) -/
theorem reset_touches_no_config : ∀ c ∈ classes, ∀ f ∈ c.configFields,
    f ∉ c.resetAssignedFromNonConfig ∨ f ∈ c.knownConfigOverwrite := by decide +kernel

/-- a member classified as configuration is written only by setters / at construction, never by scanning code -/
theorem config_justified : ∀ c ∈ classes, ∀ f ∈ c.configFields,
    f ∉ c.scanAssigned ∧ (f ∈ c.setterAssigned ∨ f ∈ c.ctorInit) := by decide +kernel

/-- the recorded defects are exactly what the code does: a member listed in `knownUnreset` or `knownConfigOverwrite`
that no longer needs to be (because the code was repaired) breaks this theorem, so these two lists cannot go stale.  Both
are empty on the current tree; the reviewed list `knownReinitialisedElsewhere` is not covered here (the parser version
`Parsers.parser_exceptions_exact` covers its counterpart). -/
theorem exceptions_exact : ∀ c ∈ classes,
    (∀ f ∈ c.knownUnreset, f ∈ c.perParseFields ∧ f ∉ c.resetAssigned ∧ f ∉ c.resetCalled) ∧
    (∀ f ∈ c.knownConfigOverwrite, f ∈ c.configFields ∧ f ∈ c.resetAssignedFromNonConfig) := by decide +kernel

/-- every scan entry point the translator lists in `seqBumpedBy` increments fSequenceId; on the current tree the list
holds scanDocument of the four scanners, scanFirst and scanReset(token) (the theorem does not say which entries there are) -/
theorem seq_bumped_on_every_entry : ∀ e ∈ seqBumpedBy, e.2 = true := by decide

/-- a scanner class as a `World`: per-parse state = values of the members, scanReset assigns `resetVal` (a function
of the configuration only) to the members in `resetSet`; the scanning functions are arbitrary -/
def fieldWorld (fc : FieldClass) (resetVal : Config → Nat → Nat) (O : Type)
    (scan : Config → FState → PoolView → Doc → Mode → O × FState × PoolDelta × Bool)
    (next : Config → FState → PoolView → O × FState × PoolDelta)
    (load : Config → FState → PoolView → Gram → Bool → FState × Bool) : World where
  PerParse := FState
  Outcome := O
  cfg0 := fun _ => 0
  setter := fun k v c => upd c k v
  resetCfg := fc.resetCfg
  init := fun _ => 0
  reset := fc.reset resetVal
  scan := scan
  next := next
  abandon := id
  load := load

/-- if every per-parse member is in the reset set, the class is reset-complete - whatever the scanning code does -/
theorem field_reset_complete (fc : FieldClass) (resetVal O scan next load)
    (h : ∀ f ∈ fc.perParse, f ∈ fc.resetSet) : ResetComplete (fieldWorld fc resetVal O scan next load) := by
  refine ⟨?_, ?_, ?_⟩
  · intro c pp; funext f
    simp only [fieldWorld, FieldClass.reset]
    by_cases hf : f ∈ fc.perParse
    · simp [hf, h f hf]
    · simp [hf]
  · intro c; funext k
    simp only [fieldWorld, FieldClass.resetCfg]
    split <;> simp_all
  · intro k v c; funext k'
    simp only [fieldWorld, FieldClass.resetCfg, upd]
    -- a key scanReset overwrites with a constant gets it whatever was set; every other key goes through `upd` on both sides
    split
    · rfl
    · simp

/-- … and conversely one per-parse member outside the reset set refutes `ResetComplete`: `history_independent` then says
nothing about the class (whether a parse can tell the histories apart is up to the scanning code) -/
theorem field_reset_incomplete (fc : FieldClass) (resetVal O scan next load)
    (f : Nat) (hp : f ∈ fc.perParse) (hn : f ∉ fc.resetSet) :
    ¬ ResetComplete (fieldWorld fc resetVal O scan next load) := by
  intro rc
  have := congrFun (rc.perParse (fun _ => 0) (fun _ => 1)) f
  simp [fieldWorld, FieldClass.reset, hp, hn] at this

/-- the class as generated; `repaired` adds the recorded defects to the reset set -/
def toFieldClass (c : ClassInfo) (repaired : Bool) : FieldClass where
  perParse := c.perParseFields
  config := c.configFields
  resetSet := c.resetAssigned ++ c.resetCalled ++ c.knownReinitialisedElsewhere ++ (if repaired then c.knownUnreset else [])
  constCfg := (c.configFields.filter (fun f => c.resetAssigned.contains f && !c.resetAssignedFromNonConfig.contains f)).map (fun f => (f, 1))

/-- every scanner class, with the recorded defects repaired, is reset-complete (so `history_independent` applies to
it for every scanning behaviour) … -/
theorem classes_reset_complete_after_repair (resetVal O scan next load) : ∀ c ∈ classes,
    ResetComplete (fieldWorld (toFieldClass c true) resetVal O scan next load) := by
  intro c hc
  refine field_reset_complete _ _ _ _ _ _ fun f hf => ?_
  simpa only [toFieldClass, if_true, List.mem_append, or_assoc] using reset_complete c hc f hf

/-- … and on the current tree (after /repo 66d76a0 "every scan must start from an empty reader manager" and c5d1395)
`knownUnreset` is empty: every scanner class AS GENERATED is reset-complete, so `history_independent` applies to each of
them whatever the scanning code does.  This is a statement about the field abstraction, in which the members of the reviewed
list `knownReinitialisedElsewhere` (`elsewhere` in tools/c15_fields.json: 2 members of IGXMLScanner, 13 of WFXMLScanner, 4
of DGXMLScanner, 2 of SGXMLScanner) count as reset although scanReset does not touch them: fSequenceId, which has to
persist (the token theorems below), members the class does not use, DGXMLScanner's fElemCount, and the three
undeclared-element caches, of which SGXMLScanner's fElemNonDeclPool is the suspect of the open finding
`sgscanner-history-dependent-outcome` (DESIGN 7.2b).  (Before those repairs the unreset members fReaderMgr / fXMLVersion made
every class history dependent; in the model, `field_reset_incomplete` then refutes `ResetComplete`.) -/
theorem classes_reset_complete (resetVal O scan next load) : ∀ c ∈ classes,
    ResetComplete (fieldWorld (toFieldClass c false) resetVal O scan next load) := by
  intro c hc
  have hk : ∀ c ∈ classes, c.knownUnreset = [] := by decide
  have e : toFieldClass c false = toFieldClass c true := by simp only [toFieldClass, hk c hc, ite_self]
  exact e ▸ classes_reset_complete_after_repair resetVal O scan next load c hc

/-! ### the parser classes (AbstractDOMParser → XercesDOMParser / DOMLSParserImpl, SAXParser, SAX2XMLReaderImpl)

The same kind of decided statements over `XV.Gen.ParserFields` (clang AST + tools/c15_parser_fields.json): the parser objects keep
state of their own between the scanner's callbacks (fInternalSubset, fCurrentParent, fWithinElement, fDocumentAdoptedByUser,
fElemDepth, fPrefixes, fPrefixCounts, …), and the scanner announces a new document to them with resetDocument() / resetDocType().
(C01's `domParser_reset_complete` covers the raw DOM pointers of AbstractDOMParser only.) -/
namespace Parsers
open XV.Gen.ParserFields (PClassInfo fieldId XercesDOMParser DOMLSParserImpl)
abbrev pclasses := XV.Gen.ParserFields.classes

/-- every data member of every parser class is classified (a member added later breaks this) -/
theorem parser_all_classified : ∀ c ∈ pclasses, ∀ f ∈ c.fields,
    f ∈ c.configFields ∨ f ∈ c.perParseFields ∨ f ∈ c.scratchFields := by decide +kernel

/-- every per-parse member is re-initialised by the reset events (resetDocument()/resetDocType() and their same-object callees:
assignment or reset*/removeAll*/clear*/flush* call), or at the start of every parse entry point (DOMLSParserImpl's filter
tables), or is a reviewed exception.  Moving `fInternalSubset.reset()` out of AbstractDOMParser::reset() breaks this. -/
theorem parser_reset_complete : ∀ c ∈ pclasses, ∀ f ∈ c.perParseFields,
    f ∈ c.resetAssigned ∨ f ∈ c.resetCalled ∨ f ∈ c.entryReset ∨ f ∈ c.knownReinitialisedElsewhere := by decide +kernel

/-- configuration members are not assigned by the reset events nor (reviewed exceptions apart) by callbacks / parse code, and
each has a setter or is fixed at construction -/
theorem parser_config_justified : ∀ c ∈ pclasses, ∀ f ∈ c.configFields,
    f ∉ c.resetAssigned ∧ (f ∉ c.otherAssigned ∨ f ∈ c.configWrittenElsewhere) ∧ (f ∈ c.setterAssigned ∨ f ∈ c.ctorInit) := by decide +kernel

/-- the reviewed exceptions are all needed (an exception that the code no longer requires breaks this, so the lists stay exact) -/
theorem parser_exceptions_exact : ∀ c ∈ pclasses,
    (∀ f ∈ c.knownReinitialisedElsewhere, f ∈ c.perParseFields ∧ f ∉ c.resetAssigned ∧ f ∉ c.resetCalled ∧ f ∉ c.entryReset) ∧
    (∀ f ∈ c.configWrittenElsewhere, f ∈ c.configFields ∧ f ∈ c.otherAssigned) := by decide +kernel

/-- a parser class as generated; the reset events take the place of scanReset -/
def toFieldClassP (c : PClassInfo) : FieldClass where
  perParse := c.perParseFields
  config := c.configFields
  resetSet := c.resetAssigned ++ c.resetCalled ++ c.entryReset ++ c.knownReinitialisedElsewhere
  constCfg := []

/-- with the reset events as `World.reset`, the parser object's own per-parse members satisfy `ResetComplete` too, so
`history_independent` covers what the parser classes keep between callbacks (exceptions as reviewed) -/
theorem parser_classes_reset_complete (resetVal O scan next load) : ∀ c ∈ pclasses,
    ResetComplete (fieldWorld (toFieldClassP c) resetVal O scan next load) := by
  intro c hc
  refine field_reset_complete _ _ _ _ _ _ fun f hf => ?_
  simpa only [toFieldClassP, List.mem_append, or_assoc] using parser_reset_complete c hc f hf

example : pclasses.length = 4 ∧ (pclasses.map (·.perParseFields.length)) = [10, 15, 2, 6] := by decide +kernel
example : fieldId "fInternalSubset" ∈ XercesDOMParser.resetCalled ∧ fieldId "fInternalSubset" ∈ DOMLSParserImpl.perParseFields := by decide +kernel

end Parsers

/-! ### DESIGN F11: `fSkipDTDValidation = fSkipDTDValidation && fDoSchema`, the statement IGXMLScanner::scanReset contained
until /repo 3eb9a2e.  The two theorems are facts about a World of that OLD shape (they do not depend on generated data): they
show why `reset_touches_no_config` forbids such an assignment. -/

/-- key 0 = skip-DTD-validation, key 1 = do-schema; a scan reports the value of the flag it ran with -/
def f11World : World where
  PerParse := Unit
  Outcome := Nat
  cfg0 := fun _ => 0
  setter := fun k v c => upd c k v
  resetCfg := fun c => upd c 0 (if c 0 != 0 && c 1 != 0 then 1 else 0)
  init := ()
  reset := fun _ _ => ()
  scan := fun c _ _ _ _ => (c 0, (), [], true)
  next := fun c _ _ => (c 0, (), [])
  abandon := id
  load := fun _ _ _ _ _ => ((), true)

/-- a two-parse history exposes it: set skip-DTD-validation, parse once with schema processing off, switch schema
processing on: the second parse runs with the flag cleared, a fresh parser with the same settings runs with it set. -/
theorem f11_history_dependent :
    let h : List Op := [.set 0 1, .parse 7, .set 1 1]
    @Eq Nat (startScan false (run f11World h) 8 .full).2.1 0 ∧
    @Eq Nat (freshOutcome f11World (cfgOf f11World h) (poolOf f11World h) 8 .full) 1 := by
  exact ⟨rfl, rfl⟩

theorem f11_not_reset_complete : ¬ ResetComplete f11World := by
  intro rc
  have := congrFun (rc.absorbed 1 1 (fun k => if k = 0 then 1 else 0)) 0
  revert this; decide

/-- A token handed out by `parseFirst` is rejected (RuntimeException Scan_BadPScanToken) by `parseNext` and by
`parseReset` once any later operation started another scan or replaced the scanner - for every world, every history
before, every history after of fewer than 2^32 operations (fSequenceId is an XMLUInt32 and wraps). -/
theorem stale_token_rejected (w : World) (h1 h2 : List Op) (d : Doc)
    (hinv : h2.any invalidates = true) (hlen : h2.length < seqMod) :
    let t := (run w h1).tokens.length
    lastObs (run w (h1 ++ [.parseFirst d] ++ h2 ++ [.parseNext t])) = .rejected ∧
    lastObs (run w (h1 ++ [.parseFirst d] ++ h2 ++ [.parseReset t])) = .rejected := by
  intro t
  have e : ∀ x, run w (h1 ++ [.parseFirst d] ++ h2 ++ [x]) =
      step false (exec false h2 (step false (run w h1) (.parseFirst d))) x := fun x => by
    rw [run, exec_snoc, exec_append, exec_snoc]; rfl
  obtain ⟨tok, ht, hk⟩ := parseFirst_token false (run w h1) d
  rw [e, e]
  exact stale_rejected_core false _ (step_tokInv false _ _ (exec_tokInv false h1 _ (fresh_tokInv w))) _ tok ht hk h2
    hinv hlen

/-- a successful `parseReset` itself invalidates the token it was given: `bump p` carries the ids of the state an accepted
`parseReset` leaves (`step_parseReset`).  `invalidates` does not count `parseReset`, so this case is not under
`stale_token_rejected`. -/
theorem token_dead_after_reset (w : World) (p : Parser w) (hi : TokInv p) (tok : Token) (h : isLegalToken p tok = true) :
    isLegalToken (bump p) tok = false := by
  obtain ⟨_, _, hs⟩ := hi
  simp only [isLegalToken, bump, Bool.and_eq_true, beq_iff_eq] at h ⊢
  obtain ⟨_, h2⟩ := h
  have : (p.seq + 1) % seqMod ≠ tok.seq := by rw [← h2, hs]; simp only [seqMod]; omega
  simp [this]

/-- For every history, and also after the parser is destroyed: no document handed to the user by adoptDocument() is
ever released by the parser (resetDocumentPool, later parses, the destructor). -/
theorem adopted_docs_intact (w : World) (h : List Op) :
    (∀ d ∈ (run w h).docs.adopted, d ∉ (run w h).docs.released) ∧
    (∀ d ∈ (run w h).docs.destroy.adopted, d ∉ (run w h).docs.destroy.released) := by
  have hi : DocInv (run w h).docs := exec_docInv false h (fresh w) docInv_init
  exact ⟨fun d hd => (hi.adopted d hd).1, fun d hd => (hi.resetPool.adopted d hd).1⟩

/-- XMLGrammarPoolImpl: no sequence of pool operations other than unlockPool changes the grammar registry or the URI string
pool of a locked pool (a new URI string goes to the synchronized pool).  A grammar is a key and an identity here (`Gram`):
what stays is which grammar objects are registered under which keys, not what they contain.  The open findings
`locked-pool-modified` (scanReset refills the pooled "[dtd]" grammar) and `locked-pool-uri-strings` (DESIGN 7.2b) are about
content and about a string pool pointer taken before the lock, and lie outside this model. -/
theorem locked_pool_frozen (p : Pool) (hl : p.locked = true) (ops : List PoolOp) (hu : ∀ op ∈ ops, op ≠ .unlock) :
    (runOps ops p).registry = p.registry ∧ (runOps ops p).strings = p.strings ∧ (runOps ops p).locked = true :=
  let h := runOps_frozen ops p hl hu; ⟨h.registry, h.strings, h.locked⟩

theorem cache_then_retrieve (p : Pool) (g : Gram) (hl : p.locked = false) (hn : retrieveGrammar p g.key = none) :
    (cacheGrammar p (some g)).2 = true ∧ retrieveGrammar (cacheGrammar p (some g)).1 g.key = some g ∧
    ∀ k, k ≠ g.key → retrieveGrammar (cacheGrammar p (some g)).1 k = retrieveGrammar p k := by
  have hc : tblContains p.registry g.key = false := by rw [tblContains, ← retrieveGrammar, hn]; rfl
  have hr : (cacheGrammar p (some g)).1.registry = tblPut p.registry g := by
    simp only [cacheGrammar, hl, hc, Bool.false_eq_true, if_false]; split <;> rfl
  refine ⟨by simp only [cacheGrammar, hl, hc, Bool.false_eq_true, if_false], ?_, fun k hk => ?_⟩
  · rw [retrieveGrammar, hr, tblGet_put_self]
  · rw [retrieveGrammar, hr, tblGet_put_other _ _ _ hk]; rfl

/-- a second grammar with a key that is already cached is refused and changes nothing -/
theorem cache_existing_rejected (p : Pool) (g : Gram) (h : (retrieveGrammar p g.key).isSome) :
    cacheGrammar p (some g) = (p, false) := by
  have hc : tblContains p.registry g.key = true := h
  simp only [cacheGrammar, hc]
  split <;> rfl

theorem orphan_removes (p : Pool) (k : Nat) (hl : p.locked = false) :
    (orphanGrammar p k).2 = retrieveGrammar p k ∧ retrieveGrammar (orphanGrammar p k).1 k = none ∧
    ∀ k', k' ≠ k → retrieveGrammar (orphanGrammar p k).1 k' = retrieveGrammar p k' := by
  have hr : (orphanGrammar p k).1.registry = tblRemove p.registry k := by
    simp only [orphanGrammar, hl, Bool.not_false, if_true]
    split
    · split <;> rfl
    · rfl
  refine ⟨by simp only [orphanGrammar, hl, Bool.not_false, if_true]; rfl, ?_, fun k' hk' => ?_⟩
  · rw [retrieveGrammar, hr, tblGet_remove_self]
  · rw [retrieveGrammar, hr, tblGet_remove_other _ _ _ hk']; rfl

theorem clear_noop_when_locked (p : Pool) (hl : p.locked = true) : clear p = (p, false) :=
  clear_locked p hl

/-- GrammarResolver: no sequence of resolver operations (getGrammar, putGrammar, cacheGrammars, reset,
resetCachedGrammar, orphanGrammar, flag changes, pool operations other than unlock) changes the registry or the URI string
pool of a locked pool -/
theorem resolver_locked_pool_frozen (r : Resolver) (hl : r.pool.locked = true) (ops : List ResOp)
    (hu : ∀ op ∈ ops, op ≠ .pool .unlock) :
    (runResOps ops r).pool.registry = r.pool.registry ∧ (runResOps ops r).pool.strings = r.pool.strings :=
  let h := runResOps_frozen ops r hl hu; ⟨h.registry, h.strings⟩

/-- lookup order of GrammarResolver::getGrammar -/
theorem resolver_lookup_order (r : Resolver) (k : Nat) :
    (∀ g, tblGet r.bucket k = some g → (getGrammar r k).2 = some g) ∧
    (tblGet r.bucket k = none → r.useCached = false → (getGrammar r k).2 = none) ∧
    (tblGet r.bucket k = none → r.useCached = true → tblGet r.fromPool k = none →
      (getGrammar r k).2 = retrieveGrammar r.pool k) :=
  ⟨fun g h => getGrammar_bucket_first r k g h, getGrammar_no_cache r k, getGrammar_from_pool r k⟩

/-- the parser object as a whole: whatever it is asked to do (parses that would cache grammars, loadGrammar with
toCache, resetCachedGrammarPool, …), short of unlockPool, the `Pool` record of a locked pool stays as it was (registry
of keys and identities, flags, string lists; see `locked_pool_frozen` for what that leaves out).  `syncStrings` is among
what stays only because the URI strings a scan adds to the synchronized pool are not part of `World.scan`, whose
`PoolDelta` is grammars. -/
theorem parser_locked_pool_frozen (w : World) (h1 h2 : List Op) (hl : (run w h1).res.pool.locked = true)
    (hu : ∀ op ∈ h2, op ≠ .unlock) : (run w (h1 ++ h2)).res.pool = (run w h1).res.pool := by
  unfold run at hl ⊢
  rw [exec_append]
  exact exec_pool false h2 _ hl hu

/-- a small world that satisfies `ResetComplete` non-trivially: per-parse state counts callbacks and is wiped by
scanReset; an outcome is (validation flag the scan ran with, number of cached grammars it saw, document, per-parse
state it started from) -/
def toyWorld : World where
  PerParse := Nat
  Outcome := Nat × Nat × Nat × Nat
  cfg0 := fun _ => 0
  setter := fun k v c => upd c k v
  resetCfg := id
  init := 5
  reset := fun _ _ => 0
  scan := fun c pp v d _ => ((c 3, v.grammars.length, d, pp), pp + d + 1, [⟨d, false, d⟩], true)
  next := fun c pp v => ((c 3, v.grammars.length, 0, pp), pp + 1, [])
  abandon := id
  load := fun _ pp _ _ _ => (pp + 100, true)

theorem toy_reset_complete : ResetComplete toyWorld := ⟨fun _ _ => rfl, fun _ => rfl, fun _ _ _ => rfl⟩

/-- a history with feature changes, a caching parse, an exception-aborted parse, an abandoned progressive parse … -/
def toyHist : List Op :=
  [.set 3 1, .set kCache 1, .set kUse 1, .parse 4, .set 3 0, .parseThrow 2 1, .parseFirst 9, .parseNext 0, .set 3 1,
   .loadGrammar ⟨77, true, 1⟩ true, .lock, .parse 6]

example : lastObs (run toyWorld (toyHist ++ [.parse 8])) = .outcome ((1, 4, 8, 0) : Nat × Nat × Nat × Nat) := by
  rw [history_independent toyWorld toy_reset_complete]; rfl
example : (poolOf toyWorld toyHist).pool.registry.map (·.key) = [4, 2, 9, 77] := by decide
example : (cfgOf toyWorld toyHist) 3 = 1 ∧ (cfgOf toyWorld toyHist) kCache = 1 := by decide

/-- stale tokens: the hypotheses of `stale_token_rejected` are satisfiable, and a *live* token is accepted -/
example : ([Op.set 3 1, .parse 4] : List Op).any invalidates = true ∧ ([Op.set 3 1, .parse 4] : List Op).length < seqMod := by decide
example : @Eq Nat (run toyWorld [.parseFirst 9, .parseNext 0]).perParse 11 := rfl     -- accepted: the scan advanced
example : @Eq Nat (run toyWorld [.parseFirst 9, .parse 1, .parseNext 0]).perParse 2 := rfl  -- rejected: state untouched

/-- adopted documents: documents 0 and 2 are adopted, 1 and 3 are released, 0 and 2 never -/
example : (run toyWorld [.parse 1, .adopt, .parse 2, .parse 3, .adopt, .resetDocPool, .parse 4]).docs.destroy.adopted = [2, 0] ∧
    (run toyWorld [.parse 1, .adopt, .parse 2, .parse 3, .adopt, .resetDocPool, .parse 4]).docs.destroy.released = [1, 3] := by decide

example : (runOps [.cache ⟨1, true, 10⟩, .lock, .cache ⟨2, false, 11⟩, .orphan 1, .clear, .addURI 5] {}).registry = [⟨1, true, 10⟩] := by decide
example : retrieveGrammar (cacheGrammar {} (some ⟨1, true, 10⟩)).1 1 = some ⟨1, true, 10⟩ := by decide
example : (orphanGrammar (cacheGrammar {} (some ⟨1, true, 10⟩)).1 1).2 = some ⟨1, true, 10⟩ := by decide
example : clear (lockPool (cacheGrammar {} (some ⟨1, true, 10⟩)).1) = (lockPool (cacheGrammar {} (some ⟨1, true, 10⟩)).1, false) := by decide
example : (run toyWorld [.set kCache 1, .set kUse 1, .parse 4, .lock]).res.pool.locked = true := by decide
/-- generated data is not trivial -/
example : classes.length = 4 ∧ (classes.map (·.perParseFields.length)).all (· ≥ 20) = true := by decide
example : (classes.map (·.knownUnreset.length)) = [0, 0, 0, 0] ∧ (classes.map (·.knownConfigOverwrite.length)) = [0, 0, 0, 0] := by decide

end XV.Props.C15
