/-
C18 — MemoryManager discipline and Initialize/Terminate lifecycle.  Property theorems only.
Spec:   XV.Spec.Ledger (Disciplined / Balanced over alloc/free traces), XV.Spec.Arena (ArenaOk).
Models: XV.Model.Ledger (streaming monitor = the oracle that judges recorded traces),
        XV.Model.Lifecycle (Initialize/Terminate counter machine), XV.Model.Arena (DOMDocumentImpl::allocate).
Constants: XV.Gen.DomHeap (regenerated from DOMDocumentImpl.cpp / PlatformUtils.cpp each run).
What is *not* proved here: that the C++ parser code emits disciplined traces — that part is explored
(recorded runs judged by `monitor`), see tools/props/c18.py.
-/
import XV.Lemmas.Ledger
import XV.Model.XMemory
import XV.Lemmas.Lifecycle
import XV.Lemmas.Arena
import XV.Model.DomHeapGen
namespace XV.Props.C18

section Ledger
open XV.Spec.Ledger XV.Spec.Ledger.Event XV.Model.Ledger XV.Lemmas.Ledger

/-- The monitor accepts exactly the traces in which every release matches one earlier, still live allocation of
the same manager (no foreign pointer, no double free, no wrong manager, no block handed out twice) and nothing is
left at the end.  All traces, any length; pointer values may be re-used after release. -/
theorem monitor_iff (tr : List Event) : monitor tr = .ok () ↔ Disciplined tr ∧ Balanced tr := by
  have h := monitor_spec tr
  cases hm : monitor tr with
  | ok u => rw [hm] at h; exact ⟨fun _ => h, fun _ => rfl⟩
  | error v => rw [hm] at h; exact ⟨nofun, fun hh => absurd hh h.not_ok⟩

/-- When the monitor rejects, what it reports is the *first* breach and it is classified correctly:
either `index` is the position of an event `e` such that the events before it are disciplined and `e` breaks the
discipline in the reported way (so no shorter prefix is at fault and every extension stays undisciplined), or the whole
trace is disciplined, `index` is its length and `leak ids` lists exactly the blocks still live. -/
theorem monitor_first_violation (tr : List Event) (v : Violation) (h : monitor tr = .error v) :
    FirstViolation tr v ∧
    ((∀ ids, v.kind ≠ .leak ids) → ∃ pre e post, tr = pre ++ e :: post ∧ v.index = pre.length ∧
        Disciplined pre ∧ Breaks pre e v.kind ∧ ¬ OkEvent pre e ∧ ∀ post', ¬ Disciplined (pre ++ e :: post')) := by
  have hf : FirstViolation tr v := by have := monitor_spec tr; rw [h] at this; exact this
  refine ⟨hf, fun hk => ?_⟩
  have key : ∃ pre e post, tr = pre ++ e :: post ∧ v.index = pre.length ∧ Disciplined pre ∧ Breaks pre e v.kind := by
    unfold FirstViolation at hf
    split at hf
    · exact (hk _ ‹_›).elim
    · exact hf
  obtain ⟨pre, e, post, htr, hi, hd, hb⟩ := key
  have hno := breaks_not_ok hd hb
  exact ⟨pre, e, post, htr, hi, hd, hb, hno, fun post' hD => hno (hD pre e post' rfl)⟩

/-- A block has one owner at a time in a disciplined history (so "the same manager" is well defined). -/
theorem owner_unique (pre : List Event) (hd : Disciplined pre) (p m m' : Nat)
    (h1 : LiveAfter pre p m) (h2 : LiveAfter pre p m') : m = m' :=
  XV.Lemmas.Ledger.owner_unique hd h1 h2

-- non-vacuity of owner_unique: block 7 is live after this disciplined history, and its only owner is manager 2
example : LiveAfter [alloc 1 7 16, free 1 7, alloc 2 7 8] 7 2 := ⟨[alloc 1 7 16, free 1 7], [], 8, rfl, by simp⟩
example : ∀ m, LiveAfter [alloc 1 7 16, free 1 7, alloc 2 7 8] 7 m → m = 2 := fun m h =>
  owner_unique _ (disciplined_prefix (post := [free 2 7]) ((monitor_iff [alloc 1 7 16, free 1 7, alloc 2 7 8, free 2 7]).mp rfl).1) 7 m 2 h
    ⟨[alloc 1 7 16, free 1 7], [], 8, rfl, by simp⟩

-- non-vacuity: address 7 is re-used by another manager after it was released — accepted, hence disciplined and balanced
example : monitor [alloc 1 7 16, alloc 1 9 4, free 1 7, alloc 2 7 8, free 2 7, free 1 9] = .ok () := rfl
example : Disciplined [alloc 1 7 16, alloc 1 9 4, free 1 7, alloc 2 7 8, free 2 7, free 1 9] ∧
    Balanced [alloc 1 7 16, alloc 1 9 4, free 1 7, alloc 2 7 8, free 2 7, free 1 9] :=
  (monitor_iff _).mp rfl
-- every kind of breach is reported, at the first offending index
example : monitor [alloc 1 7 16, free 1 7, free 1 7] = .error ⟨2, .doubleFree⟩ := rfl
example : monitor [alloc 1 7 16, free 1 8] = .error ⟨1, .foreignFree⟩ := rfl
example : monitor [alloc 1 7 16, free 2 7] = .error ⟨1, .wrongManager 1⟩ := rfl
example : monitor [alloc 1 7 16, alloc 2 7 16] = .error ⟨1, .dupAlloc 1⟩ := rfl
example : monitor [alloc 1 7 16, alloc 1 8 1, free 1 7] = .error ⟨3, .leak [8]⟩ := rfl
example : ¬ Disciplined [alloc 1 7 16, free 1 7, free 1 7] := by
  obtain ⟨_, h⟩ := monitor_first_violation [alloc 1 7 16, free 1 7, free 1 7] ⟨2, .doubleFree⟩ rfl
  obtain ⟨pre, e, post, htr, _, _, _, _, hno⟩ := h (by intro ids; simp)
  rw [htr]; exact hno post

/-- `XMemory`: the object pointer handed out by `operator new(size, manager)` leads `operator delete` back to the
raw block and to the manager that allocated it, provided the header word is not overwritten in between (`hkeep`).
So the release event names the allocating manager — which is what `Disciplined` demands. -/
theorem header_roundtrip (header : Nat) (mem : XV.Model.XMemory.Mem) (tr : List Event) (mgr block size : Nat)
    (mem' : XV.Model.XMemory.Mem) (tr' : List Event)
    (hkeep : mem' block = (XV.Model.XMemory.xnew header mem tr mgr block size).1 block) :
    XV.Model.XMemory.xdelete header mem' tr' (XV.Model.XMemory.xnew header mem tr mgr block size).2.2 =
      tr' ++ [free mgr block] := by
  simp [XV.Model.XMemory.xdelete, XV.Model.XMemory.xnew, XV.Model.XMemory.store] at hkeep ⊢
  exact hkeep

-- non-vacuity: new then delete through the header is a disciplined, balanced trace
example : monitor (XV.Model.XMemory.xdelete 8 (XV.Model.XMemory.xnew 8 (fun _ => 0) [] 3 1000 40).1
    (XV.Model.XMemory.xnew 8 (fun _ => 0) [] 3 1000 40).2.1 (XV.Model.XMemory.xnew 8 (fun _ => 0) [] 3 1000 40).2.2) = .ok () := rfl

end Ledger

section Lifecycle
open XV.Model.Lifecycle XV.Lemmas.Lifecycle XV.Model.DomHeapGen

/-- the statics before the first `Initialize` -/
def start (h : Heap) : St := { heap := h }

/-- Any balanced nesting of Initialize/Terminate (either overload, any arguments, any depth — including depths
that saturate the LONG_MAX guard) ends in the initial state: flag 0, no manager, `fgMemMgrAdopted` back to true,
subsystems down; every manager the library created itself has been deleted exactly once and no application
manager was ever deleted.  If `Terminate` resets the DOM heap sizes to the values `h` they had at the start (and
`LONG_MAX > 1`), they are `h` again. -/
theorem init_term_balanced (c : Cfg) (h : Heap) (ops : List Op) (hb : balanced ops = true) :
    let s := run c (start h) ops
    s.flag = 0 ∧ s.mgr = none ∧ s.adopted = true ∧ s.up = false ∧
    s.deleted = allDefaults s.made ∧ (∀ u, Mgr.user u ∉ s.deleted) ∧
    (1 < c.longMax → c.reset = some h → s.heap = h) := by
  intro s
  have hz : s.flag = 0 := balanced_flag_zero c ops 0 (start h) (by simp [start]) hb
  have w : WF s := wf_run c ops _ (wf_init h)
  obtain ⟨h1, h2, h3, h4⟩ := w.down hz
  refine ⟨hz, h1, h2, h3, h4, ?_, ?_⟩
  · intro u hu
    rw [h4] at hu
    simp [allDefaults] at hu
  · intro _ hr
    exact heapDown_run c ops (start h) (by intro d hd _; simp [start] at *; rw [hr] at hd; cases hd; rfl) h hr hz

/-- The outermost `Terminate` deletes the manager iff the library adopted (created) it. -/
theorem terminate_deletes_iff_adopted (c : Cfg) (s : St) (w : WF s) (h1 : s.flag = 1) :
    ∃ m, s.mgr = some m ∧
      (termLib c s).deleted = (if s.adopted then m :: s.deleted else s.deleted) ∧
      (s.adopted = true ↔ ∃ k, m = .dflt k) ∧ (termLib c s).mgr = none ∧ (termLib c s).adopted = true := by
  rw [termLib_last c s h1]
  cases ha : s.adopted with
  | true =>
    obtain ⟨_, _, hm, _⟩ := w.upA (by omega) ha
    exact ⟨_, hm, by simp [hm], by simp, rfl, rfl⟩
  | false =>
    obtain ⟨_, ⟨u, hm⟩, _⟩ := w.upU (by omega) ha
    exact ⟨_, hm, by simp, by simp, rfl, rfl⟩

/-- Inside an initialised library only the counter moves: a nested `Initialize` ignores every argument (manager,
heap sizes), a nested `Terminate` releases nothing. -/
theorem nested_only_outermost_works (c : Cfg) (s : St) (hl : 1 < c.longMax) (h0 : 0 < s.flag) :
    (∀ a, step c s (.init a) = { s with flag := if s.flag = c.longMax then s.flag else s.flag + 1 }) ∧
    (∀ hp a, step c s (.initHeap hp a) = { s with flag := if s.flag = c.longMax then s.flag else s.flag + 1 }) ∧
    (1 < s.flag → step c s .term = { s with flag := s.flag - 1 }) := by
  exact ⟨fun a => initLib_up c s a h0, fun hp a => (initLibHeap_up c s hp a hl h0).trans (initLib_up c s a h0),
    termLib_nested c s⟩

/-- `Terminate` on a library that is not initialised does nothing, any number of times. -/
theorem extra_terminate_harmless (c : Cfg) (s : St) (h : s.flag = 0) (n : Nat) :
    run c s (List.replicate n .term) = s := by
  induction n with
  | zero => rfl
  | succ n ih =>
    simp only [List.replicate_succ, run, List.foldl_cons, step]
    rw [termLib_zero c s h]
    exact ih

/-- The pinned code (no reset in `Terminate`): the DOM heap sizes given to one `Initialize` survive `Terminate`
and govern the next, default, `Initialize` — so a re-initialised library does *not* behave identically.
(Negative statement about the unchanged code; witnessed on the real library by the C18 check.) -/
theorem heap_survives_terminate (lm : Nat) (hl : 1 < lm) (h0 h : Heap) (a b : Option Nat) :
    (run ⟨lm, none⟩ (start h0) [.initHeap h a, .term, .init b]).heap = h := by
  have e2 : ¬ (0 = lm) := by omega
  cases a <;> cases b <;> simp [run, step, initLibHeap, initLib, termLib, start, e2]

theorem gen_longMax_ok : 1 < genCfg.longMax := by decide

-- non-vacuity: nested, with and without a custom manager, different arguments
example : balanced [.init (some 5), .initHeap ⟨64, 128, 40⟩ none, .term, .term, .init none, .term] = true := by decide
example : (run genCfg (start genDefaults)
    [.init (some 5), .initHeap ⟨64, 128, 40⟩ none, .term, .term, .init none, .term]).deleted = [.dflt 0] := by decide
example : (run genCfg (start genDefaults) [.init (some 5), .init (some 6)]).mgr = some (.user 5) := by decide
example : WF (run genCfg (start genDefaults) [.init (some 5)]) ∧ (run genCfg (start genDefaults) [.init (some 5)]).flag = 1 :=
  ⟨wf_run _ _ _ (wf_init _), by decide⟩
-- the outermost Terminate of a library running on an application manager deletes nothing; on its own manager, that manager
example : (termLib genCfg (run genCfg (start genDefaults) [.init (some 5)])).deleted = [] := by decide
example : (termLib genCfg (run genCfg (start genDefaults) [.init none])).deleted = [.dflt 0] := by decide
-- nested: flag 2, a further Initialize with other arguments only moves the counter
example : (run genCfg (start genDefaults) [.init (some 5), .init none, .initHeap ⟨64, 128, 40⟩ (some 6)]).heap = genDefaults ∧
    (run genCfg (start genDefaults) [.init (some 5), .init none, .initHeap ⟨64, 128, 40⟩ (some 6)]).flag = 3 := by decide
example : run genCfg (start genDefaults) [.term, .term, .term] = start genDefaults := by decide

end Lifecycle

section Arena
open XV.Model.Arena XV.Spec.Arena XV.Lemmas.Arena XV.Model.DomHeapGen

-- `hal` is not needed: `n % 0 = n` in `Nat`, so with alignment 0 the model rounds every request to 0 bytes (in the
-- C++ `% 0` is undefined)
set_option linter.unusedVariables false in
/-- All regions handed out by `DOMDocumentImpl::allocate` and not released lie in the payload of raw blocks the
document owns and are pairwise disjoint — for every operation history (allocate / release /
setMemoryAllocationBlockSize), provided the system allocator never returns a block overlapping one the document still
owns (`Valid`), and provided **either** `allocate` re-checks the fit (`c.recheck`) **or** `Fits`:
`alignDown(maxDOMSubAllocationSize) = 0 ∨ alignDown(maxDOMSubAllocationSize) + sizeOfHeader ≤ initialDOMHeapAllocSize`
(`maxDOMHeapAllocSize` does not matter).  `Valid` asks the same of every size passed to
setMemoryAllocationBlockSize.  `hg`: growing a block size does not shrink it (the factor in the sources is 2). -/
theorem arena_disjoint (c : Consts) (P : Params) (hal : 0 < c.align) (hg : 1 ≤ c.grow)
    (hfit : c.recheck = true ∨ Fits c P) (ops : List Op) (hv : Valid c P (init P) ops) :
    let a := run c P (init P) ops
    ArenaOk c.header ((owned a).map blk) a.subs := by
  -- `SizeOk c P P.initial` unfolds to `hfit`
  exact ainv_ok (ainv_run hg ops _ (ainv_init c P hfit) hv)

/-- The hypothesis is exactly what is needed: without the re-check, whenever `Fits` fails one allocation of
`alignDown(maxSub)` bytes on a fresh document is carved past the end of its block. -/
theorem arena_hypothesis_necessary (c : Consts) (P : Params) (hr : c.recheck = false)
    (hnf : ¬ Fits c P) :
    ∃ ops, Valid c P (init P) ops ∧
      ¬ ArenaOk c.header ((owned (run c P (init P) ops)).map blk) (run c P (init P) ops).subs := by
  refine ⟨[.alloc (alignDown c.align P.maxSub) 0], ⟨?_, trivial⟩, ?_⟩
  · -- a fresh document owns no block the new one could overlap
    show noOverlap (init P) _
    cases takes c P (init P) (alignDown c.align P.maxSub) 0 with
    | none => trivial
    | some b => exact fun _ ho => nomatch ho
  · exact overrun c P hr P.initial (fun h => hnf (.inl h)) (Nat.lt_of_not_le fun h => hnf (.inr h))

/-- Same for `setMemoryAllocationBlockSize`: the guard `size > maxSub` in the pinned code is too weak. -/
theorem setblock_hypothesis_necessary (c : Consts) (P : Params) (hr : c.recheck = false)
    (sz : Nat) (h1 : P.maxSub < sz) (h2 : sz < alignDown c.align P.maxSub + c.header)
    (hA : alignDown c.align P.maxSub ≠ 0) :
    ¬ ArenaOk c.header ((owned (run c P (init P) [.setBlock sz, .alloc (alignDown c.align P.maxSub) 0])).map blk)
        (run c P (init P) [.setBlock sz, .alloc (alignDown c.align P.maxSub) 0]).subs := by
  have hs : run c P (init P) [.setBlock sz, .alloc (alignDown c.align P.maxSub) 0] =
      step c P { heapSize := sz } (.alloc (alignDown c.align P.maxSub) 0) := by
    show step c P (setBlockSize P (init P) sz) (.alloc (alignDown c.align P.maxSub) 0) = _
    rw [setBlockSize, if_pos h1]; rfl
  rw [hs]
  exact overrun c P hr sz hA h2

/-- `deleteHeap` hands every owned raw block back, each once, and leaves nothing owned. -/
theorem arena_all_freed_on_delete (a : Arena) :
    (deleteHeap a).1 = owned a ∧ owned (deleteHeap a).2 = [] ∧ (deleteHeap a).2.subs = [] := by
  simp [deleteHeap, owned]

/-- the executable judge that the driver applies to what the real `DOMDocumentImpl` returned is `ArenaOk` -/
theorem regionsOk_iff (hdr : Nat) (bs : List Block) (rs : List Region) :
    regionsOk hdr bs rs = true ↔ ArenaOk hdr bs rs := by
  unfold regionsOk ArenaOk
  rw [Bool.and_eq_true, pairwiseB_iff, List.all_eq_true]
  refine and_congr (forall_congr' fun r => forall_congr' fun _ => ?_) (by simp only [decide_eq_true_eq])
  simp only [Bool.or_eq_true, beq_iff_eq, List.any_eq_true, decide_eq_true_eq, gt_iff_lt]
  exact ⟨fun h hpos => h.resolve_left (Nat.ne_of_gt hpos), fun h => (Nat.eq_zero_or_pos r.2).imp_right h⟩

/-- With the constants of the sources as they are: the default sizes are safe, and so is every triple passed to
`Initialize` that satisfies `Fits` (or any triple at all once `allocate` re-checks). -/
theorem arena_disjoint_gen (P : Params) (hfit : genConsts.recheck = true ∨ Fits genConsts P) (ops : List Op)
    (hv : Valid genConsts P (init P) ops) :
    ArenaOk genConsts.header ((owned (run genConsts P (init P) ops)).map blk) (run genConsts P (init P) ops).subs :=
  arena_disjoint genConsts P (by decide) (by decide) hfit ops hv

theorem gen_defaults_fit : Fits genConsts genParams := by decide

-- non-vacuity: a history with sub-allocations, an oversize block, a release and block growth satisfies `Valid`
example : Valid genConsts ⟨64, 128, 40⟩ (init ⟨64, 128, 40⟩)
    [.alloc 24 1000, .alloc 30 2000, .alloc 100 3000, .release 3008, .alloc 40 4000, .setBlock 200, .alloc 8 5000] := by
  decide
example : (run genConsts ⟨64, 128, 40⟩ (init ⟨64, 128, 40⟩)
    [.alloc 24 1000, .alloc 30 2000, .alloc 100 3000, .alloc 40 4000]).subs = [(4008, 40), (3008, 104), (1032, 32), (1008, 24)] := by
  decide
-- the region excluded by `Fits` is inhabited by arguments the public API accepts (F17: Initialize(64,128,256))
example : ¬ Fits genConsts ⟨64, 128, 256⟩ := by decide
-- the two necessity theorems apply to the pinned shape of the code (no re-check) with the platform constants 8/8/2
example : ∃ ops, Valid ⟨8, 8, 2, false⟩ ⟨64, 128, 256⟩ (init ⟨64, 128, 256⟩) ops ∧
    ¬ ArenaOk 8 ((owned (run ⟨8, 8, 2, false⟩ ⟨64, 128, 256⟩ (init ⟨64, 128, 256⟩) ops)).map blk)
      (run ⟨8, 8, 2, false⟩ ⟨64, 128, 256⟩ (init ⟨64, 128, 256⟩) ops).subs :=
  arena_hypothesis_necessary ⟨8, 8, 2, false⟩ ⟨64, 128, 256⟩ rfl (by decide)
example : ¬ ArenaOk 8 ((owned (run ⟨8, 8, 2, false⟩ ⟨16384, 524288, 256⟩ (init ⟨16384, 524288, 256⟩) [.setBlock 260, .alloc 256 0])).map blk)
      (run ⟨8, 8, 2, false⟩ ⟨16384, 524288, 256⟩ (init ⟨16384, 524288, 256⟩) [.setBlock 260, .alloc 256 0]).subs :=
  setblock_hypothesis_necessary ⟨8, 8, 2, false⟩ ⟨16384, 524288, 256⟩ rfl 260 (by decide) (by decide) (by decide)
-- with the re-check the same histories are fine (what fixes/C18-dom-arena-recheck-fit.diff buys)
example : regionsOk 8 ((owned (run ⟨8, 8, 2, true⟩ ⟨64, 128, 256⟩ (init ⟨64, 128, 256⟩) [.alloc 256 0])).map blk)
      (run ⟨8, 8, 2, true⟩ ⟨64, 128, 256⟩ (init ⟨64, 128, 256⟩) [.alloc 256 0]).subs = true := by decide
example : regionsOk 8 [(0, 64)] [(8, 256)] = false := by decide

end Arena

end XV.Props.C18
