/- C10 — identity constraints (xs:unique, xs:key, xs:keyref) are enforced in the value space.

   Objects: XV.Spec.Identity (XPath subset semantics `pathMatches`, value spaces, node tables, `ICValid`, executable
   `icCheck`) and the code-shaped models of XV.Model.Identity (XPathMatcher per location path = `run1`; ValueStore
   `startValueScope / addValue / endValueScope`, composed per selected node by `XV.Lemmas.Identity.storeRun`;
   `keyrefCheck`).
   Every statement is unbounded in the tree, the path and the number of tuples unless it is a named witness. -/
import XV.Lemmas.Identity
namespace XV.Props.C10
open XV.Spec.Identity XV.Model.Identity XV.Lemmas.Identity XV.Gen.ValidityCodes

/-- the identity-constraint codes of XMLValid::Codes are errors (neither warnings nor fatal) and pairwise distinct -/
theorem ic_codes_are_errors :
    (∀ c ∈ icCodes, E_LowBounds < c.2 ∧ c.2 < E_HighBounds ∧ ¬ (W_LowBounds ≤ c.2 ∧ c.2 ≤ W_HighBounds) ∧
        ¬ (F_LowBounds ≤ c.2 ∧ c.2 ≤ F_HighBounds)) ∧
    (icCodes.map (·.2)).Nodup ∧
    icCodes.map (·.2) = [IC_FieldMultipleMatch, IC_UnknownField, IC_AbsentKeyValue, IC_KeyNotEnoughValues,
      IC_KeyMatchesNillable, IC_DuplicateUnique, IC_DuplicateKey, IC_KeyRefOutOfScope, IC_KeyNotFound] := by
  decide +kernel

/-- lexically different decimals are the same value iff their normal forms coincide: `m₁/10^s₁ = m₂/10^s₂` -/
theorem decimal_eq_value (m1 : Int) (s1 : Nat) (m2 : Int) (s2 : Nat) :
    normDec m1 s1 = normDec m2 s2 ↔ m1 * 10 ^ s2 = m2 * 10 ^ s1 :=
  normDec_eq_iff m1 s1 m2 s2

private def str (x : String) : List Nat := x.toList.map Char.toNat

example : valueOf .decimal (str "1.0") 0 = valueOf .decimal (str "1.00") 0 ∧
    valueOf .decimal (str "1.00") 0 = valueOf .decimal (str " +1") 0 ∧
    valueOf .integer (str "+1") 0 = valueOf .decimal (str "01.") 0 ∧
    valueOf .decimal (str "1.0") 0 ≠ valueOf .decimal (str "1.01") 0 ∧
    valueOf .token (str " a  b ") 0 = valueOf .string (str "a b") 0 ∧
    valueOf .date (str "2000-01-01+14:00") 0 = valueOf .date (str "1999-12-31-10:00") 0 ∧
    valueOf .date (str "2000-01-01Z") 0 ≠ valueOf .date (str "2000-01-01") 0 := by decide +kernel
example : normDec 100 2 = normDec 10 1 ∧ (100 : Int) * 10 ^ 1 = 10 * 10 ^ 2 := by decide +kernel

/-- ICValueHasher::isDuplicateOf (common-ancestor rule, `compare` of the ancestor) decides equality in the value
    space, for valid non-empty values of any two of the six field types -/
theorem isDuplicateOf_value (a b : TV) (ha : a.val ≠ none) (hb : b.val ≠ none)
    (hna : wsNorm a.ty a.lex ≠ []) (hnb : wsNorm b.ty b.lex ≠ []) :
    isDuplicateOf (SV.ofTV a) (SV.ofTV b) = decide (a.val = b.val) :=
  isDuplicateOf_tv a b ha hb hna hnb

example : isDuplicateOf (SV.ofTV ⟨.integer, str "+1", 0⟩) (SV.ofTV ⟨.decimal, str "1.00", 0⟩) = true ∧
    isDuplicateOf (SV.ofTV ⟨.integer, str "1", 0⟩) (SV.ofTV ⟨.string, str "1", 0⟩) = false ∧
    (⟨.integer, str "+1", 0⟩ : TV).val ≠ none := by decide +kernel

/-- ICValueHasher::equals on tuples of valid non-empty typed values is equality of the sequences of denoted values:
    the instance of `EqVia` under which `dup_iff`, `key_iff`, `keyref_iff`, `perm_invariant` speak about the value space -/
theorem tupleEquals_value : EqVia ValidTuple tupleVals := by
  rintro t u ⟨as, rfl, ha⟩ ⟨bs, rfl, hb⟩
  rw [tupleEquals_tvs as bs ha hb]
  simp only [tupleVals, List.map_map, Function.comp_def, vals_ofTV]

example : ValidTuple [SV.ofTV ⟨.integer, str "+1", 0⟩, SV.ofTV ⟨.token, str " a  b", 0⟩] :=
  ⟨[⟨.integer, str "+1", 0⟩, ⟨.token, str " a  b", 0⟩], rfl, by decide⟩

/-- where isDuplicateOf leaves the value space: two empty values are duplicates iff their validators are the same, so
    an empty xs:string and an empty xs:token, which denote the same value, are not -/
theorem isDuplicateOf_empty_cross_type_witness :
    isDuplicateOf (SV.ofTV ⟨.string, [], 0⟩) (SV.ofTV ⟨.token, [], 0⟩) = false ∧
    (⟨.string, [], 0⟩ : TV).val = (⟨.token, [], 0⟩ : TV).val := by decide +kernel

/-- `./t₁/…/tₙ` (n ≥ 0, any name tests): driven over ANY tree from the context element, the incremental matcher
    (per-path step stack, fNoMatchDepth, fMatched) calls `matched()` exactly for the elements the path selects,
    in document order, and is back in its initial state afterwards -/
theorem matcher_eq_path (ts : List NameTest) (ctx : Node) :
    (run1 (simplePath ts) {} ctx).1 = {} ∧
    (run1 (simplePath ts) {} ctx).2.2 =
      ((ctx.descs.filter fun p => pathMatches (simplePath ts) p.1 none).map fun p => (p.2.id, none)) := by
  -- the context element passes `.`: the calls are those of `*/t₁/…/tₙ` seen from above it
  obtain ⟨h1, h2⟩ := run1_simple ts ctx 0 .any [] rfl
  refine ⟨h1, ?_⟩
  rw [h2, List.drop_zero, ← hits_spec ctx .any ts, List.map_cons, filter_prefix]
  simp only [NameTest.ok, if_true, List.map_map]
  rfl

private def nd (i : Nat) (n : Nat) (kids : List Node) : Node := .mk i ⟨0, n⟩ false false [] none kids
private def qn (n : Nat) : NameTest := .name ⟨0, n⟩
private def callIds (p : Path) (ctx : Node) : List Nat := (run1 p {} ctx).2.2.map (·.1)
private def specIds (p : Path) (ctx : Node) : List Nat := (ctx.descs.filter fun x => pathMatches p x.1 none).map (·.2.id)

-- non-vacuity: a/b on  c( a(b, c(b)), b, a(b) )  selects the two b children of the a children
example : callIds (simplePath [qn 0, qn 1]) (nd 0 2 [nd 1 0 [nd 2 1 [], nd 3 2 [nd 4 1 []]], nd 5 1 [], nd 6 0 [nd 7 1 []]]) = [2, 7] := by
  decide +kernel

/-- `.//t` (selector use): for every element of ANY tree — nested matches included — the match flag after
    startElement is XP_MATCHED_D exactly when the path selects the element, provided the context element itself does
    not pass the test (see `matcher_deviations` for what happens otherwise; `.//*` is therefore not covered) -/
theorem matcher_desc_eq_path (t : NameTest) (ctx : Node) (h : t.ok ctx.name = false) :
    (run1 (descPath t) {} ctx).1 = {} ∧
    (run1 (descPath t) {} ctx).2.1.map (fun s => s.matched == XP_MATCHED_D)
      = ctx.descs.map (fun p => pathMatches (descPath t) p.1 none) := by
  obtain ⟨h1, h2⟩ := run1_desc_from t ctx {} (Nat.zero_le 1) rfl (.inl rfl)
  refine ⟨h1, h2.trans (List.map_congr_left fun p hp => ?_)⟩
  -- `.//t` looks at the last name of the chain, which is the element's own; the empty chain is the context element's
  have hl := descs_last ctx p hp
  rw [pathMatches_desc]
  cases hc : p.1 with
  | nil => rw [hc] at hl; exact Option.some.inj hl ▸ h
  | cons q c => rw [hc, List.getLast?_cons_cons] at hl; rw [hl]

example : (run1 (descPath (qn 0)) {} (nd 0 2 [nd 1 0 [nd 2 0 [], nd 3 1 [nd 4 0 []]]])).2.1.map (fun s => s.matched == XP_MATCHED_D)
    = [false, true, true, false, true] := by decide +kernel

/-- Outside the two classes above the incremental matcher is NOT the XPath semantics (kernel-checked witnesses; the
    check drives 1–3, and unions like 4, through the real XPathMatcher and records them as known deviations):
    1. an interior `.` step: `a/./b` on c/a/b/b reports the inner b instead of the outer one;
    2. several steps after `.//`: `.//a/b` misses c/a/a/b;
    3. `.//a` started on a context element named a selects the context element itself;
    4. two members of a union that select the same node call `matched()` twice (`a|*`). -/
theorem matcher_deviations :
    (callIds [.self, .child (qn 0), .self, .child (qn 1)] (nd 0 2 [nd 1 0 [nd 2 1 [nd 3 1 []]]]) = [3] ∧
     specIds [.self, .child (qn 0), .self, .child (qn 1)] (nd 0 2 [nd 1 0 [nd 2 1 [nd 3 1 []]]]) = [2]) ∧
    (callIds [.self, .desc, .child (qn 0), .child (qn 1)] (nd 0 2 [nd 1 0 [nd 2 0 [nd 3 1 []]]]) = [] ∧
     specIds [.self, .desc, .child (qn 0), .child (qn 1)] (nd 0 2 [nd 1 0 [nd 2 0 [nd 3 1 []]]]) = [3]) ∧
    ((run1 (descPath (qn 0)) {} (nd 0 0 [nd 1 0 []])).2.1.map (fun s => s.matched == XP_MATCHED_D) = [true, true] ∧
     (nd 0 0 [nd 1 0 []]).descs.map (fun p => pathMatches (descPath (qn 0)) p.1 none) = [false, true]) ∧
    ((drive [simplePath [qn 0], simplePath [.any]] (nd 0 2 [nd 1 0 []])).2.map (·.1) = [1, 1] ∧
     ((nd 0 2 [nd 1 0 []]).descs.filter fun x => xpathMatches [simplePath [qn 0], simplePath [.any]] x.1 none).map (·.2.id) = [1]) := by
  decide +kernel

/-! ## ValueStore: duplicates, keys, references (one scope element, any number of selected nodes)

The theorems use of ICValueHasher::equals only that, on the tuples in question (`P`), it decides the equality of some
`f` (`EqVia`).  `tupleEquals_value` is the instance that matters; `eqViaEx` below is a finite one, checked by evaluation. -/

/-- a duplicate is reported (IC_DuplicateUnique / IC_DuplicateKey) iff two selected nodes at positions
    i < j carry complete tuples that are equal — equality being `f`, which on the tuples in question (`P`) is what
    ICValueHasher::equals decides (`EqVia`; by `tupleEquals_value` this is equality of the denoted values) -/
theorem dup_iff {β : Type} (P : List SV → Prop) (f : List SV → β) (hf : EqVia P f) (kind : Kind) (c : Nat)
    (hc : dupCode kind = [c]) (n : Nat) (hn : 0 < n) (rows : List (List (Option SV)))
    (hlen : ∀ r ∈ rows, r.length = n) (hP : ∀ t ∈ fullTuples rows, P t) :
    c ∈ (storeRun { kind := kind, nFields := n } rows).2 ↔
      ∃ i j, ∃ (hi : i < (fullTuples rows).length) (hj : j < (fullTuples rows).length),
        i < j ∧ f (fullTuples rows)[i] = f (fullTuples rows)[j] := by
  have hk : ∀ r, ¬ (kind = .key ∧ c = missingCode r) := fun r ⟨hk, hm⟩ => by
    subst hk; cases List.singleton_inj.1 hc; revert hm; unfold missingCode; split <;> decide
  rw [(storeRun_fresh P f hf kind n hn rows hlen hP).1 c, hc, not_nodup_iff]
  simp only [List.mem_singleton, true_and, List.length_map, List.getElem_map]
  exact or_iff_left fun ⟨hk', r, _, _, hm⟩ => hk r ⟨hk', hm⟩

/-- a key scope reports nothing iff every selected node has every field and the tuples are pairwise
    distinct -/
theorem key_iff {β : Type} (P : List SV → Prop) (f : List SV → β) (hf : EqVia P f) (n : Nat) (hn : 0 < n)
    (rows : List (List (Option SV))) (hlen : ∀ r ∈ rows, r.length = n) (hP : ∀ t ∈ fullTuples rows, P t) :
    (storeRun { kind := .key, nFields := n } rows).2 = [] ↔
      (∀ r ∈ rows, allPresent r ≠ none) ∧ ((fullTuples rows).map f).Nodup := by
  simp only [List.eq_nil_iff_forall_not_mem, (storeRun_fresh P f hf .key n hn rows hlen hP).1, dupCode,
    List.mem_singleton, true_and, not_or, not_and, Classical.not_not, not_exists]
  exact ⟨fun h => ⟨fun r hr hnone => (h _).2 r hr hnone rfl, (h _).1 rfl⟩,
    fun h c => ⟨fun _ => h.2, fun r hr hnone => absurd hnone (h.1 r hr)⟩⟩

/-- IC_KeyNotFound is reported iff some complete reference tuple equals no complete key tuple of the
    scope, however many tuples there are (the hash table itself is not modelled: in XV.Model.Identity it is a list) -/
theorem keyref_iff {β : Type} (P : List SV → Prop) (f : List SV → β) (hf : EqVia P f) (kkind : Kind) (refer : Nat)
    (n : Nat) (hn : 0 < n) (keyRows refRows : List (List (Option SV)))
    (hk : ∀ r ∈ keyRows, r.length = n) (hr : ∀ r ∈ refRows, r.length = n)
    (hPk : ∀ t ∈ fullTuples keyRows, P t) (hPr : ∀ t ∈ fullTuples refRows, P t) :
    IC_KeyNotFound ∈ keyrefCheck (storeRun { kind := .keyref refer, nFields := n } refRows).1.tuples
        (some (storeRun { kind := kkind, nFields := n } keyRows).1.tuples) ↔
      ∃ r ∈ fullTuples refRows, f r ∉ (fullTuples keyRows).map f := by
  obtain ⟨-, kP, kM⟩ := storeRun_fresh P f hf kkind n hn keyRows hk hPk
  obtain ⟨-, rP, rM⟩ := storeRun_fresh P f hf (.keyref refer) n hn refRows hr hPr
  simp only [mem_keyrefCheck P f hf _ _ kP rP, kM]
  -- the references held and the complete rows have the same `f`-values
  exact ⟨fun ⟨t, ht, h⟩ => (List.mem_map.1 ((rM _).1 (List.mem_map_of_mem ht))).elim fun u hu => ⟨u, hu.1, hu.2 ▸ h⟩,
    fun ⟨u, hu, h⟩ => (List.mem_map.1 ((rM _).2 (List.mem_map_of_mem hu))).elim fun t ht => ⟨t, ht.1, ht.2 ▸ h⟩⟩

/-- the set of violation classes of a scope does not depend on the document order of the selected
    nodes -/
theorem perm_invariant {β : Type} (P : List SV → Prop) (f : List SV → β) (hf : EqVia P f) (kind : Kind) (n : Nat)
    (hn : 0 < n) (rows rows' : List (List (Option SV))) (hperm : rows.Perm rows')
    (hlen : ∀ r ∈ rows, r.length = n) (hP : ∀ t ∈ fullTuples rows, P t) (c : Nat) :
    c ∈ (storeRun { kind := kind, nFields := n } rows).2 ↔ c ∈ (storeRun { kind := kind, nFields := n } rows').2 := by
  have hfp : (fullTuples rows).Perm (fullTuples rows') := hperm.filterMap _
  rw [(storeRun_fresh P f hf kind n hn rows hlen hP).1, (storeRun_fresh P f hf kind n hn rows'
    (fun r hr => hlen r (hperm.mem_iff.2 hr)) fun t ht => hP t (hfp.mem_iff.2 ht)).1]
  simp only [(hfp.map f).nodup_iff, hperm.mem_iff]

/-- when every selected node is handed to the store of its own constraint (`interleavedRun`), the
    two stores at the end, and with them `keyrefCheck`, depend only on the sequence of key nodes and the sequence of
    referring nodes, not on how the two are interleaved.  (The order in which `deactivate` transplants the keys and
    checks the references is not what this is about.) -/
theorem keyorder_invariant (ks rs : VStore) (evs evs' : List (Bool × List (Option SV)))
    (hk : (evs.filterMap fun e => if e.1 then some e.2 else none) = evs'.filterMap fun e => if e.1 then some e.2 else none)
    (hr : (evs.filterMap fun e => if e.1 then none else some e.2) = evs'.filterMap fun e => if e.1 then none else some e.2) :
    keyrefCheck (interleavedRun ks rs evs).2.tuples (some (interleavedRun ks rs evs).1.tuples) =
    keyrefCheck (interleavedRun ks rs evs').2.tuples (some (interleavedRun ks rs evs').1.tuples) := by
  rw [interleavedRun_eq, interleavedRun_eq, hk, hr]

/-! non-vacuity of the ValueStore theorems: integer / decimal tuples compared in the value space -/

private def sv (t : Ty) (x : String) : SV := SV.ofTV ⟨t, str x, 0⟩
private def tuplesEx : List (List SV) :=
  [[sv .integer "1", sv .decimal "2.0"], [sv .integer "+1", sv .decimal "2.00"], [sv .integer "1", sv .decimal "2.5"], [sv .integer "7", sv .decimal "2"]]
private abbrev PEx (t : List SV) : Prop := t ∈ tuplesEx
private def fEx (t : List SV) : List (Option Val) := t.map fun v => valueOfNorm v.dv.cmpTy v.lex v.ns

private theorem eqViaEx : EqVia PEx fEx := fun t u ht hu =>
  (by decide +kernel : ∀ t ∈ tuplesEx, ∀ u ∈ tuplesEx, (tupleEquals t u = true ↔ fEx t = fEx u)) t ht u hu

private def rowsEx : List (List (Option SV)) :=
  [[some (sv .integer "1"), some (sv .decimal "2.0")], [some (sv .integer "7"), none],
   [some (sv .integer "+1"), some (sv .decimal "2.00")], [some (sv .integer "1"), some (sv .decimal "2.5")]]

example : IC_DuplicateUnique ∈ (storeRun { kind := .unique, nFields := 2 } rowsEx).2 :=
  (dup_iff PEx fEx eqViaEx .unique IC_DuplicateUnique rfl 2 (by decide) rowsEx (by decide +kernel)
    (by decide +kernel)).mpr ⟨0, 1, by decide +kernel, by decide +kernel, by decide, by decide +kernel⟩
example : (storeRun { kind := .key, nFields := 2 } rowsEx).2 = [IC_KeyNotEnoughValues, IC_DuplicateKey] := by decide +kernel
example : (storeRun { kind := .key, nFields := 2 } [rowsEx[0]!, rowsEx[3]!]).2 = [] := by decide +kernel
example : keyrefCheck (storeRun { kind := .keyref 0, nFields := 2 } [[some (sv .decimal "1.0"), some (sv .integer "2")],
      [some (sv .integer "7"), some (sv .decimal "2.0")]]).1.tuples
    (some (storeRun { kind := .key, nFields := 2 } rowsEx).1.tuples) = [IC_KeyNotFound] := by decide +kernel
example : rowsEx.Perm [rowsEx[3]!, rowsEx[1]!, rowsEx[0]!, rowsEx[2]!] := by decide +kernel
example : (interleavedRun {kind := .key, nFields := 1} {kind := .keyref 0, nFields := 1}
      [(false, [some (sv .integer "1")]), (true, [some (sv .decimal "1.0")])]).2.tuples.length = 1 := by decide +kernel

/-- `icCheck` (the judge of the correspondence) reports nothing iff the instance satisfies every definition:
    cvc-identity-constraint clauses 3 and 4 with the node tables of §3.11.5.  `hf`: for a key without fields every row
    has no value at all, for which `violationsAt` reports IC_AbsentKeyValue while `HoldsAt` holds. -/
theorem icCheck_iff_ICValid (cs : List IC) (root : Node) (hf : ∀ ic ∈ cs, ic.fields ≠ []) :
    icCheck cs root = [] ↔ ICValid cs root := by
  simp only [icCheck, ICValid, List.flatMap_eq_nil_iff]
  refine forall₂_congr fun p _ => forall₂_congr fun ic hic => ?_
  split
  · next h => rw [List.map_eq_nil_iff, violationsAt_nil_iff cs ic p.2 (hf ic hic), imp_iff_right h]
  · next h => exact iff_of_true rfl (fun h' => absurd h' h)

/-- when no descendant of the scope element declares the key, the key's node table at that element is exactly its
    own qualified node set (no propagation, no conflicts) -/
theorem table_single_scope (k : IC) (e : Node) (hs : k.scope = e.name)
    (hd : ∀ p ∈ descsKids e.kids, p.2.name ≠ k.scope) : table k e = entries k e := by
  cases e with
  | mk i nm a b ats tx kids =>
    unfold table
    simp only [Node.name] at hs
    simp only [Node.kids] at hd
    simp [hs, tableKids_no_scope k kids hd]

/-- nested scopes — PARTIAL.  Full statement intended: the global map the model's ValueStoreCache holds for a key at the
    end of an element = the key-sequences of `table k e` (§3.11.5, conflicting propagated entries removed).  Proved here:
    what the Spec itself says for two sibling scopes — entries propagate to the parent unless they conflict — on a
    witness; the model (`cacheEndElement`, `appendTuples`) keeps one copy of a conflicting key instead of dropping
    both, which the check reports as a known deviation of the code. -/
theorem table_sibling_scopes_partial :
    let k : IC := { id := 0, kind := .key, scope := ⟨0, 1⟩, sel := [[.self, .child (.name ⟨0, 3⟩)]], fields := [[[.self, .attr (.name ⟨0, 10⟩)]]] }
    let item (i : Nat) (v : String) : Node := .mk i ⟨0, 3⟩ false false [(⟨0, 10⟩, ⟨.integer, str v, 0⟩)] none []
    let grp (i : Nat) (ks : List Node) : Node := .mk i ⟨0, 1⟩ false false [] none ks
    ((table k (.mk 0 ⟨0, 0⟩ false false [] none [grp 1 [item 2 "1"], grp 3 [item 4 "2"]])).map (·.1) = [[.dec 1 0], [.dec 2 0]]) ∧
    ((table k (.mk 0 ⟨0, 0⟩ false false [] none [grp 1 [item 2 "1"], grp 3 [item 4 "+1"]])).map (·.1) = []) := by
  decide +kernel

example : icCheck [{ id := 0, kind := .unique, scope := ⟨0, 0⟩, sel := [simplePath [qn 1]], fields := [[[.self, .attr (.name ⟨0, 10⟩)]]] }]
    (.mk 0 ⟨0, 0⟩ false false [] none
      [.mk 1 ⟨0, 1⟩ false false [(⟨0, 10⟩, ⟨.decimal, str "1.0", 0⟩)] none [],
       .mk 2 ⟨0, 1⟩ false false [(⟨0, 10⟩, ⟨.decimal, str "1.00", 0⟩)] none []]) = [(0, IC_DuplicateUnique)] := by decide +kernel

end XV.Props.C10
