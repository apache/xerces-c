/-
C20 — XInclude processing yields the specified merged tree and detects inclusion loops.

`process` (XV.Model.XInclude: the walk of XIncludeUtils with the inclusion-history stack, the fallback rules, the XMLErrs
codes and the xml:base fix-ups of XIncludeLocation::prependPath) against `substitute` (XV.Spec.XInclude: the declarative
merged tree with resolved base URIs) and the inclusion graph of live includes (`edges`/`Reach`/`Acyclic`).
All statements are unbounded: every finite file map, every document shape, every history.
-/
import XV.Lemmas.XInclude

namespace XV.Props.C20
open XV.Spec.XInclude XV.Model.XInclude XV.Lemmas.XInclude
open XV.Gen.XIncludeErrs

/-- The composition law behind every fix-up, for `XV.Spec.XInclude.resolve` (RFC 2396 §5.2 on segment lists as this Spec
    transcribes it): resolving `r` against (`p` resolved against `pb`) = resolving "`p` up to its last `/`, then `r`"
    against `pb`.  For all bases and references, including `..`, `.`, empty ones and ones that climb above the root,
    where this `resolve` drops the `..` (XV.Spec.Uri keeps it; no statement relates the two). -/
theorem resolve_prependPath (pb : URI) (p r : Ref) : resolve pb (prependPath p r) = resolve (resolve pb p) r :=
  XV.Lemmas.XInclude.resolve_prependPath pb p r

/-- base URI of a top-level element of the included document (own xml:base `own`) inside its own document -/
def baseBefore (target : URI) (own : Base) : URI := resolveBase target own

/-- its base URI after it has replaced an `xi:include` (own xml:base `ib`, attribute `href`) that sits in a context with base
    `pb`: the fix-up writes `inclPre ib href` (= `relativeHref`), combined with `own` by `applyPre` (`prependPath`) -/
def baseAfter (pb : URI) (ib : Base) (href : Ref) (own : Base) : URI := resolveBase pb (applyPre (inclPre ib href) own)

/-- a child of `xi:fallback` (own xml:base `own`): base in the source / after it replaced the include -/
def fbBaseBefore (pb : URI) (ib : Base) (own : Base) : URI := resolveBase (resolveBase pb ib) own
def fbBaseAfter (pb : URI) (ib : Base) (own : Base) : URI := resolveBase pb (applyPre ib own)

/-- **An included document element, and a fallback child, keeps its base URI**, hence every relative reference inside
    resolves to the same target as in its source document.  The proof shows the bases themselves equal
    (`resolveBase_applyPre`, `resolveBase_inclPre`); the statement keeps the shape the design gives it, with a reference
    `r` resolved on both sides.  `baseBefore` … `fbBaseAfter` say in the terms of `resolveBase`, `applyPre`, `inclPre` what
    `procNode` hands down; what ties them to `process` is `acyclic_eq_subst`, through the `Base.abs` in the result. -/
theorem base_fixup_preserves_targets (pb : URI) (ib : Base) (href : Ref) (own : Base) (r : Ref) :
    resolve (baseAfter pb ib href own) r = resolve (baseBefore (targetOf pb ib href) own) r ∧
    resolve (fbBaseAfter pb ib own) r = resolve (fbBaseBefore pb ib own) r := by
  unfold baseAfter baseBefore fbBaseAfter fbBaseBefore targetOf
  rw [resolveBase_applyPre, resolveBase_inclPre, resolveBase_applyPre]
  exact ⟨rfl, rfl⟩

-- non-vacuity: include with xml:base="d1/" href="../d2/b.xml" written in w/a.xml; the included element has xml:base="d3/";
-- `pic.png` inside it is w/d2/d3/pic.png before and after (the code as it is yields w/d1/d3/pic.png: finding D2)
example : resolve (baseAfter ["w", "a.xml"] (.rel ["d1", ""]) ["..", "d2", "b.xml"] (.rel ["d3", ""])) ["pic.png"]
    = ["w", "d2", "d3", "pic.png"] := by decide +kernel
example : resolve (baseBefore (targetOf ["w", "a.xml"] (.rel ["d1", ""]) ["..", "d2", "b.xml"]) (.rel ["d3", ""])) ["pic.png"]
    = ["w", "d2", "d3", "pic.png"] := by decide +kernel
example : resolve ["w", "a.xml"] (prependPath ["d1", "x", "..", ""] ["..", "..", "b.xml"]) = ["b.xml"] := by decide +kernel

/-- **`process` terminates on EVERY file map, cyclic or not**: the recursion budget `files + 1` is never exhausted (each
    nested level pushes a new, distinct, existing document on the history stack), and any larger budget gives the same
    result. -/
theorem process_total (fs : FS) (root : URI) :
    outOfFuel ∉ (process fs root).errs ∧
    (∀ c, c ∈ (process fs root).errs → classOf c ≠ some .fuel) ∧
    (∀ (k : Nat) (d : List Node), fs.doc root = some d →
        procFuel fs root (budget fs + k) [] root .inherit d = process fs root) := by
  have h1 : outOfFuel ∉ (process fs root).errs := by
    cases hd : fs.doc root with
    | none => rw [process_of_none hd]; nofun
    | some d => rw [process_of_doc hd]; exact (budget_enough fs root _ [] (inv_init fs 0) 0 root .inherit d).1
  refine ⟨h1, fun c hc hcl => h1 (classOf_fuel hcl ▸ hc), fun k d hd => ?_⟩
  rw [process_of_doc hd]
  exact (budget_enough fs root _ [] (inv_init fs 0) k root .inherit d).2

theorem process_sim (fs : FS) (root : URI) (hacyc : Acyclic fs root) : Sim (process fs root) (substitute fs root) := by
  cases hd : fs.doc root with
  | none => rw [process, substitute, hd]; exact ⟨rfl, rfl, nofun⟩
  | some d =>
    rw [process_of_doc hd, substitute_of_doc hd]
    exact agree_procFuel fs root hacyc (budget fs) [] root d root .inherit
      (fun x hx => List.mem_singleton.1 hx ▸ .refl _) hd rfl

/-- **No loop reachable from the root ⇒ the tree, with every resolved base, is `substitute`'s**, and the error classes
    are the Spec's. -/
theorem acyclic_eq_subst (fs : FS) (root : URI) (hacyc : Acyclic fs root) :
    (process fs root).nodes = (substitute fs root).nodes ∧
    (process fs root).errs.filterMap classOf = (substitute fs root).errs :=
  ⟨(process_sim fs root hacyc).1, (process_sim fs root hacyc).2.1⟩

/-- consequences: on an acyclic map nothing circular is reported and the Spec's own budget suffices -/
theorem acyclic_no_circular (fs : FS) (root : URI) (hacyc : Acyclic fs root) :
    ErrClass.circular ∉ (substitute fs root).errs ∧ ErrClass.fuel ∉ (substitute fs root).errs ∧
    XIncludeCircularInclusionLoop ∉ (process fs root).errs ∧ XIncludeCircularInclusionDocIncludesSelf ∉ (process fs root).errs := by
  obtain ⟨_, hcl, hnc⟩ := process_sim fs root hacyc
  simp only [← hcl, List.mem_filterMap] at hnc ⊢
  -- the Spec's classes are those of the codes the model reports
  refine ⟨hnc, fun ⟨c, hc, hcc⟩ => (process_total fs root).2.1 c hc hcc,
    fun hc => hnc ⟨_, hc, by decide⟩, fun hc => hnc ⟨_, hc, by decide⟩⟩

/-- **A loop reachable through live includes ⇒ a fatal circular-inclusion error is reported.**  A run without a loop
    code would have walked everything reachable from the root without meeting a document again (`acyclic_of_quiet`; the
    budget is never exhausted), and the hypothesis is a loop that is reachable. -/
theorem cycle_reported (fs : FS) (root u : URI) (hreach : Reach fs root u)
    (hcyc : ∃ w, w ∈ edges fs u ∧ Reach fs w u) :
    ∃ c, c ∈ (process fs root).errs ∧ classOf c = some .circular ∧ severity c = 'F' := by
  obtain ⟨w, hw, hwu⟩ := hcyc
  obtain ⟨d, hd⟩ := hreach.doc (doc_of_edge hw)
  refine Classical.byContradiction fun hno => ?_
  refine ((acyclic_of_quiet fs root (budget fs) [] root d root .inherit hd rfl fun c hc => ?_).of_reach hreach).no_cycle
    w hw hwu
  rw [← process_of_doc hd] at hc
  exact ⟨fun e => (process_total fs root).1 (e ▸ hc), fun e => hno ⟨c, hc, e ▸ by decide⟩,
    fun e => hno ⟨c, hc, e ▸ by decide⟩⟩

/-- **The document includes itself ⇒ XIncludeCircularInclusionDocIncludesSelf**, a fatal error. -/
theorem self_include_reported (fs : FS) (root : URI) (hself : root ∈ edges fs root) :
    XIncludeCircularInclusionDocIncludesSelf ∈ (process fs root).errs ∧
    classOf XIncludeCircularInclusionDocIncludesSelf = some .circular ∧
    severity XIncludeCircularInclusionDocIncludesSelf = 'F' := by
  obtain ⟨d, hd⟩ := doc_of_edge hself
  rw [edges_of_doc hd] at hself
  rw [process_of_doc hd]
  rcases (visits_inner fs root _ []).2 d root .inherit root hself with ⟨hin, _⟩ | ⟨_, _, hm⟩ | ⟨_, _, _, hr, _⟩
  · cases hin
  · exact ⟨hm, by decide, by decide⟩
  · exact absurd rfl hr

/-- **Resource not obtainable** (and the target not refused by a loop test): with xi:fallback its processed children (in
    the include's base context) replace the include and no error class is added — the codes reported on the way
    (XIncludeIncludeFailedResourceError, XIncludeCannotOpenFile) have none; their severity is not stated.  Without,
    XIncludeIncludeFailedNoFallback (fatal). -/
theorem fallback_spec (fs : FS) (root : URI) (rec : Rec) (h : List URI) (pb : URI) (pre : Base)
    (href : Ref) (parse : Parse) (enc : Option String) (ib : Base) (fb : List Node)
    (hfetch : fetch fs (targetOf (resolveBase pb pre) ib href) parse enc = .none)
    (hh : targetOf (resolveBase pb pre) ib href ∉ h) (hr : targetOf (resolveBase pb pre) ib href ≠ root) :
    -- with xi:fallback: its children, processed recursively with the same history, replace the include …
    ((procNode fs root rec h pb pre (.incl href parse enc ib true fb)).nodes
        = (procList fs root rec h pb (applyPre pre ib) fb).nodes ∧
     (procNode fs root rec h pb pre (.incl href parse enc ib true fb)).errs.filterMap classOf
        = (procList fs root rec h pb (applyPre pre ib) fb).errs.filterMap classOf ∧
     -- … in the base context of the xi:include element
     resolveBase pb (applyPre pre ib) = resolveBase (resolveBase pb pre) ib) ∧
    -- without: a fatal error and the element stays
    ((procNode fs root rec h pb pre (.incl href parse enc ib false fb)).nodes
        = [annotate (resolveBase pb pre) (.incl href parse enc ib false fb)] ∧
     (procNode fs root rec h pb pre (.incl href parse enc ib false fb)).errs.filterMap classOf = [.noFallback] ∧
     XIncludeIncludeFailedNoFallback ∈ (procNode fs root rec h pb pre (.incl href parse enc ib false fb)).errs ∧
     severity XIncludeIncludeFailedNoFallback = 'F') := by
  obtain ⟨e, hfm, he⟩ : ∃ e, fetchM fs root h (targetOf (resolveBase pb pre) ib href) parse enc = (.none, e) ∧
      e.filterMap classOf = [] := by
    rcases fetchM_cases fs root h (targetOf (resolveBase pb pre) ib href) parse enc with
      ⟨_, _, hc, _⟩ | ⟨_, _, _, hf, _⟩ | ⟨_, hf, _⟩ | ⟨e, _, he, hf⟩
    · exact absurd (hc.imp And.left fun hc => hc.2.1) (not_or.2 ⟨hh, hr⟩)
    · cases hf.symm.trans hfetch
    · cases hf.symm.trans hfetch
    · exact ⟨e, hf, by rcases he with rfl | rfl <;> decide⟩
  rw [procNode_incl, procNode_incl, hfm]
  simp only [filterMap_failed, he]
  exact ⟨⟨rfl, rfl, resolveBase_applyPre pb pre ib⟩, rfl, rfl, by simp [failed], by decide⟩

/-- **Each invalid usage is answered with its specific fatal code and the element is left alone.**  Invalid usages arrive
    classified, as the constructors `.bad k` and `.fallback` of `Node`: the first three conjuncts are the clauses of
    `procNode` and of `badCode` for them, with class and severity of the codes; the last is about whole documents. -/
theorem invalid_usage_reported :
    -- an unusable xi:include: its specific fatal code, and the element (with its content) is left alone
    (∀ (fs : FS) (root : URI) (rec : Rec) (h : List URI) (pb : URI) (pre : Base) (k : BadKind)
        (a : List (String × String)) (b : Base) (kids : List Node),
        procNode fs root rec h pb pre (.bad k a b kids)
          = ⟨[annotate (resolveBase pb pre) (.bad k a b kids)], [badCode k]⟩ ∧
        classOf (badCode k) = some .invalid ∧ severity (badCode k) = 'F') ∧
    (badCode .noHref = XIncludeNoHref ∧ badCode .xpointer = XIncludeXPointerNotSupported ∧
     badCode .badParse = XIncludeInvalidParseVal ∧ badCode .multiFallback = XIncludeMultipleFallbackElems ∧
     badCode .disallowedChild = XIncludeDisallowedChild) ∧
    -- an xi:fallback that is not the child of an xi:include
    (∀ (fs : FS) (root : URI) (rec : Rec) (h : List URI) (pb : URI) (pre : Base) (b : Base) (kids : List Node),
        procNode fs root rec h pb pre (.fallback b kids)
          = ⟨[annotate (resolveBase pb pre) (.fallback b kids)], [XIncludeOrphanFallback]⟩ ∧
        classOf XIncludeOrphanFallback = some .invalid ∧ severity XIncludeOrphanFallback = 'F') ∧
    -- whole documents: on an acyclic map an `invalid` error is reported exactly when the Spec demands one
    (∀ (fs : FS) (root : URI), Acyclic fs root →
        (ErrClass.invalid ∈ (substitute fs root).errs ↔ ∃ c, c ∈ (process fs root).errs ∧ classOf c = some .invalid)) := by
  refine ⟨?_, ⟨rfl, rfl, rfl, rfl, rfl⟩, ?_, ?_⟩
  · intro fs root rec h pb pre k a b kids
    exact ⟨procNode_bad .., classOf_badCode k, by cases k <;> decide⟩
  · intro fs root rec h pb pre b kids
    exact ⟨procNode_fallback .., by decide, by decide⟩
  · intro fs root hacyc
    rw [← (acyclic_eq_subst fs root hacyc).2, List.mem_filterMap]

/-- `a.xml` includes `d1/b.xml` twice (once below an element with xml:base); `d1/b.xml` includes the text `t.txt` through
    `../t.txt`, a missing document with a fallback that includes `c.xml` with a `d1/../` detour, and has a stray xi:fallback -/
def fsAcyc : FS :=
  [ (["a.xml"], .xml [.leaf .comment "" [112], .elem "r" [("id", "1")] .inherit
        [.incl ["d1", "b.xml"] .dflt none .inherit false [],
         .elem "p" [] (.rel ["d1", ""]) [.incl ["b.xml"] .xml none .inherit false []],
         .incl ["nope.xml"] .dflt none .inherit false [],
         .bad .badParse [("href", "c.xml"), ("parse", "html")] .inherit []]] []),
    (["d1", "b.xml"], .xml [.elem "b" [] .inherit
        [.incl ["..", "t.txt"] .text none .inherit false [],
         .incl ["gone.xml"] .dflt none .inherit true [.leaf .text "" [102], .incl ["d1", "..", "..", "c.xml"] .dflt none .inherit false []],
         .fallback .inherit [.leaf .text "" [111]]]] []),
    (["c.xml"], .xml [.elem "c" [] (.rel ["d2", ""]) [.elem "img" [("src", "x.png")] .inherit []]] []),
    (["t.txt"], .text [60, 38, 93, 93, 62, 233]) ]

-- the run on `fsAcyc` reports neither loop code nor `outOfFuel` (one evaluation), so it has walked everything reachable
theorem fsAcyc_acyclic : Acyclic fsAcyc ["a.xml"] :=
  acyclic_of_quiet fsAcyc ["a.xml"] (budget fsAcyc) [] ["a.xml"] _ ["a.xml"] .inherit rfl rfl (by decide +kernel)

-- the hypotheses of acyclic_eq_subst are satisfiable by a map with nested directories, text, fallback, errors;
-- and the conclusion is not trivial: the result has errors of two classes and resolved bases
example : (process fsAcyc ["a.xml"]).errs.filterMap classOf = [.invalid, .invalid, .noFallback, .invalid] := by decide +kernel
example : (substitute fsAcyc ["a.xml"]).errs = [.invalid, .invalid, .noFallback, .invalid] :=
  ((acyclic_eq_subst fsAcyc ["a.xml"] fsAcyc_acyclic).2).symm.trans (by decide +kernel)
example : (process fsAcyc ["a.xml"]).nodes.length = 2 := by decide +kernel
example : outOfFuel ∉ (process fsAcyc ["a.xml"]).errs := (process_total fsAcyc ["a.xml"]).1

/-- `a.xml` → `d1/b.xml` → `../c.xml` → `d1/../a.xml` (a loop of length 3 through different spellings), and `s.xml`
    includes itself -/
def fsCyc : FS :=
  [ (["a.xml"], .xml [.elem "a" [] .inherit [.incl ["d1", "b.xml"] .dflt none .inherit false []]] []),
    (["d1", "b.xml"], .xml [.elem "b" [] .inherit
        [.incl ["gone.xml"] .dflt none .inherit true [.incl ["..", "c.xml"] .xml none .inherit false []]]] []),
    (["c.xml"], .xml [.elem "c" [] .inherit [.incl ["d1", "..", "a.xml"] .dflt none .inherit true [.leaf .text "" [120]]]] []),
    (["s.xml"], .xml [.elem "s" [] .inherit [.incl ["s.xml"] .dflt none .inherit false []]] []) ]

example : ∃ c, c ∈ (process fsCyc ["a.xml"]).errs ∧ classOf c = some .circular ∧ severity c = 'F' :=
  -- the path from the root to `c.xml` is also the path that closes the loop `c.xml` → `a.xml` → … → `c.xml`
  have hr : Reach fsCyc ["a.xml"] ["c.xml"] :=
    .step (v := ["d1", "b.xml"]) (by decide +kernel) (.step (v := ["c.xml"]) (by decide +kernel) (.refl _))
  cycle_reported fsCyc ["a.xml"] ["c.xml"] hr ⟨["a.xml"], by decide +kernel, hr⟩
example : (process fsCyc ["a.xml"]).errs = [XIncludeIncludeFailedResourceError, XIncludeCircularInclusionDocIncludesSelf,
    XIncludeIncludeFailedResourceError] := by decide +kernel
example : XIncludeCircularInclusionDocIncludesSelf ∈ (process fsCyc ["s.xml"]).errs :=
  (self_include_reported fsCyc ["s.xml"] (by decide +kernel)).1
-- a loop that does not pass through the root: reported as XIncludeCircularInclusionLoop
example : (process (fsCyc ++ [(["z.xml"], .xml [.elem "z" [] .inherit [.incl ["s.xml"] .dflt none .inherit false []]] [])]) ["z.xml"]).errs
    = [XIncludeCircularInclusionLoop, XIncludeIncludeFailedResourceError, XIncludeIncludeFailedNoFallback] := by decide +kernel

-- fallback_spec: hypotheses satisfiable (missing target, empty history)
example : fetch fsAcyc (targetOf (resolveBase ["d1", "b.xml"] .inherit) .inherit ["gone.xml"]) .dflt none = .none := rfl
example : (procNode fsAcyc ["a.xml"] (procFuel fsAcyc ["a.xml"] 3) [] ["d1", "b.xml"] .inherit
    (.incl ["gone.xml"] .dflt none .inherit true [.leaf .text "" [102]])).nodes = [.leaf .text "" [102]] :=
  (fallback_spec fsAcyc ["a.xml"] _ [] ["d1", "b.xml"] .inherit ["gone.xml"] .dflt none .inherit [.leaf .text "" [102]]
    rfl (by decide +kernel) (by decide +kernel)).1.1.trans rfl

-- invalid_usage_reported: a bad parse value inside the acyclic map is reported (global part), with its own code (local part)
example : ∃ c, c ∈ (process fsAcyc ["a.xml"]).errs ∧ classOf c = some .invalid :=
  (invalid_usage_reported.2.2.2 fsAcyc ["a.xml"] fsAcyc_acyclic).mp (by decide +kernel)
example : XIncludeInvalidParseVal ∈ (process fsAcyc ["a.xml"]).errs ∧ XIncludeOrphanFallback ∈ (process fsAcyc ["a.xml"]).errs := by decide +kernel
example : (procNode fsAcyc ["a.xml"] (procFuel fsAcyc ["a.xml"] 3) [] ["a.xml"] .inherit (.bad .multiFallback [("href", "x")] .inherit [])).errs
    = [XIncludeMultipleFallbackElems] := by
  rw [(invalid_usage_reported.1 fsAcyc ["a.xml"] _ [] ["a.xml"] .inherit .multiFallback [("href", "x")] .inherit []).1]; rfl

end XV.Props.C20
