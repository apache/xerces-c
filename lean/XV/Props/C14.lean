/-
C14 — live lists, iterators, walkers and ranges stay consistent under mutation: the property theorems and their non-vacuity examples,
on the code-shaped models of XV.Model.Views (`vstep` turns a C13 operation into the notifications the views receive) against
XV.Spec.Views; the invariants the statements mention are defined in XV.Lemmas.ViewsMain and, for the TreeWalker, XV.Lemmas.ViewsWalker.
All statements quantify over ALL well-formed stores (XV.Spec.Dom.WF, preserved by every C13 operation: XV.Props.C13.wf_step), all
operands and all view states that satisfy the invariant the statement names (`IterOK`, `CacheOK`, `VisibleCur`, `BoundsOK`).  Only
`CacheOK` is proved to be kept along operation lists of ANY length (`deeplist_step`, `Reach`); `IterOK` is kept by one nextNode /
previousNode in the same store, `BoundsOK` by five primitive mutations.
-/
import XV.Lemmas.ViewsMain
import XV.Lemmas.ViewsWalker
namespace XV.Props.C14
open XV.Model.Dom XV.Spec.Dom XV.Model.Views XV.Spec.Views XV.Lemmas.Dom XV.Lemmas.Views XV.Lemmas.ViewsOrder
  XV.Lemmas.ViewsContent XV.Lemmas.ViewsMain XV.Lemmas.ViewsWalker

/-- nextNode() of the code = `specNext` on the document order of the root: the result is the first accepted node ahead of
the position, which becomes the reference node with the iterator after it. -/
theorem iterator_next_spec (s : Store) (h : WF s) (it : Iter) (hok : IterOK s it) (hd : it.detached = false) :
    ∃ it' r, it.nextNode s = (it', .node r) ∧
      (posOf it', r) = specNext (iterAccepts s it.w it.filt) (docOrder s it.root) (posOf it) ∧
      it'.root = it.root ∧ it'.w = it.w ∧ it'.filt = it.filt ∧ it'.detached = false :=
  ⟨_, _, nextNode_spec s h it hok hd, rfl, rfl, rfl, rfl, hd⟩

/-- previousNode() of the code = `specPrev`. -/
theorem iterator_prev_spec (s : Store) (h : WF s) (it : Iter) (hok : IterOK s it) (hd : it.detached = false) :
    ∃ it' r, it.previousNode s = (it', .node r) ∧
      (posOf it', r) = specPrev (iterAccepts s it.w it.filt) (docOrder s it.root) (posOf it) ∧
      it'.root = it.root ∧ it'.w = it.w ∧ it'.filt = it.filt ∧ it'.detached = false :=
  ⟨_, _, previousNode_spec s h it hok hd, rfl, rfl, rfl, rfl, hd⟩

/-- removeNode(node) of the (repaired) code = the robustness rule of DOM Traversal 1.1.1.2 for the removal of the subtree of
`node`, a proper descendant of the iterator's root: the block `docOrder node` leaves the list `docOrder root`. -/
theorem iterator_remove_spec (s : Store) (h : WF s) (it : Iter) (hok : IterOK s it) (hd : it.detached = false)
    (node : NodeId) (hn : node ∈ (docOrder s it.root).tail) :
    posOf (it.removeNode s node) = specRemove (docOrder s it.root) (docOrder s node) (posOf it) :=
  congrArg posOf (removeNode_spec s h it hok hd node hn)

/-- … and a removal anywhere else (the root itself, one of its ancestors, another tree) leaves the iterator alone. -/
theorem iterator_remove_outside (s : Store) (h : WF s) (it : Iter) (hok : IterOK s it) (node : NodeId)
    (hn : node ∉ (docOrder s it.root).tail) : it.removeNode s node = it :=
  XV.Lemmas.ViewsMain.iterator_remove_outside s h it hok node hn

/-- An iterator never returns a node that is not in its root's subtree, nor one its filter does not accept, and its
reference node stays in the root's subtree. -/
theorem iterator_in_subtree (s : Store) (h : WF s) (it : Iter) (hok : IterOK s it) (hd : it.detached = false) :
    (∀ it' x, it.nextNode s = (it', .node (some x)) →
        x ∈ docOrder s it.root ∧ iterAccepts s it.w it.filt x = true) ∧
    (∀ it' x, it.previousNode s = (it', .node (some x)) →
        x ∈ docOrder s it.root ∧ iterAccepts s it.w it.filt x = true) ∧
    IterOK s (it.nextNode s).1 ∧ IterOK s (it.previousNode s).1 :=
  XV.Lemmas.ViewsMain.iterator_in_subtree s h it hok hd

/-- After the fix-up for the removal of the subtree of `node` the reference node is still in the root's subtree and no
longer inside the subtree that goes away: the iterator does not stand on a removed node. -/
theorem iterator_remove_leaves_subtree (s : Store) (h : WF s) (it : Iter) (hok : IterOK s it) (hd : it.detached = false)
    (node : NodeId) (hn : node ∈ (docOrder s it.root).tail) :
    ∀ c, (it.removeNode s node).cur = some c → c ∈ docOrder s it.root ∧ c ∉ docOrder s node :=
  XV.Lemmas.ViewsMain.iterator_remove_leaves_subtree s h it hok hd node hn

/-- The repaired removeNode against `removeNodeAsIs`, the current C++ (`none` = it dereferences a null pointer): the two agree on every
attached iterator that has been stepped, and differ exactly on one that has not been stepped yet (DESIGN §5 F5), where
`removeNodeAsIs` is `none` (by construction of `matchNodeOrParentAsIs`) and removeNode leaves the iterator as it is: the position "before
the first node" survives every removal. -/
theorem iterator_total (s : Store) (it : Iter) (node : NodeId) :
    (it.cur.isSome = true → it.detached = false → it.removeNodeAsIs s node = some (it.removeNode s node)) ∧
    (it.cur = none → it.removeNodeAsIs s node = none) ∧
    (it.cur = none → it.removeNode s node = it) :=
  XV.Lemmas.ViewsMain.iterator_total s it node

/-- One query item(index) — whatever the cache holds, stale or not — returns the element number `index` of the matching
elements of the CURRENT tree in document order, and leaves a cache that agrees with the tree. -/
theorem deeplist_item_spec (s : Store) (h : WF s) (chg : Nat) (dl : DeepList) (hok : CacheOK s chg dl) (index : Nat) :
    (dl.item s chg index).2 = (matching s dl.tag dl.root)[index]? ∧
    CacheOK s chg (dl.item s chg index).1 ∧
    (dl.item s chg index).1.root = dl.root ∧ (dl.item s chg index).1.tag = dl.tag ∧
    ((dl.item s chg index).2 = none → (dl.item s chg index).1.idx = (matching s dl.tag dl.root).length) :=
  XV.Lemmas.ViewsMain.deeplist_item_spec s h chg dl hok index

/-- getLength() — again whatever the cache holds — is the number of matching elements of the current tree (for documents of
fewer than INT_MAX nodes: the C++ preloads with item(INT_MAX)). -/
theorem deeplist_length_spec (s : Store) (h : WF s) (chg : Nat) (dl : DeepList) (hok : CacheOK s chg dl)
    (hsz : s.size < intMax) :
    (dl.length s chg).2 = (matching s dl.tag dl.root).length ∧ CacheOK s chg (dl.length s chg).1 ∧
    (dl.length s chg).1.root = dl.root ∧ (dl.length s chg).1.tag = dl.tag :=
  XV.Lemmas.ViewsMain.deeplist_length_spec s h chg dl hok hsz

/-- One step: the invariant is kept, and a query answers from the CURRENT tree: item(i) is the i-th matching element in
document order computed afresh, getLength() their number. -/
theorem deeplist_step (d : NodeId) (v : VState) (hinv : ListInv d v) (o : LOp) (hok : OpOK d v o) :
    ListInv d (lstep v o).1 ∧
    (∀ k i dl, o = .item k i → v.lists[k]? = some dl → dl.alive v.store = true →
      (lstep v o).2 = .node ((matching v.store dl.tag dl.root)[i]?)) ∧
    (∀ k dl, o = .len k → v.lists[k]? = some dl → dl.alive v.store = true →
      (lstep v o).2 = .num (matching v.store dl.tag dl.root).length) :=
  XV.Lemmas.ViewsMain.deeplist_step d v hinv o hok

/-- After ANY interleaving of C13 mutations, creations of tag-name lists and queries (`LOp`; the content operations of a range, which
also change the tree, are not among them), run by the repaired model (`lstep`, configuration `{}`), item(i) and getLength() of a live
tag-name list answer as if computed afresh on the current tree: the i-th element / the number of the matching elements of `docOrder`
of the root — the cache (fCurrentNode, fCurrentIndexPlus1, fChanges) is unobservable.
False of the current C++ for renameNode, which does not advance the change counter (witness below); the model advances it. -/
theorem deeplist_cache_transparent (d : NodeId) (v : VState) (hr : Reach d v) :
    ListInv d v ∧
    (∀ k i dl, v.lists[k]? = some dl → dl.alive v.store = true →
      (lstep v (.item k i)).2 = .node ((matching v.store dl.tag dl.root)[i]?)) ∧
    (∀ k dl, v.lists[k]? = some dl → dl.alive v.store = true → v.store.size < intMax →
      (lstep v (.len k)).2 = .num (matching v.store dl.tag dl.root).length) :=
  XV.Lemmas.ViewsMain.deeplist_cache_transparent d v hr

/-- Each of the six fix-up functions the DOM calls on its ranges moves both boundary points by one rule of the Spec: for the four
insertions and deletions the rule of DOM Range 2.12 (`updateRangeForInsertedText` as repaired: DESIGN §5 F6; as it was:
`insertedText_asIs_wrong`), for setData and splitText, of which 2.12 does not speak, `bpReplacedText` and `bpSplit`. -/
theorem range_fixup_spec (s : Store) (h : WF s) (r : Range) :
    (∀ node p, parentOf s node = some p →
      r.insertedNode s node = mapBP (bpInsertedNode p (indexIn s p node)) r ∧
      r.deletedNode s node = mapBP (bpDeletedNode p (indexIn s p node) (isAncOf s node)) r) ∧
    (∀ node off cnt, textLike s node = true →
      r.insertedText s node off cnt = mapBP (bpInsertedText node off cnt) r ∧
      r.deletedText s node off cnt = mapBP (bpDeletedText node off cnt) r ∧
      r.replacedText s node = mapBP (bpReplacedText node) r) ∧
    (∀ old nw off, textLike s old = true → r.splitInfo s old nw off = mapBP (bpSplit old nw off) r) :=
  XV.Lemmas.ViewsMain.range_fixup_spec s h r

/- FULL STATEMENT (not proved):
   range_valid_preserved : WF v.store → (∀ r ∈ v.ranges, r.detached = false → ValidRange v.store r) →
       ∀ op, ∀ r ∈ (vstep {} v op).1.ranges, r.detached = false → ValidRange (vstep {} v op).1.store r
   for ranges whose `doc` is the document of their containers, i.e. containers live and in one tree, offsets within the containers,
   start not after end (XV.Spec.Views.ValidRange) after every C13 operation followed by the fix-up calls of the code.  `notify` fixes
   up the ranges with `r.doc = d ∧ !r.detached` only and `ValidRange` speaks of neither, so without the two conditions the statement
   is false (a detached range keeps its offsets when a child of its container is removed).
   PROVED (`bounds_*`, together `range_valid_preserved_partial`): for each primitive mutation the DOM performs — insertData,
   deleteData, setData, removeChild, insertBefore of a detached node — followed by the fix-up the DOM calls for it
   (`range_fixup_spec`), both boundary points keep a live container and an offset within it (`BoundsOK`).
   NOT PROVED, checked by correspondence on every operation of every history (tools/props/c14.py: range-start-after-end,
   range-containers-in-different-trees, range-offset-out-of-bounds, …): start ≤ end and same-tree, splitText, and the
   decomposition of the compound operations (fragment insertion, replaceChild, normalize, setAttribute) into these primitives,
   which `XV.Model.Views.opLog` spells out. -/

/-- insertData(off, d) on the character data `t` followed by updateRangeForInsertedText.  Here, and for deleteData and setData, the
fix-up is evaluated on the store AFTER the edit, while `opLog` hands `notify` the store before it: these fix-ups read the store through
`textLike` only, which `setDataOf` keeps (`textLike_setDataOf`). -/
theorem bounds_insertData (s : Store) (r : Range) (t off : Nat) (d : List Nat) (ht : textLike s t = true)
    (hoff : off ≤ (dataOf s t).length) (hb : BoundsOK s r) :
    let s' := setDataOf s t (insertAtOff (dataOf s t) off d)
    BoundsOK s' (r.insertedText s' t off d.length) :=
  XV.Lemmas.ViewsMain.bounds_insertData s r t off d ht hoff hb

/-- deleteData(off, cnt) followed by updateRangeForDeletedText with the clamped count -/
theorem bounds_deleteData (s : Store) (r : Range) (t off cnt : Nat) (ht : textLike s t = true)
    (hoff : off ≤ (dataOf s t).length) (hb : BoundsOK s r) :
    let s' := setDataOf s t (deleteRange (dataOf s t) off cnt)
    BoundsOK s' (r.deletedText s' t off (clampCount (dataOf s t).length off cnt)) :=
  XV.Lemmas.ViewsMain.bounds_deleteData s r t off cnt ht hoff hb

/-- setData(d) followed by receiveReplacedText -/
theorem bounds_setData (s : Store) (r : Range) (t : Nat) (d : List Nat) (ht : textLike s t = true) (hb : BoundsOK s r) :
    let s' := setDataOf s t d
    BoundsOK s' (r.replacedText s' t) :=
  XV.Lemmas.ViewsMain.bounds_setData s r t d ht hb

/-- removeChild(c): updateRangeForDeletedNode on the store before the unlink, then the unlink -/
theorem bounds_removeChild (s : Store) (h : WF s) (r : Range) (c p : NodeId) (hp : parentOf s c = some p)
    (htp : textLike s p = false) (hb : BoundsOK s r) :
    BoundsOK (detach s c) (r.deletedNode s c) :=
  XV.Lemmas.ViewsMain.bounds_removeChild s h r c p hp htp hb

/-- insertBefore(n, ref) of a parentless node: the link surgery, then updateRangeForInsertedNode on the store after it -/
theorem bounds_insertBefore (s : Store) (h : WF s) (r : Range) (n p : NodeId) (ref : Option NodeId)
    (hn : parentOf s n = none) (hpl : (s.get p).isSome = true) (htp : textLike s p = false)
    (hp' : parentOf (moveNodes s [n] p ref) n = some p) (hb : BoundsOK s r) :
    BoundsOK (moveNodes s [n] p ref) (r.insertedNode (moveNodes s [n] p ref) n) :=
  XV.Lemmas.ViewsMain.bounds_insertBefore s h r n p ref hn hpl htp hp' hb

/-- the five primitive mutations keep both boundary points of every range within bounds -/
theorem range_valid_preserved_partial (s : Store) (h : WF s) (r : Range) (hb : BoundsOK s r) :
    (∀ t off d, textLike s t = true → off ≤ (dataOf s t).length →
      BoundsOK (setDataOf s t (insertAtOff (dataOf s t) off d))
        (r.insertedText (setDataOf s t (insertAtOff (dataOf s t) off d)) t off d.length)) ∧
    (∀ t off cnt, textLike s t = true → off ≤ (dataOf s t).length →
      BoundsOK (setDataOf s t (deleteRange (dataOf s t) off cnt))
        (r.deletedText (setDataOf s t (deleteRange (dataOf s t) off cnt)) t off
          (clampCount (dataOf s t).length off cnt))) ∧
    (∀ t d, textLike s t = true → BoundsOK (setDataOf s t d) (r.replacedText (setDataOf s t d) t)) ∧
    (∀ c p, parentOf s c = some p → textLike s p = false → BoundsOK (detach s c) (r.deletedNode s c)) ∧
    (∀ n p ref, parentOf s n = none → (s.get p).isSome = true → textLike s p = false →
      parentOf (moveNodes s [n] p ref) n = some p →
      BoundsOK (moveNodes s [n] p ref) (r.insertedNode (moveNodes s [n] p ref) n)) :=
  ⟨fun t off d ht ho => bounds_insertData s r t off d ht ho hb,
   fun t off cnt ht ho => bounds_deleteData s r t off cnt ht ho hb,
   fun t d ht => bounds_setData s r t d ht hb,
   fun c p hp htp => bounds_removeChild s h r c p hp htp hb,
   fun n p ref hn hpl htp hp' => bounds_insertBefore s h r n p ref hn hpl htp hp' hb⟩

/-- On the boundary points of one tree (offsets within the containers) the comparison of DOMRangeImpl::compareBoundaryPoints is the
comparison of the positions `bpKey` in the linearised tree; hence it is a total preorder — reflexive, antisymmetric in the sense
cmp(b,a) = −cmp(a,b), transitive — and it extends the document order: the first points inside the nodes of `docOrder`, `(x, 0)`, are
strictly increasing.  (`TextLeaves`: character data has no children.  It is an assumption: that the operations keep it is not proved.) -/
theorem compareBoundaryPoints_order (s : Store) (h : WF s) (htl : TextLeaves s) :
    (∀ a oa b ob, rootOf s a = rootOf s b → oa ≤ lenOf s a → ob ≤ lenOf s b →
      cmpPoints s a oa b ob = keyCmp (bpKey s (a, oa)) (bpKey s (b, ob))) ∧
    (∀ a oa, oa ≤ lenOf s a → cmpPoints s a oa a oa = 0) ∧
    (∀ a oa b ob, rootOf s a = rootOf s b → oa ≤ lenOf s a → ob ≤ lenOf s b →
      cmpPoints s b ob a oa = - cmpPoints s a oa b ob) ∧
    (∀ a oa b ob c oc, rootOf s a = rootOf s b → rootOf s b = rootOf s c → oa ≤ lenOf s a → ob ≤ lenOf s b →
      oc ≤ lenOf s c → cmpPoints s a oa b ob ≤ 0 → cmpPoints s b ob c oc ≤ 0 → cmpPoints s a oa c oc ≤ 0) ∧
    (∀ r, (docOrder s r).Pairwise (fun x y => bpKey s (x, 0) < bpKey s (y, 0))) :=
  XV.Lemmas.ViewsMain.compareBoundaryPoints_order s h htl

/-- cloneContents() leaves every existing node exactly as it was — parent, children, attributes, data: it only adds nodes (the
fragment and the copies) — and the fragment it returns is one of the new nodes. -/
theorem clone_pure (s : Store) (h : WF s) (r : Range) :
    (∀ i, i < s.size → (cloneContents s r).1.get i = s.get i) ∧ s.size ≤ (cloneContents s r).1.size ∧
    s.size ≤ (cloneContents s r).2 :=
  XV.Lemmas.ViewsMain.clone_pure s h r

/- FULL STATEMENTS (not proved; the parts below are):
   extract_eq_clone_then_delete : for every valid range r of a well-formed store s,
     (1) the range after extractContents = the range after deleteContents,
     (2) every node of s that deleteContents leaves attached has the same record after extractContents, the nodes it detaches
         are the ones that hang under the returned fragment,
     (3) the fragment of extractContents is structurally equal (isEqualNode) to the fragment of cloneContents on s.
   toString_spec : for every valid range r, r.toStringCode s = rangeText s r (the code's pointer walk = the declarative
     selection of character data), and rangeText s r = the text content of the fragment of cloneContents.
   Both need that the traversal takes the same decisions on the store it has already modified and that C13's cloneInto is a
   faithful copy; they are checked by correspondence (tools/props/c14.py: range-*-fragment-wrong, range-*-tree-wrong,
   range-toString-wrong against a second, Python reference). -/

/-- (1): extractContents and deleteContents leave the range at the same (collapsed) position.  True of the model by construction (both
put the range at `collapsePoint s r`); it says nothing of the fragment or of the traversal. -/
theorem extract_eq_clone_then_delete_partial (s : Store) (r : Range) :
    (extractContents s r).2.2.1 = (deleteContents s r).2.1 ∧
    ((extractContents s r).2.2.1).collapsed = true :=
  XV.Lemmas.ViewsMain.extract_eq_clone_then_delete_partial s r

/-- toString() of the code on the two simplest shapes of a range: a collapsed range has no text; a range inside one Text /
CDATASection node has the characters between the offsets, and so says `rangeText` (for the collapsed range `rangeText` is not
mentioned). -/
theorem toString_spec_partial (s : Store) (r : Range) :
    (r.sc = r.ec → r.so = r.eo → r.toStringCode s = []) ∧
    (r.sc = r.ec → r.so ≠ r.eo → isCharText s r.sc = true →
      r.toStringCode s = ((dataOf s r.sc).take r.eo).drop r.so ∧ rangeText s r = ((dataOf s r.sc).take r.eo).drop r.so) :=
  XV.Lemmas.ViewsMain.toString_spec_partial s r

/-- `StdJudge s wk`: the walker's acceptNode gives the verdicts of DOM Traversal 1.2 (whatToShow first; a node hidden by
whatToShow is skipped and the filter is not consulted).  The three walker theorems below are about every walker with this
property.  It holds for the acceptNode of the Spec's rule unconditionally, and for the acceptNode of the code as it is
(`asIs = true`: DOMTreeWalkerImpl::acceptNode consults the filter for hidden nodes and honours its FILTER_REJECT —
DOMTraversalTest expects that, an open finding) under the side condition `NoHiddenReject`; that the code-shaped walker deviates
without it is shown on one instance (`walker_code_deviates`), not as the converse. -/
theorem walker_std_of_rule (s : Store) (wk : Walker) (hasis : wk.asIs = false) : StdJudge s wk := by
  intro x; unfold Walker.judge; rw [hasis]; rfl

theorem walker_std_of_code (s : Store) (wk : Walker) (hside : NoHiddenReject s wk.w wk.filt) : StdJudge s wk := by
  intro x
  unfold Walker.judge
  cases wk.asIs with
  | false => rfl
  | true =>
    simp only [if_true, verdictAsIs, verdict]
    cases hx : s.get x with
    | none => rfl
    | some r =>
      simp only
      by_cases hf : wk.filt = 0
      · simp [hf]
      · by_cases hs : shown wk.w r.kind = true
        · simp [hf, hs]
        · have hs' : shown wk.w r.kind = false := by simpa using hs
          have := hside x r hx hs'
          simp [hf, hs', this]

/-- One nextNode() of a TreeWalker whose current node is its root or a visible node moves to the successor of the current
node in the logical view (root, then the accepted nodes that have no rejected ancestor below the root, in document order);
the other fields do not change. -/
theorem walker_next_spec (s : Store) (h : WF s) (wk : Walker) (hj : StdJudge s wk) (hcur : VisibleCur s wk) :
    (wk.nextNode s).2 = succIn (wk.root :: visibleOrder s wk.w wk.filt wk.root) wk.cur ∧
    (wk.nextNode s).1 = { wk with cur := ((wk.nextNode s).2).getD wk.cur } :=
  ⟨walker_nextNode_spec h wk hj hcur, (nextNode_value s wk).2⟩

/-- From its root, nextNode() enumerates exactly the logical view, in order, and then returns null; and the logical view is
`filter docOrder` minus the rejected subtrees: the nodes of `docOrder root` (root excluded) that are accepted by whatToShow + filter
and have no rejected node strictly between the root and themselves (FILTER_SKIP nodes are transparent, FILTER_REJECT prunes; a node
hidden by whatToShow is skipped without consulting the filter: that is `StdJudge`, which the code is shown to meet under `NoHiddenReject`). -/
theorem walker_eq_filter (s : Store) (h : WF s) (wk : Walker) (hj : StdJudge s wk) (hroot : wk.cur = wk.root) :
    (∀ n, (visibleOrder s wk.w wk.filt wk.root).length ≤ n →
      walkFrom s n wk = visibleOrder s wk.w wk.filt wk.root) ∧
    visibleOrder s wk.w wk.filt wk.root = (docOrder s wk.root).tail.filter (visibleP s wk.w wk.filt wk.root) :=
  ⟨fun n hn => walkFrom_spec h _ [] wk n hj (by rw [hroot]; rfl) hn, visibleOrder_eq_filter h _ _ _⟩

/-- `walker_eq_filter` for the walker that mirrors the code (`asIs = true`), PARTIAL: it needs the side condition
`NoHiddenReject s wk.w wk.filt` (the filter does not FILTER_REJECT any node that whatToShow hides).
FULL STATEMENT (false for the code as it is, see `walker_code_deviates`):
  ∀ s wk, WF s → wk.asIs = true → wk.cur = wk.root →
    ∀ n, (visibleOrder s wk.w wk.filt wk.root).length ≤ n → walkFrom s n wk = visibleOrder s wk.w wk.filt wk.root -/
theorem walker_eq_filter_code_partial (s : Store) (h : WF s) (wk : Walker) (_hcode : wk.asIs = true)
    (hside : NoHiddenReject s wk.w wk.filt) (hroot : wk.cur = wk.root) :
    (∀ n, (visibleOrder s wk.w wk.filt wk.root).length ≤ n →
      walkFrom s n wk = visibleOrder s wk.w wk.filt wk.root) ∧
    visibleOrder s wk.w wk.filt wk.root = (docOrder s wk.root).tail.filter (visibleP s wk.w wk.filt wk.root) :=
  walker_eq_filter s h wk (walker_std_of_code s wk hside) hroot

/-- firstChild() / nextSibling() / parentNode() on a node of the root's subtree.  firstChild (`specFC`): the first visible node below
the current node; if the current node has children and is itself skipped, failing that the first visible node after its subtree, as
for nextSibling (the code does that, getFirstChild → getNextSibling; DOM Traversal 1.2 asks for null there).  nextSibling: the first
visible node after the subtree of the current node inside the nearest enclosing node that is the root or not skipped.  parentNode:
only that what it returns is an accepted node of the root's subtree.  (lastChild / previousSibling / previousNode are the mirror
images; they are tied to the code by correspondence only.) -/
theorem walker_child_sibling_parent_spec (s : Store) (h : WF s) (wk : Walker) (hj : StdJudge s wk)
    (hcur : wk.cur ∈ docOrder s wk.root) :
    (wk.firstChild s).2 = specFC s wk.w wk.filt wk.root wk.cur ∧
    (wk.nextSibling s).2 = (R s wk.w wk.filt wk.root wk.cur).head? ∧
    (∀ a, (wk.parentNode s).2 = some a → AncOrSelf s wk.root a ∧ verdict s wk.w wk.filt a = .accept) := by
  refine ⟨?_, ?_, ?_⟩
  · unfold Walker.firstChild
    rw [moveTo_snd]
    exact (tw_spec h wk hj hcur).1
  · unfold Walker.nextSibling
    rw [moveTo_snd]
    exact (tw_spec h wk hj hcur).2
  · intro a ha
    unfold Walker.parentNode at ha
    rw [moveTo_snd] at ha
    exact twParent_spec h wk hj (mem_docOrder_anc h _ _ hcur) ha

/-- a concrete reachable store: document 0 with  a(1){ b(2){ "ABCDE"(3) }, c(4), <!--M-->(5) } -/
def sample : Store := run (init 1)
  [.createElement 0 [0x61], .createElement 0 [0x62], .createText 0 [0x41, 0x42, 0x43, 0x44, 0x45],
   .createElement 0 [0x63], .createComment 0 [0x4d], .appendChild 0 1, .appendChild 1 2, .appendChild 2 3,
   .appendChild 1 4, .appendChild 1 5]

theorem sample_wf : WF sample := XV.Props.C13.wf_reachable 1 _

/-- the ten operations carried out once: the examples below compute on this value -/
theorem sample_eq : sample = ⟨#[
    some { kind := .document, children := [1], owner := 0 },
    some { kind := .element, name := [0x61], parent := some 0, children := [2, 4, 5], owner := 0 },
    some { kind := .element, name := [0x62], parent := some 1, children := [3], owner := 0 },
    some { kind := .text, data := [0x41, 0x42, 0x43, 0x44, 0x45], parent := some 2, owner := 0 },
    some { kind := .element, name := [0x63], parent := some 1, owner := 0 },
    some { kind := .comment, data := [0x4d], parent := some 1, owner := 0 }]⟩ :=
  have h : ∀ (s : Store) l, s.nodes = l → s = ⟨l⟩ := fun _ _ h => h ▸ rfl
  h _ _ (by decide +kernel)
example : docOrder sample 0 = [0, 1, 2, 3, 4, 5] := by rw [sample_eq]; decide +kernel

theorem sample_textLeaves : TextLeaves sample := by
  rw [sample_eq]; exact textLeaves_of_bounded _ (by decide +kernel)

-- iterators: an iterator over the document that skips elements named b, stepped three times, then node 2 is removed
def it0 : Iter := { root := 0, w := 65535, filt := 1 }
def it3 : Iter := { it0 with cur := some 3, fwd := true }
example : IterOK sample it0 ∧ IterOK sample it3 := by
  constructor
  · intro c hc; cases hc
  · intro c hc
    have : c = 3 := by cases hc; rfl
    subst this; rw [sample_eq]; decide +kernel
example : (it0.nextNode sample).2 = .node (some 0) ∧ (it3.nextNode sample).2 = .node (some 4) ∧
    (it3.previousNode sample).2 = .node (some 3) := by rw [sample_eq]; decide +kernel
example : (2 : NodeId) ∈ (docOrder sample it3.root).tail ∧ posOf (it3.removeNode sample 2) = ⟨some 1, true⟩ ∧
    specRemove (docOrder sample 0) (docOrder sample 2) (posOf it3) = ⟨some 1, true⟩ := by rw [sample_eq]; decide +kernel
-- … moving backwards the reference node becomes the first node after the removed subtree
example : posOf (({ it3 with fwd := false } : Iter).removeNode sample 2) = ⟨some 4, false⟩ := by rw [sample_eq]; decide +kernel
-- the current C++ crashes on the iterator that has not been stepped, the repaired code leaves it alone
example : it0.removeNodeAsIs sample 2 = none ∧ it0.removeNode sample 2 = it0 := by rw [sample_eq]; decide +kernel

-- tag-name lists: create a, attach it, ask for the `a` elements, rename a to z, ask again
def listRun : VState :=
  (lstep (lstep (lstep (lstep (lstep { store := init 1 } (.dom (.createElement 0 [0x61]))).1
    (.dom (.appendChild 0 1))).1 (.mk 0 [0x61])).1 (.item 0 0)).1 (.dom (.renameNode 0 1 [0x7a]))).1
example : Reach 0 listRun :=
  .step _ (.step _ (.step _ (.step _ (.step _ (.init 1) (by unfold OpOK; decide +kernel)) (by unfold OpOK; decide +kernel))
    (by unfold OpOK; decide +kernel)) trivial) (by unfold OpOK; decide +kernel)
example : (lstep listRun (.item 0 0)).2 = .node none ∧ (lstep listRun (.len 0)).2 = .num 0 := by decide +kernel
-- … whereas with the current C++ (renameNode does not advance the change counter) the stale element is still listed
example : (vop { renameInvalidates := false }
    (vop { renameInvalidates := false } (lstep (lstep (lstep (lstep { store := init 1 } (.dom (.createElement 0 [0x61]))).1
      (.dom (.appendChild 0 1))).1 (.mk 0 [0x61])).1 (.item 0 0)).1 (.dom (.renameNode 0 1 [0x7a]))).1
    (.listItem 0 0)).2 = .node (some 1) := by decide +kernel

-- ranges: [ (T,3) , (T,4) ] and insertData(1, "XY"): F6
def r34 : Range := { doc := 0, sc := 3, so := 3, ec := 3, eo := 4 }
example : textLike sample 3 = true ∧ parentOf sample 2 = some 1 := by rw [sample_eq]; decide +kernel
example : (r34.insertedText sample 3 1 2).so = 5 ∧ (r34.insertedText sample 3 1 2).eo = 6 ∧
    (r34.insertedTextAsIs sample 3 1 2).so = 1 := by rw [sample_eq]; decide +kernel
/-- The current C++ `updateRangeForInsertedText` is NOT the rule of DOM Range 2.12.1 (F6): range [3,4] in a text,
insertData(1, "XY") gives start 1 instead of 5. -/
theorem insertedText_asIs_wrong :
    ∃ (s : Store) (r : Range) (t off cnt : Nat), textLike s t = true ∧
      r.insertedTextAsIs s t off cnt ≠ mapBP (bpInsertedText t off cnt) r ∧
      (r.insertedTextAsIs s t off cnt).so = 1 ∧ (mapBP (bpInsertedText t off cnt) r).so = 5 :=
  ⟨sample, r34, 3, 1, 2, by rw [sample_eq]; decide +kernel⟩
def vSplit : VState := { store := sample, ranges := [{ doc := 0, sc := 3, so := 1, ec := 2, eo := 1 }] }
/-- The model that mirrors the code as it is (`splitKeepsAfter := false`: after splitText, DOMRangeImpl::updateSplitInfo moves
the points inside the moved text only; a point directly after the old node, (parent, index + 1), stays between the two halves —
RangeTest expects that, an open finding) turns a valid range into one that starts after it ends: range [("ABCDE",1), (b,1)],
splitText(0).  With the rule of the Spec (the point directly after the old node stays after the text that moved) the range
stays valid. -/
theorem split_code_breaks_validity :
    ValidRange sample { doc := 0, sc := 3, so := 1, ec := 2, eo := 1 } ∧
    (vstep { splitKeepsAfter := false } vSplit (.splitText 3 0)).1.ranges = [{ doc := 0, sc := 6, so := 1, ec := 2, eo := 1 }] ∧
    ¬ ValidRange (vstep { splitKeepsAfter := false } vSplit (.splitText 3 0)).1.store { doc := 0, sc := 6, so := 1, ec := 2, eo := 1 } ∧
    (vstep {} vSplit (.splitText 3 0)).1.ranges = [{ doc := 0, sc := 6, so := 1, ec := 2, eo := 2 }] ∧
    ValidRange (vstep {} vSplit (.splitText 3 0)).1.store { doc := 0, sc := 6, so := 1, ec := 2, eo := 2 } := by
  unfold vSplit; rw [sample_eq]; decide +kernel
-- the in-text part of the fix-up (`range_fixup_spec`, last clause) is the same function in both: only points inside the old
-- node move
example : (vstep { splitKeepsAfter := false } { vSplit with ranges := [r34] } (.splitText 3 2)).1.ranges =
    [{ doc := 0, sc := 6, so := 1, ec := 6, eo := 2 }] := by unfold vSplit; rw [sample_eq]; decide +kernel
def vDetached : VState :=
  { store := run (init 1) [.createText 0 [0x41, 0x42, 0x43]], ranges := [{ doc := 0, sc := 1, so := 0, ec := 1, eo := 3 }] }
/-- splitText of a PARENTLESS Text node: the new node is linked to nothing.  The model that mirrors the code as it is
(`splitDetachedStays := false`: DOMRangeImpl::updateSplitInfo moves the points behind the split offset into the new node whether
or not it is linked to the old one) leaves the range ["ABC"|0, "ABC"|3] with its boundary points in two different trees after
splitText(1); with the rule of the Spec (the points stay in the old node, at its new end) the range stays valid. -/
theorem split_detached_code_breaks_validity :
    ValidRange vDetached.store { doc := 0, sc := 1, so := 0, ec := 1, eo := 3 } ∧
    (vstep { splitDetachedStays := false } vDetached (.splitText 1 1)).1.ranges = [{ doc := 0, sc := 1, so := 0, ec := 2, eo := 2 }] ∧
    ¬ ValidRange (vstep { splitDetachedStays := false } vDetached (.splitText 1 1)).1.store { doc := 0, sc := 1, so := 0, ec := 2, eo := 2 } ∧
    (vstep {} vDetached (.splitText 1 1)).1.ranges = [{ doc := 0, sc := 1, so := 0, ec := 1, eo := 1 }] ∧
    ValidRange (vstep {} vDetached (.splitText 1 1)).1.store { doc := 0, sc := 1, so := 0, ec := 1, eo := 1 } := by
  decide +kernel
def vAttr : VState :=
  { store := run (init 1) [.createElement 0 [0x61], .appendChild 0 1, .setAttribute 1 [0x69] [0x41, 0x42, 0x43],
                           .createElement 0 [0x62]],
    ranges := [{ doc := 0, sc := 3, so := 1, ec := 3, eo := 1 }] }
/-- insertNode with the start point inside the Text value of an attribute and an Element as new node: the model that mirrors the
code as it is (`insertNodeChecksFirst := false`: DOMRangeImpl::insertNode calls splitText and only then insertBefore, which
refuses an Element under an Attr) raises HIERARCHY_REQUEST_ERR with the text already split (one node more in the store, two
children under the Attr); with the rule of the Spec (an operation that raises changes nothing) the same exception leaves
everything as it was. -/
theorem insertNode_code_raises_after_split :
    kindOf vAttr.store 2 = some .attr ∧ kids vAttr.store 2 = [3] ∧ kindOf vAttr.store 4 = some .element ∧
    (vop { insertNodeChecksFirst := false } vAttr (.rInsert 0 4)).2 = .dom (.exc .hierarchy) ∧
    kids (vop { insertNodeChecksFirst := false } vAttr (.rInsert 0 4)).1.store 2 = [3, 5] ∧
    (vop {} vAttr (.rInsert 0 4)).2 = .dom (.exc .hierarchy) ∧
    (vop {} vAttr (.rInsert 0 4)).1.store.size = vAttr.store.size ∧ kids (vop {} vAttr (.rInsert 0 4)).1.store 2 = [3] ∧
    (vop {} vAttr (.rInsert 0 4)).1.ranges = vAttr.ranges := by
  decide +kernel
-- removal of b (child 0 of a): a range inside its text collapses to (a, 0); a point after it moves down
example : ({ doc := 0, sc := 3, so := 1, ec := 1, eo := 2 } : Range).deletedNode sample 2 =
    { doc := 0, sc := 1, so := 0, ec := 1, eo := 1 } := by rw [sample_eq]; decide +kernel
example : BoundsOK sample r34 ∧ BoundsOK sample { doc := 0, sc := 3, so := 1, ec := 1, eo := 2 } := by
  unfold BoundsOK bpOK; rw [sample_eq]; decide +kernel
-- the order of boundary points: (a,0) < (T,2) < (a,1) < (c,0); same point; the comparison is antisymmetric
example : cmpPoints sample 1 0 3 2 = -1 ∧ cmpPoints sample 3 2 1 1 = -1 ∧ cmpPoints sample 1 1 4 0 = -1 ∧
    cmpPoints sample 4 0 3 2 = 1 ∧ cmpPoints sample 3 2 3 2 = 0 ∧
    bpKey sample (1, 0) < bpKey sample (3, 2) ∧ bpKey sample (3, 2) < bpKey sample (1, 1) := by rw [sample_eq]; decide +kernel
-- content operations on [ (T,2) , (a,2) ]: "CDE" and the element c
def rsel : Range := { doc := 0, sc := 3, so := 2, ec := 1, eo := 2 }
example : rangeText sample rsel = [0x43, 0x44, 0x45] ∧ rsel.toStringCode sample = [0x43, 0x44, 0x45] := by rw [sample_eq]; decide +kernel
example : sample.size < (cloneContents sample rsel).1.size ∧ (cloneContents sample rsel).2 = 9 ∧ kids (cloneContents sample rsel).1 9 = [7, 8] ∧
    dataOf (deleteContents sample rsel).1 3 = [0x41, 0x42] ∧ kids (deleteContents sample rsel).1 1 = [2, 5] ∧
    (extractContents sample rsel).2.2.1 = { doc := 0, sc := 1, so := 1, ec := 1, eo := 1 } := by rw [sample_eq]; decide +kernel

/-- The walker that mirrors the code as it is does NOT enumerate the logical view when the filter rejects a node hidden by
whatToShow: show Text only (whatToShow 4), filter 2 rejects element b; DOM Traversal 1.2 skips b without asking the filter, so its
Text child 3 is visible; the code asks the filter, honours FILTER_REJECT and loses it. -/
theorem walker_code_deviates :
    visibleOrder sample 4 2 0 = [3] ∧
    walkFrom sample 9 ({ root := 0, w := 4, filt := 2, cur := 0, asIs := false } : Walker) = [3] ∧
    walkFrom sample 9 ({ root := 0, w := 4, filt := 2, cur := 0, asIs := true } : Walker) = [] ∧
    ¬ NoHiddenReject sample 4 2 := by
  rw [sample_eq]
  refine ⟨by decide +kernel, by decide +kernel, by decide +kernel, fun hside => ?_⟩
  exact hside 2 { kind := .element, name := [0x62], parent := some 1, children := [3], owner := 0 } (by decide +kernel)
    (by decide +kernel) (by decide +kernel)
-- the side condition is satisfiable, with a filter that does reject something: every kind shown, filter 2
example : NoHiddenReject sample 65535 2 := by
  intro x r _ hs
  have : ∀ k : Kind, shown 65535 k = true := fun k => by cases k <;> rfl
  rw [this] at hs
  cases hs
example : walkFrom sample 9 ({ root := 0, w := 65535, filt := 2, cur := 0, asIs := true } : Walker) = [1, 4, 5] := by rw [sample_eq]; decide +kernel

-- SHOW_ALL with the filter that rejects b: the view of the document is a, c, comment
def wkRej : Walker := { root := 0, w := 65535, filt := 2, cur := 0 }
example : visibleOrder sample 65535 2 0 = [1, 4, 5] ∧ walkFrom sample 9 wkRej = [1, 4, 5] := by rw [sample_eq]; decide +kernel
-- … with the filter that skips b its text is promoted
example : visibleOrder sample 65535 1 0 = [1, 3, 4, 5] := by rw [sample_eq]; decide +kernel
-- c is a node of that view, hence one the walker may stand on
example : VisibleCur sample { wkRej with cur := 4 } :=
  Or.inr (mem_visibleOrder sample_wf 65535 2 0 4 (by rw [sample_eq]; decide +kernel))
-- whatToShow = SHOW_TEXT with the filter that rejects b: the repaired acceptNode skips b (its text stays visible), the
-- current C++ lets the filter reject it
example : verdict sample 4 2 2 = .skip ∧ verdictAsIs sample 4 2 2 = .reject := by rw [sample_eq]; decide +kernel
/-- a(1){ b(2){ d(3){ "T"(4) } }, c(5) } -/
def deep : Store := run (init 1)
  [.createElement 0 [0x61], .createElement 0 [0x62], .createElement 0 [0x64], .createText 0 [0x54],
   .createElement 0 [0x63], .appendChild 0 1, .appendChild 1 2, .appendChild 2 3, .appendChild 3 4, .appendChild 1 5]
-- previousNode from c: the repaired code reaches the text, the current C++ stops at d, one getLastChild below the previous sibling b
example : (({ root := 0, w := 65535, filt := 0, cur := 5 } : Walker).previousNode deep).2 = some 4 ∧
    (({ root := 0, w := 65535, filt := 0, cur := 5 } : Walker).previousNodeAsIs deep).2 = some 3 := by decide +kernel

end XV.Props.C14
