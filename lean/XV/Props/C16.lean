/-
C16 — a serialised grammar pool restores to a behaviourally identical pool.
The property theorems and their non-vacuity examples.
Model: XV.Model.SerEngine (code-shaped XSerializeEngine; constants, sizes and operator descriptors regenerated from the
source), XV.Model.SerOps (symmetry of the per-class operation lists regenerated from every serialize method; the
storeDV / loadDV reference model), XV.Spec.SerStream (the declarative layout of a value list).
The round-trip statements quantify over unbounded value lists, all buffer sizes ≥ `minBuf base` and all buffer addresses.
-/
import XV.Lemmas.SerEngine
import XV.Lemmas.SerLayout
import XV.Lemmas.SerGraph
import XV.Model.SerOps
namespace XV.Props.C16
open XV.Model.SerEngine XV.Model.SerOps XV.Gen.SerConsts XV.Gen.SerializeOps XV.Lemmas.SerEngine
open XV.Lemmas.SerLayout XV.Spec.SerStream XV.Lemmas.SerGraph

/-- The extracted operator tables: every `operator<<`/`writeX` checks for, transfers and advances by the size of its type
(1, 2, 4 or 8 bytes); one that aligns the cursor aligns it to exactly that size and allows for the padding in its check;
and `operator>>`/`readX` has the same descriptor. -/
theorem engine_tables_ok : ∀ t : Ty, DescOK t.w ∧ t.r = t.w := desc_tables

/-- Reading back what a storing engine wrote yields the same values — for every list of values: typed primitives, raw
blocks and `writeString`/`readString` in all encodings (null pointer ↦ `noDataFollowed`, with and without buffer length,
XMLCh and XMLByte), in any interleaving; for every buffer size ≥ the minimum and every buffer address (store and load
buffers congruent mod 8; `malloc` gives 16), i.e. at every starting alignment and across every block boundary.  `Val.ok`
demands `strLen < bufferLen` for the with-buffer-length form: otherwise `readString` writes its terminator outside the
allocation. -/
theorem string_roundtrip (baseS baseL B : Nat) (vs : List Val) (hB : minBuf baseS ≤ B)
    (hbase : baseL % 8 = baseS % 8) (hok : ∀ v ∈ vs, v.ok) :
    loadVals baseL B (storeVals baseS B vs) (vs.map Val.shape) = .ok vs := by
  obtain ⟨w, hw, r⟩ := rt_vals vs _ (wf_init baseS B hB)
  obtain ⟨l, pad, hl, hs⟩ := fresh_sync hB hbase hw
  obtain ⟨l', hg, _⟩ := r hok l _ hs
  simp only [loadVals, storeVals, hl, hg, bind, Except.bind]

/-- … in particular what a sequence of typed primitive writes produced: the bound on each value is the width of its type. -/
theorem prim_roundtrip (baseS baseL B : Nat) (tvs : List (Ty × Nat)) (hB : minBuf baseS ≤ B)
    (hbase : baseL % 8 = baseS % 8) (hok : ∀ p ∈ tvs, p.2 < 256 ^ p.1.w.xfer) :
    loadVals baseL B (storeVals baseS B (tvs.map fun p => Val.prim p.1 p.2)) (tvs.map fun p => Shape.prim p.1)
      = .ok (tvs.map fun p => Val.prim p.1 p.2) := by
  have := string_roundtrip baseS baseL B (tvs.map fun p => Val.prim p.1 p.2) hB hbase (by
    intro v hv; obtain ⟨p, hp, rfl⟩ := List.mem_map.1 hv; exact hok p hp)
  simpa [List.map_map, Function.comp_def, Val.shape] using this

/-- The byte stream does not depend on the buffer size: for every buffer size that is a multiple of 8 (and an 8-aligned
buffer) the stream of any sequence of aligned primitives, bytes, raw blocks and strings IS the declarative layout
`XV.Spec.SerStream.layout` (each item at the next multiple of its size, zero padded), and the output is that layout
followed by the zero fill of the last block.  Hence two engines with different buffer sizes produce the same stream. -/
theorem buffer_boundary_invariant (base B : Nat) (vs : List Val) (hb : base % 8 = 0) (hB : B % 8 = 0) (hp : 0 < B)
    (hf : ∀ v ∈ vs, flat v) :
    ((SBuf.init base B).putVals vs).stream = layout vs ∧
    (∃ pad, pad ≤ B ∧ storeVals base B vs = layout vs ++ zeros pad) ∧
    (∀ base' B', base' % 8 = 0 → B' % 8 = 0 → 0 < B' →
      ((SBuf.init base' B').putVals vs).stream = ((SBuf.init base B).putVals vs).stream) := by
  have h1 : ∀ base B, base % 8 = 0 → B % 8 = 0 → 0 < B →
      ((SBuf.init base B).putVals vs).stream = layout vs ∧ ((SBuf.init base B).putVals vs).bufSize = B := by
    intro base B hb hB hp
    have ⟨_, hw, e⟩ := stream_vals vs hf _ (init_inv base B hb hB hp)
    exact ⟨e, hw.bufSize⟩
  obtain ⟨hs, hsz⟩ := h1 base B hb hB hp
  refine ⟨hs, ⟨B - ((SBuf.init base B).putVals vs).buf.length, Nat.sub_le _ _, ?_⟩, fun base' B' hb' hB' hp' => ?_⟩
  · rw [← hs]; simp only [storeVals, SBuf.finish, SBuf.flush, SBuf.stream, hsz]
  · rw [hs, (h1 base' B' hb' hB' hp').1]

/-- … but NOT for the unaligned 8-byte `writeSize`/`writeInt64`/`writeUInt64`: a block boundary inserts padding before
them, so their position depends on the buffer size (harmless as long as writer and reader use the same size, which
`prim_roundtrip` assumes; recorded because the claim "independent of the buffer size" is false in general). -/
theorem buffer_size_matters_for_unaligned :
    ((SBuf.init 0 8).putVals [.prim .byte 1, .prim .size 2]).stream ≠
    ((SBuf.init 0 16).putVals [.prim .byte 1, .prim .size 2]).stream := by decide

/-- Any stream of at least one block whose level word differs from the loader's level is rejected with
XSer_Storer_Loader_Mismatch, whatever follows (a shorter stream fails before that, in `fillBuffer`); stated for an 8-aligned
load buffer of at least 8 bytes, so that the level word is the first four bytes. -/
theorem level_mismatch_rejected (baseL B : Nat) (stream : List Nat) (loaderLevel : Nat) (hb : baseL % 8 = 0)
    (hB : 8 ≤ B) (hlen : B ≤ stream.length) (hne : fromLE (stream.take 4) ≠ loaderLevel) :
    (LBuf.init baseL B stream >>= fun l => loadHeader l loaderLevel) = .error .levelMismatch := by
  have hd : DescOK Ty.uint.r := (desc_tables .uint).2 ▸ (desc_tables .uint).1
  have hadv : Ty.uint.r.adv = 4 := by decide
  have hpad : padOf Ty.uint.r baseL = 0 := by rw [pad_congr hd (b := 0) (by omega)]; decide
  unfold LBuf.init
  rw [fill_ok _ (by simpa using hlen)]
  simp only [bind, Except.bind, loadHeader]
  rw [getPrim_nofill _ _ hd (by simp only [Nat.add_zero, hpad, hadv, List.length_take]; omega)]
  simp only [Nat.add_zero, hpad, hadv, List.drop_zero, List.take_take, show min 4 B = 4 by omega]
  simp [hne]

/-- … and the header written by `serializeGrammars` with the same level is accepted and yields the lock flag. -/
theorem level_match_accepted (baseS baseL B level : Nat) (locked : Bool) (rest : List Val) (hB : minBuf baseS ≤ B)
    (hbase : baseL % 8 = baseS % 8) (hl : level < 256 ^ Ty.uint.w.xfer) :
    ∃ l', (LBuf.init baseL B ((storeHeader (SBuf.init baseS B) level locked).putVals rest).finish
            >>= fun l => loadHeader l level) = .ok (locked, l') := by
  obtain ⟨_, hw, r⟩ := ((rt_ty .uint level).seq (rt_ty .bool (if locked then 1 else 0))) _ (wf_init baseS B hB)
  dsimp only at hw r
  obtain ⟨_, hw', _⟩ := rt_vals rest _ hw.wf
  obtain ⟨l, _, hl0, hs⟩ := fresh_sync hB hbase (hw.trans hw')
  obtain ⟨l', ⟨l1, hg1, hg2⟩, _⟩ := r ⟨hl, by cases locked <;> decide⟩ l _ (List.append_assoc .. ▸ hs)
  refine ⟨l', ?_⟩
  simp only [storeHeader, hl0, bind, Except.bind, loadHeader, hg1, bne_self_eq_false, Bool.false_eq_true, if_false, hg2]
  cases locked <;> rfl

/-- Every instantiable serialisable class: each operation sequence its storing branch can execute (base-class calls
inlined) is matched, operation by operation, by a sequence its loading branch can follow.  A field written but not read,
read in another order or with another type or kind, or a method the translator could not parse, makes this fail. -/
theorem all_classes_symmetric :
    ∀ c ∈ classes, c.concrete = true → Symmetric c.flatStore c.flatLoad = true := by decide +kernel

/-- Abstract classes are symmetric on their own or are inlined into an instantiable class checked above
(AbstractNumericFacetValidator / DateTimeValidator read a number-type word that their derivatives write). -/
theorem abstract_classes_covered : ∀ c ∈ classes, c.concrete = false →
    (Symmetric c.store c.load = true ∨ ∃ d ∈ classes, d.concrete = true ∧ c.id ∈ d.bases) := by decide +kernel

/-- The static helper pairs storeDV/loadDV, storeIC/loadIC, storeElementDecl/loadElementDecl, storeGrammar/loadGrammar,
storeClusive/loadClusive(+loadNumber). -/
theorem all_helpers_symmetric : ∀ c ∈ helpers, Symmetric c.store c.load = true := by decide +kernel

/-- Every XTemplateSerializer::storeObject / loadObject overload pair. -/
theorem all_templates_symmetric : ∀ c ∈ templates, Symmetric c.store c.load = true := by decide +kernel

/-- tools/translate_serops.py met no `serialize` method, helper or template overload whose body it could not parse, or in
which a statement mentions the engine and matches none of its patterns (it counts them in `uncoveredCount`). -/
theorem nothing_uncovered : uncoveredCount = 0 := by decide

theorem pairs_value_eq {h : List (Nat × List Nat)} {s l : Atom} (hv : atomIsValue s = true) (hp : pairs h s l = true) :
    s = l := by
  unfold pairs at hp
  split at hp
  · cases hp
  · cases hp
  · cases hv
  · exact eq_of_beq hp

theorem pairsAll_value_eq {h : List (Nat × List Nat)} {st ld : List Atom} (hv : ∀ a ∈ st, atomIsValue a = true)
    (hp : pairsAll h st ld = true) : st = ld := by
  fun_induction pairsAll h st ld with
  | case1 => rfl
  | case2 s ss l ls ih =>
    obtain ⟨hs, hss⟩ := List.forall_mem_cons.1 hv
    rw [Bool.and_eq_true] at hp
    rw [pairs_value_eq hs hp.1, ih hss hp.2]
  | case3 => cases hp

/-- Straight-line lists of value operations.  For value atoms `pairs` is equality, so a load list that pairs with the store
list IS the store list (`h` plays no part), and `storeOps` writes the field values without consulting `st`: this is
`string_roundtrip` read through the map from atoms to shapes, for ANY field values that conform to the list.  Nothing
connects `Symmetric` on lists with conditionals, loops or object atoms, which the table theorems above decide, to an
execution. -/
theorem symmetric_ops_roundtrip (h : List (Nat × List Nat)) (st ld : List Atom) (flds : List Val)
    (baseS baseL B : Nat) (hB : minBuf baseS ≤ B) (hbase : baseL % 8 = baseS % 8)
    (hsym : pairsAll h st ld = true) (hval : ∀ a ∈ st, atomIsValue a = true)
    (hconf : st.map atomShape = flds.map (fun v => some v.shape)) (hok : ∀ v ∈ flds, v.ok) :
    loadOps baseL B ld (storeOps baseS B flds) = .ok flds := by
  obtain rfl := pairsAll_value_eq hval hsym
  -- the shapes the loader is given: drop the `some`s of `hconf`
  have hsh : st.filterMap atomShape = flds.map Val.shape := by
    simpa [List.filterMap_map, Function.comp_def] using congrArg (List.filterMap id) hconf
  unfold loadOps storeOps
  rw [hsh]
  exact string_roundtrip baseS baseL B flds hB hbase hok

/-- References to datatype validators: storeDV writes a validator BY NAME only if it IS the built-in registered under its
local name (identity test, as extracted from the source), and then loadDV returns that same shared object; every other
validator — for EVERY state of the registry, including user types whose local name equals a built-in's ({urn:t}token) —
comes back as its own copy, never as the built-in of the same name. -/
theorem dv_reference_identity :
    storeDVBuiltinTest = 1 ∧
    ∀ (reg : Registry) (dv : Option DV), loadDV reg (storeDV storeDVBuiltinTest reg dv) = dvExpected reg dv := by
  have h1 : storeDVBuiltinTest = 1 := by decide
  refine ⟨h1, fun reg dv => ?_⟩
  rw [h1]
  cases dv with
  | none => rfl
  | some d =>
    simp only [storeDV, dvExpected]
    by_cases h : regGet reg d.localName = some d.id
    · simp [h, loadDV]
    · simp [h, loadDV]

/-- … whereas deciding by name ("a built-in with this local name exists") is wrong as soon as a user type is named like a
built-in: the user type is restored as the built-in. -/
theorem dv_name_test_unsound :
    ∃ (reg : Registry) (dv : DV), loadDV reg (storeDV 2 reg (some dv)) ≠ dvExpected reg (some dv) :=
  ⟨[(5, 1)], ⟨7, 5, 9⟩, by decide⟩

/-- `write(XSerializable*)` / `read(XProtoType*)` on ARBITRARY object graphs — DAGs with sharing AND cycles (an object is
put into the store / load pool before its `serialize` runs): if the storing engine terminates on the heap (`storeRun … = some`;
fuel only bounds the model's work list) then the loading engine, reading the produced stream with the class table, succeeds
and rebuilds exactly the index-level trace `ti` the storer emitted: every field value under the pool index of its owner, every
pointer field as the pool index of its target; and `ti` IS the heap-level trace `tp` with every pointer renamed by the
final store pool (`rename sF.pool`): an object written twice is restored as ONE object referenced twice.  What `tp` is in
terms of the heap is read off `storeRun`; template objects (`Store.needToStore` / `Load.needToLoad`) are not part of these
machines. -/
theorem graph_roundtrip (sch : Schema) (h : Heap) (hheap : HeapOK sch h)
    (hnames : ∀ c, (sch c).name.length < noDataFollowed)
    (fuel root rootCls baseS baseL B : Nat) (hB : minBuf baseS ≤ B) (hbase : baseL % 8 = baseS % 8)
    (hroot : root = 0 ∨ ∃ n, heapLookup h root = some n ∧ n.cls = rootCls)
    (sF : Store) (tp ti : List (Nat × Fld))
    (hrun : storeRun sch h fuel [(0, 0, .ptr root)] (Store.init baseS B) [] [] = some (sF, tp, ti)) :
    (∃ lF, (Load.init baseL B sF.b.finish >>= fun l => loadRun sch fuel [(0, .ptr rootCls)] l []) = .ok (lF, ti)) ∧
    ti = tp.map (rename sF.pool) := by
  have hwf : WF (Store.init baseS B).b := wf_init baseS B hB
  refine ⟨?_, (storeRun_sinv hrun (sinv_init baseS B root)).tr _ (.refl _)⟩
  obtain ⟨_, hw, r⟩ := graph_sim hrun hwf
  obtain ⟨lb, _, hlb, hs⟩ := fresh_sync hB hbase hw
  obtain ⟨lF, hl, _⟩ := r hheap hnames (wl := [(0, .ptr rootCls)]) (l := ⟨lb, [], 0, 0⟩) (.ptr hroot .nil)
    ⟨hs, rfl, rfl, fun _ => Nat.le_refl _, Nat.zero_le _⟩
  exact ⟨lF, by simp only [Load.init, hlb, bind, Except.bind]; exact hl⟩

/-- the renaming is injective on stored objects: distinct objects get distinct pool indices (nothing is merged) -/
theorem pool_index_injective (sch : Schema) (h : Heap) (fuel root baseS B : Nat)
    (sF : Store) (tp ti : List (Nat × Fld))
    (hrun : storeRun sch h fuel [(0, 0, .ptr root)] (Store.init baseS B) [] [] = some (sF, tp, ti)) (p q : Nat)
    (he : idx sF.pool p = idx sF.pool q) (hne : idx sF.pool p ≠ 0) : p = q := by
  cases (storeRun_sinv hrun (sinv_init baseS B root)).pool.inj (.obj p) (.obj q) he hne
  rfl

example : loadDV [(5, 1)] (storeDV storeDVBuiltinTest [(5, 1)] (some ⟨7, 5, 9⟩)) = .copy ⟨7, 5, 9⟩ ∧
    loadDV [(5, 1)] (storeDV storeDVBuiltinTest [(5, 1)] (some ⟨1, 5, 0⟩)) = .shared 1 := by decide
/-- two classes; object 1 points to itself (cycle) and to 2; object 2 points back to 1 twice (sharing) and to 3 -/
def exSchema : Schema := fun c =>
  if c == 1 then ⟨[72, 120, 65], [.val (.prim .int), .val .str, .ptr 1, .ptr 2]⟩
  else ⟨[72, 120, 66], [.val (.prim .byte), .ptr 2, .ptr 1, .val (.prim .size), .ptr 1]⟩
def exHeap : Heap :=
  [(1, ⟨1, [.val (.prim .int 7), .val (.str (some [0x61, 0x62])), .ptr 1, .ptr 2]⟩),
   (2, ⟨2, [.val (.prim .byte 9), .ptr 3, .ptr 1, .val (.prim .size 255), .ptr 1]⟩),
   (3, ⟨2, [.val (.prim .byte 1), .ptr 0, .ptr 0, .val (.prim .size 0), .ptr 1]⟩)]
example : heapOKb exSchema exHeap = true := by decide
example : (storeRun exSchema exHeap 40 [(0, 0, .ptr 1)] (Store.init 0 32) [] []).isSome = true := by decide
example : ((storeRun exSchema exHeap 40 [(0, 0, .ptr 1)] (Store.init 0 32) [] []).map (·.2.2)) =
    some [(0, .ptr 2), (2, .val (.prim .int 7)), (2, .val (.str (some [0x61, 0x62]))), (2, .ptr 2), (2, .ptr 4),
          (4, .val (.prim .byte 9)), (4, .ptr 5), (5, .val (.prim .byte 1)), (5, .ptr 0), (5, .ptr 0),
          (5, .val (.prim .size 0)), (5, .ptr 2), (4, .ptr 2), (4, .val (.prim .size 255)), (4, .ptr 2)] := by decide +kernel
example := prim_roundtrip 0 16 16 [(.int, 0x11223344), (.byte, 5), (.size, 7), (.xmlch, 0x263A), (.double, 1)]
    (by decide) (by decide) (by decide)
example : okOf (loadVals 0 16 (storeVals 0 16 [.prim .byte 1, .prim .long 2, .str (some [0x61, 0x62, 0x63, 0x64, 0x65]), .str none,
      .strL (some ([0x41], 9)), .prim .size 3]) [.prim .byte, .prim .long, .str, .str, .strL, .prim .size])
    = some [.prim .byte 1, .prim .long 2, .str (some [0x61, 0x62, 0x63, 0x64, 0x65]), .str none, .strL (some ([0x41], 9)), .prim .size 3] := by decide +kernel
example : errOf (LBuf.init 0 16 ((storeHeader (SBuf.init 0 16) 6 true).finish) >>= fun l => loadHeader l 7)
    = some .levelMismatch := by decide
example : flat (.prim .int 5) ∧ flat (.str (some [0x61])) ∧ ¬ flat (.prim .size 1) := by decide
example := buffer_boundary_invariant 0 8 [.prim .byte 1, .prim .int 2, .str (some [0x61, 0x62, 0x63, 0x64, 0x65, 0x66, 0x67])] rfl rfl (by decide) (by decide)
example : (classes.filter (·.concrete)).length ≥ 60 ∧ helpers.length ≥ 5 ∧ templates.length ≥ 25 := by decide
/-- a dropped field, a swapped pair, another type and an unparsed body are NOT symmetric -/
example : Symmetric (ops [.atom (.prim .int), .atom .str]) (ops [.atom (.prim .int)]) = false := by decide
example : Symmetric (ops [.atom (.prim .int), .atom .str]) (ops [.atom .str, .atom (.prim .int)]) = false := by decide
example : Symmetric (ops [.atom (.prim .int)]) (ops [.atom (.prim .uint)]) = false := by decide
example : Symmetric (ops [.atom .unparsed]) (ops [.atom .unparsed]) = false := by decide
example : Symmetric (ops [.atom (.prim .int), .cond (alts [ops [.atom .str], ops []])])
    (ops [.atom (.prim .int), .cond (alts [ops [], ops [.atom .str], ops [.atom .str, .atom .str]])]) = true := by decide
example : okOf (loadOps 8 24 [.prim .int, .str, .size] (storeOps 0 24 [.prim .int 7, .str (some [0x78]), .prim .size 9]))
    = some [.prim .int 7, .str (some [0x78]), .prim .size 9] := by decide +kernel

end XV.Props.C16
