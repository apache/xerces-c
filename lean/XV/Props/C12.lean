/-
C12 — serialised DOM re-parses to an equal tree; output is always well-formed.

Level 1, the escaping core.  Model: XV.Model.Formatter (XMLFormatter.cpp, code-shaped, escape
rows / standard references / XML 1.1 classes GENERATED from the sources), XV.Model.Cdata
(DOMLSSerializerImpl::procCdataSection).  Spec: XV.Spec.Unescape (what an XML processor reads back).
All theorems quantify over every string of UTF-16 units (unbounded) and every transcoder satisfying
`Good` (proved for UTF-8, UTF-16, ISO-8859-1, US-ASCII and the four generated table transcoders).
Level 2, the tree serializer (XV.Model.Serializer), the namespace fix-up (XV.Model.NsFixup) and whole trees
(XV.Model.TreeSyntax, composed with C02's parser and C03's infoset) follow in sections of their own.
Level 1 and the whole trees meet only in `escUnits` / `formatBuf_writes`: level 1 reads back with `Spec.Unescape.readChars` and
that file's `Char` classes, the whole trees with C02's parser and `Spec.XmlChar` (`legalC`); no theorem relates the two readers.
-/
import XV.Lemmas.FormatterInst
import XV.Lemmas.Cdata
import XV.Lemmas.Serializer
import XV.Lemmas.NsFixup
import XV.Lemmas.TreeInfoset
import XV.Props.C02
namespace XV.Props.C12
open XV.Model.Formatter XV.Model.Cdata XV.Gen.Escapes XV.Gen.ByteTables
open XV.Spec.Escaping
open XV.Spec.Unescape (parseText parseAttr legalUnits readChars)
open XV.Lemmas.Formatter XV.Lemmas.Cdata

/-- the strings the escaping theorems cover: well-formed UTF-16 over legal XML characters of the version
implies the formatter's own precondition (16-bit units, paired surrogates).  The bound `k` is idle: this is
`Lemmas.Formatter.legalUnits_wf` under the name the check audits. -/
theorem legal_units (v11 : Bool) : ∀ (k : Nat) (s : List Nat), s.length ≤ k → legalUnits v11 s = true →
    (∀ u ∈ s, u < 65536) ∧ wfUnits s = true :=
  fun _ s _ => legalUnits_wf v11 s

/-- ASCII is representable, surrogate units are uniformly representable or not, a pair-recombining
transcoder represents every unit — for all eight intrinsic encodings -/
theorem coders_good : Good utf8Coder ∧ Good utf16Coder ∧ Good latin1Coder ∧ Good asciiCoder ∧
    ∀ t ∈ XV.Gen.ByteTables.all, Good (tableCoder t) :=
  ⟨good_utf8, good_utf16, good_latin1, good_ascii, good_table⟩

/-- the transcoder gives back every unit of `s` that it accepts.  Always true for UTF-8, UTF-16, ISO-8859-1 and
US-ASCII; for the table transcoders true unless `s` contains one of their best-fit units (`table_faithful`). -/
def Faithful (cd : Coder) (s : List Nat) : Prop := ∀ u ∈ s, cd.rep u = true → cd.back u = u

theorem faithful_id (cd : Coder) (h : cd.back = id) (s : List Nat) : Faithful cd s := by
  intro u _ _; rw [h]; rfl

theorem table_faithful (t : Table) (ht : t ∈ XV.Gen.ByteTables.all) (s : List Nat) (hu : ∀ u ∈ s, u < 65536)
    (hb : ∀ u ∈ s, bestFit u = false) : Faithful (tableCoder t) s :=
  fun u hm hr => table_back t ht u (hu u hm) hr (hb u hm)

/-- **canTranscodeTo over-approximates** (found by this check): the to-tables of the table transcoders contain
best-fit entries, so `XMLFormatter` writes e.g. U+FF1C FULLWIDTH LESS-THAN SIGN in windows-1252 text as a bare `<`
instead of a character reference — the output is not even well-formed. -/
theorem bestfit_breaks_wellformedness :
    formatBuf (tableCoder tblWin1252) ⟨false, false⟩ .CharEscapes .UnRep_CharRef [0x61, 0xFF1C, 0x62] = .ok [0x61, 0x3C, 0x62]
    ∧ parseText false [0x61, 0x3C, 0x62] = none
    ∧ formatBuf (tableCoder tblIbm1047) ⟨false, false⟩ .CharEscapes .UnRep_CharRef [0x85] = .ok [0xA] := by
  decide +kernel

/-- `formatBuf(…, UnRep_CharRef)` returns normally and writes exactly the reference escaping `escUnits`:
a unit is replaced by a reference iff the escape table (or the XML 1.1 control-character rule) selects it or
the encoding cannot represent it; an unrepresentable surrogate pair becomes ONE reference.  Asked of `s`: 16-bit units
(`hu`), given back by the transcoder where it accepts them (`Faithful`), and well-formed UTF-16 if the transcoder recombines
surrogate pairs (`hw`). -/
theorem formatBuf_writes (cd : Coder) (hg : Good cd) (cfg : Cfg) (esc : EscapeFlags) (s : List Nat)
    (hu : ∀ u ∈ s, u < 65536) (hb : Faithful cd s) (hw : cd.pairs = true → wfUnits s = true) :
    formatBuf cd cfg esc .UnRep_CharRef s = .ok (escUnits cd cfg esc s) :=
  formatBuf_charRef_eq cd hg cfg esc s hu hb hw

/-- the CharEscapes row escapes exactly `& < > CR`, the AttrEscapes row exactly `& < " LF CR TAB`
(XML 1.0; the rows as generated from XMLFormatter.cpp) -/
theorem escape_rows_exact (f : Bool) (c : Nat) :
    (inEscapeList ⟨false, f⟩ .CharEscapes c = true ↔ c = 38 ∨ c = 60 ∨ c = 62 ∨ c = 13) ∧
    (inEscapeList ⟨false, f⟩ .AttrEscapes c = true ↔ c = 38 ∨ c = 60 ∨ c = 34 ∨ c = 10 ∨ c = 13 ∨ c = 9) := by
  simp only [inEscapeList_eq, Bool.false_and, Bool.or_false, scanRow_char, scanRow_attr, decide_eq_true_eq, and_self]

/-- what the formatter writes for a legal string in the escaping mode of a reading context (character data, or an
attribute value between double quotes) is read back as that string — under XML 1.0, and under XML 1.1 once
`inEscapeList` escapes NEL and LSEP (`heol`) -/
theorem escape_sufficient (cd : Coder) (hg : Good cd) (cfg : Cfg) (heol : cfg.xml11 = true → cfg.eolFix = true) (attr : Bool)
    (s : List Nat) (hs : legalUnits cfg.xml11 s = true) (hb : Faithful cd s) :
    ∃ out, formatBuf cd cfg (Rd.rowOf attr) .UnRep_CharRef s = .ok out ∧ readChars cfg.xml11 attr out (.norm false 0) = some s :=
  have hl := legalUnits_wf cfg.xml11 s hs
  ⟨_, formatBuf_writes cd hg _ _ s hl.1 hb (fun _ => hl.2), (Rd.read_escUnits cd hg cfg heol attr s hs).whole 0⟩

/-- **escape_sufficient (text)**: character data written with CharEscapes is read back unchanged by an XML 1.0
processor, for every legal string and every good transcoder that is `Faithful` on it -/
theorem escape_sufficient_text (cd : Coder) (hg : Good cd) (f : Bool) (s : List Nat)
    (hs : legalUnits false s = true) (hb : Faithful cd s) :
    ∃ out, formatBuf cd ⟨false, f⟩ .CharEscapes .UnRep_CharRef s = .ok out ∧ parseText false out = some s :=
  escape_sufficient cd hg ⟨false, f⟩ nofun false s hs hb

/-- **escape_sufficient (attribute)**: an attribute value written with AttrEscapes between double quotes is read
back (after attribute-value normalisation) unchanged -/
theorem escape_sufficient_attr (cd : Coder) (hg : Good cd) (f : Bool) (v : List Nat)
    (hs : legalUnits false v = true) (hb : Faithful cd v) :
    ∃ out, formatBuf cd ⟨false, f⟩ .AttrEscapes .UnRep_CharRef v = .ok out ∧ parseAttr false out = some v :=
  escape_sufficient cd hg ⟨false, f⟩ nofun true v hs hb

/-- **xml11_eol_escaped is FALSE of the current code** (DESIGN §5 F9): under XML 1.1 the formatter writes NEL
(U+0085) and LSEP (U+2028) literally, and a 1.1 processor reads each of them back as LF. -/
theorem xml11_eol_not_escaped :
    ¬ (∀ s, legalUnits true s = true → ∃ out, formatBuf utf8Coder ⟨true, false⟩ .CharEscapes .UnRep_CharRef s = .ok out
        ∧ parseText true out = some s) := by
  intro h
  obtain ⟨out, h1, h2⟩ := h [0x61, 0x85, 0x2028] (by decide)
  have e : formatBuf utf8Coder ⟨true, false⟩ .CharEscapes .UnRep_CharRef [0x61, 0x85, 0x2028] = .ok [0x61, 0x85, 0x2028] := by
    decide +kernel
  rw [e] at h1
  cases h1
  revert h2; decide +kernel

/-- with the repaired `inEscapeList` (NEL and LSEP escaped under XML 1.1) both statements hold for XML 1.1 too,
including the C0/C1 controls that 1.1 admits only as references -/
theorem escape_sufficient_xml11_fixed (cd : Coder) (hg : Good cd) (s : List Nat) (hs : legalUnits true s = true)
    (hb : Faithful cd s) :
    (∃ out, formatBuf cd ⟨true, true⟩ .CharEscapes .UnRep_CharRef s = .ok out ∧ parseText true out = some s) ∧
    (∃ out, formatBuf cd ⟨true, true⟩ .AttrEscapes .UnRep_CharRef s = .ok out ∧ parseAttr true out = some s) :=
  ⟨escape_sufficient cd hg ⟨true, true⟩ (fun _ => rfl) false s hs hb, escape_sufficient cd hg ⟨true, true⟩ (fun _ => rfl) true s hs hb⟩

/-- **escape_minimal**: nothing is escaped needlessly — each unit of the CharEscapes / AttrEscapes rows, written
literally in some context, is rejected or altered by the reader (`>` after `]]`; CR; TAB/LF in attributes …),
and a representable unit outside the row is written as it stands. -/
theorem escape_minimal (f : Bool) (c : Nat) :
    (inEscapeList ⟨false, f⟩ .CharEscapes c = true →
        ∃ pre post, parseText false (pre ++ [c] ++ post) ≠ some (pre ++ [c] ++ post)) ∧
    (inEscapeList ⟨false, f⟩ .AttrEscapes c = true →
        ∃ pre post, parseAttr false (pre ++ [c] ++ post) ≠ some (pre ++ [c] ++ post)) ∧
    (∀ cd : Coder, ∀ esc, cd.rep c = true → escd ⟨false, f⟩ esc c = false →
        ∀ t, escUnits cd ⟨false, f⟩ esc (c :: t) = c :: escUnits cd ⟨false, f⟩ esc t) := by
  refine ⟨?_, ?_, ?_⟩
  · intro h
    rcases ((escape_rows_exact f c).1).1 h with rfl | rfl | rfl | rfl
    · exact ⟨[], [], by decide⟩
    · exact ⟨[], [], by decide⟩
    · exact ⟨[93, 93], [], by decide⟩
    · exact ⟨[], [], by decide⟩
  · intro h
    rcases ((escape_rows_exact f c).2).1 h with rfl | rfl | rfl | rfl | rfl | rfl
    all_goals exact ⟨[], [], by decide⟩
  · intro cd esc hr he t
    rw [escUnits_rep_cons cd _ esc c t hr]; simp [he]

/-- **unrep_as_charref**: every unit handed to the transcoder is representable; a unit the encoding cannot
represent is written as `&#xH;` with H its value, a surrogate pair as one reference to its scalar value
(which the reader turns back into the pair). -/
theorem unrep_as_charref (cd : Coder) (hg : Good cd) (cfg : Cfg) (esc : EscapeFlags) :
    (∀ s, ∀ u ∈ escUnits cd cfg esc s, cd.rep u = true) ∧
    (∀ c t, cd.rep c = false → isHigh c = false →
        escUnits cd cfg esc (c :: t) = charRefText c ++ escUnits cd cfg esc t) ∧
    (∀ h l t, cd.rep h = false → XV.Spec.Unescape.highSurr h = true → XV.Spec.Unescape.lowSurr l = true →
        escUnits cd cfg esc (h :: l :: t) = charRefText (XV.Spec.Unescape.scalarOfPair h l) ++ escUnits cd cfg esc t
        ∧ XV.Spec.Unescape.utf16 (XV.Spec.Unescape.scalarOfPair h l) = [h, l]) := by
  refine ⟨escUnits_rep cd hg cfg esc, escUnits_unrep_plain cd cfg esc, fun h l t hr hh hl => ⟨?_, (utf16_pair h l hh hl).2.2⟩⟩
  rw [← pairRef_eq h l hh hl, escUnits_unrep_pair cd cfg esc h l t hr hh]

/-- **formatter_terminates**: on well-formed UTF-16 the char-ref formatter never ends in `.hang`, the model's outcome for a
`while (count)` that makes no progress.  `hu` and `hb` are the hypotheses of `formatBuf_writes`, through which the proof goes. -/
theorem formatter_terminates (cd : Coder) (hg : Good cd) (cfg : Cfg) (esc : EscapeFlags) (s : List Nat)
    (hu : ∀ u ∈ s, u < 65536) (hb : Faithful cd s) (hw : wfUnits s = true) :
    formatBuf cd cfg esc .UnRep_CharRef s ≠ .error .hang := by
  rw [formatBuf_writes cd hg cfg esc s hu hb (fun _ => hw)]; intro h; cases h

/-- But the current code loops for ever on text that ends in an unpaired high surrogate when the transcoder
recombines pairs (UTF-8): `transcodeTo` eats nothing and `while (count)` never ends (DESIGN §5 F14). -/
theorem formatter_hangs_on_trailing_high_surrogate :
    formatBuf utf8Coder ⟨false, false⟩ .CharEscapes .UnRep_CharRef [0x41, 0xD83D] = .error .hang ∧
    formatBuf utf8Coder ⟨false, false⟩ .NoEscapes .UnRep_Fail [0xD83D] = .error .hang := by decide

/-- **cdata_split_preserves** (repaired splitter): the pieces concatenate to the value and none contains `]]>` -/
theorem cdata_split_preserves (v : List Nat) :
    (splitFixed v []).flatten = v ∧ ∀ p ∈ splitFixed v [], hasEnd p = false :=
  ⟨by simpa using splitFixed_flatten v [], splitFixed_noEnd v [] (by decide)⟩

/-- **false of the current code** (DESIGN §5 F8): `procCdataSection` drops the `]]>` it splits at:
the witness `a]]>b` is written as `<![CDATA[a]]><![CDATA[b]]>`. -/
theorem cdata_asis_loses_terminator :
    ¬ (∀ v : List Nat, ((piecesAsIs (v.length + 4) (v ++ gEndCDATA)).flatten = v)) ∧
    procCdataSection utf8Coder [97, 93, 93, 62, 98] =
      .ok (gStartCDATA ++ [97] ++ gEndCDATA ++ gStartCDATA ++ [98] ++ gEndCDATA) := by
  refine ⟨?_, by decide +kernel⟩
  intro h
  have := h [97, 93, 93, 62, 98]
  revert this; decide +kernel

/-! ### level 2: the tree serializer (XV.Model.Serializer, trees without namespaces, XML 1.0) -/
section Tree
open XV.Model.Serializer XV.Lemmas.Serializer

/-- `ensureValidString` accepts exactly the legal strings of XML 1.0; on 16-bit units the generated gXMLCharMask ranges are
the Char production of XML 1.0 and, for 1.1, Char without RestrictedChar (so under 1.1 `ensureValidString` refuses what
`legalUnits true` admits as a reference: known finding xml11-control-char-refused) -/
theorem ensureValid_iff_legal (s : List Nat) :
    ensureValidString false s = legalUnits false s ∧
    (∀ c, isXMLChar false c = (XV.Spec.Unescape.isChar10 c && decide (c < 65536))) ∧
    (∀ c, isXMLChar true c = (XV.Spec.Unescape.isChar11 c && !XV.Spec.Unescape.isRestricted11 c && decide (c < 65536))) :=
  ⟨ensureValid_eq_legal s, fun c => (xmlchar_table_spec c).1, fun c => (xmlchar_table_spec c).2⟩

/-- the text of one attribute as the serializer writes it -/
def attrText (e : Env) (a : List Nat × List Nat) : List Nat :=
  [32] ++ a.1 ++ [61, 34] ++ escUnits e.cd e.cfg .AttrEscapes a.2 ++ [34]

/-- a name whose units the encoding takes as they stand -/
def MarkupOK (cd : Coder) (n : List Nat) : Prop := NameOK cd n ∧ ∀ u ∈ n, u < 65536

theorem markupOK_ascii (cd : Coder) (hg : Good cd) (l : List Nat) (h : ∀ u ∈ l, 32 ≤ u ∧ u < 127) : MarkupOK cd l :=
  ⟨ascii_nameOK cd hg l h, fun u hu => Nat.lt_trans (h u hu).2 (by decide)⟩

theorem markupOK_append (cd : Coder) {a b : List Nat} (ha : MarkupOK cd a) (hb : MarkupOK cd b) : MarkupOK cd (a ++ b) :=
  ⟨nameOK_append cd a b ha.1 hb.1, List.forall_mem_append.2 ⟨ha.2, hb.2⟩⟩

theorem rawCR_markup (e : Env) (hg : Good e.cd) (us : List Nat) (h : MarkupOK e.cd us) : rawCR e us = .ok us :=
  rawCR_ok e hg us h.2 h.1

theorem ensureValid_legal (e : Env) (hv : e.cfg.xml11 = false) (s : List Nat) :
    ensureValidString e.cfg.xml11 s = legalUnits false s := by rw [hv, ensureValid_eq_legal]

theorem attrOut_ok (e : Env) (hg : Good e.cd) (hv : e.cfg.xml11 = false) (a : List Nat × List Nat)
    (hn : MarkupOK e.cd a.1) (hl : legalUnits false a.2 = true) (hb : Faithful e.cd a.2) :
    attrOut e a = .ok (attrText e a) := by
  have hlu := legalUnits_wf false a.2 hl
  have h1 : MarkupOK e.cd ([32] ++ a.1 ++ [61, 34]) :=
    markupOK_append _ (markupOK_append _ (markupOK_ascii _ hg [32] (by decide)) hn) (markupOK_ascii _ hg [61, 34] (by decide))
  unfold attrOut
  simp only [ensureValid_legal e hv, hl, Bool.not_true, Bool.false_eq_true, if_false, seqL, seq2]
  rw [rawCR_markup e hg _ h1, rawCR_markup e hg [34] (markupOK_ascii _ hg [34] (by decide)),
    formatBuf_writes e.cd hg e.cfg .AttrEscapes a.2 hlu.1 hb (fun _ => hlu.2)]
  simp [seq3, attrText]

theorem attrs_ok (e : Env) (hg : Good e.cd) (hv : e.cfg.xml11 = false) : ∀ (attrs : List (List Nat × List Nat)),
    (∀ a ∈ attrs, MarkupOK e.cd a.1 ∧ legalUnits false a.2 = true ∧ Faithful e.cd a.2) →
    seqL (attrs.map (attrOut e)) = .ok (attrs.flatMap (attrText e)) := by
  intro attrs
  induction attrs with
  | nil => intro _; rfl
  | cons a t ih =>
    intro h
    obtain ⟨ha, ht⟩ := List.forall_mem_cons.1 h
    simp only [List.map_cons, seqL, seq2, attrOut_ok e hg hv a ha.1 ha.2.1 ha.2.2, ih ht]
    simp [seq3]

theorem reads_back (e : Env) (hg : Good e.cd) (hv : e.cfg.xml11 = false) (attr : Bool) (s : List Nat)
    (hs : legalUnits false s = true) :
    readChars false attr (escUnits e.cd e.cfg (Rd.rowOf attr) s) (.norm false 0) = some s := by
  have := (Rd.read_escUnits e.cd hg e.cfg (by simp [hv]) attr s (by rw [hv]; exact hs)).whole 0
  rwa [hv] at this

/-- **serialize_content_reparses** (partial `reparse_equal`: one element, its attributes and a text child, for every
`Good` transcoder; the full statement `parse (decode e bs) = ok t' ∧ t' ≈ t`, with C02's parser, is `reparse_equal_tree`
below, for whole trees and the Unicode-transparent encodings):
the serializer writes `<name a="…" …>text</name>` and the XML reader turns every attribute value and the text
back into the original strings. -/
theorem serialize_content_reparses (e : Env) (hg : Good e.cd) (hv : e.cfg.xml11 = false)
    (name v : List Nat) (attrs : List (List Nat × List Nat)) (hname : MarkupOK e.cd name)
    (hattrs : ∀ a ∈ attrs, MarkupOK e.cd a.1 ∧ legalUnits false a.2 = true ∧ Faithful e.cd a.2)
    (hv1 : legalUnits false v = true) (hv2 : Faithful e.cd v) :
    node e (.elem name attrs [.text v]) =
      .ok ([60] ++ name ++ attrs.flatMap (attrText e) ++ [62] ++ escUnits e.cd e.cfg .CharEscapes v
            ++ [60, 47] ++ name ++ [62])
    ∧ (∀ a ∈ attrs, parseAttr false (escUnits e.cd e.cfg .AttrEscapes a.2) = some a.2)
    ∧ parseText false (escUnits e.cd e.cfg .CharEscapes v) = some v := by
  refine ⟨?_, fun a ha => reads_back e hg hv true a.2 (hattrs a ha).2.1, reads_back e hg hv false v hv1⟩
  have hlu := legalUnits_wf false v hv1
  have h1 : MarkupOK e.cd ([60] ++ name) := markupOK_append _ (markupOK_ascii _ hg [60] (by decide)) hname
  have h3 : MarkupOK e.cd (gEndElement ++ name ++ [62]) :=
    markupOK_append _ (markupOK_append _ (markupOK_ascii _ hg gEndElement (by decide)) hname) (markupOK_ascii _ hg [62] (by decide))
  simp only [node, nodes, List.isEmpty_cons, Bool.false_eq_true, if_false, seqL, seq2, ensureValid_legal e hv, hv1, Bool.not_true]
  rw [rawF_ok e _ h1.1, attrs_ok e hg hv attrs hattrs, rawCR_markup e hg [62] (markupOK_ascii _ hg [62] (by decide)),
    rawF_ok e _ h3.1, formatBuf_writes e.cd hg e.cfg .CharEscapes v hlu.1 hv2 (fun _ => hlu.2)]
  simp [seq3, gEndElement]

/-- **serialize_idempotent** (partial: one Text node; no attribute occurs in the statement): what the reader gets back from the
serialised text serialises to the same units again.  `parseText false out = some v'` forces `v' = v` (`reads_back`), so the
third conjunct is the first again: this is `reads_back` for `.text v` written as a round trip. -/
theorem serialize_idempotent (e : Env) (hg : Good e.cd) (hv : e.cfg.xml11 = false) (v : List Nat)
    (hv1 : legalUnits false v = true) (hv2 : Faithful e.cd v) :
    ∃ out v', node e (.text v) = .ok out ∧ parseText false out = some v' ∧ node e (.text v') = .ok out := by
  have hlu := legalUnits_wf false v hv1
  have h : node e (.text v) = .ok (escUnits e.cd e.cfg .CharEscapes v) := by
    simp only [node, ensureValid_legal e hv, hv1, Bool.not_true, Bool.false_eq_true, if_false]
    exact formatBuf_writes e.cd hg e.cfg .CharEscapes v hlu.1 hv2 (fun _ => hlu.2)
  exact ⟨_, v, h, reads_back e hg hv false v hv1, h⟩

/-- **serialize_refuses_illformed** (`illegal_reported`): a string that is not well-formed UTF-16 over XML 1.0
characters is reported (INVALID_CHARACTER_ERR), not written — in text, attribute values, comments, PI data and
CDATA sections when split-cdata-sections is off; with the proposed well-formedness checks (`wfFix`) a comment
containing `--` (or ending in `-`) and a PI containing `?>` are refused too. -/
theorem serialize_refuses_illformed (e : Env) (hv : e.cfg.xml11 = false) (v : List Nat) :
    (legalUnits false v = false →
        node e (.text v) = invalid ∧ node e (.comment v) = invalid ∧ (∀ t, node e (.pi t v) = invalid)
        ∧ (∀ n, attrOut e (n, v) = invalid) ∧ (e.feat.splitCdata = false → node e (.cdata v) = invalid)) ∧
    (e.feat.wfFix = true → legalUnits false v = true →
        ((XV.Model.Serializer.containsSub [45, 45] v = true ∨ v.getLast? = some 45) → node e (.comment v) = .error (.exc "wf-invalid-character")) ∧
        (XV.Model.Serializer.containsSub gEndPI v = true → ∀ t, legalUnits false t = true →
            node e (.pi t v) = .error (.exc "wf-invalid-character"))) := by
  constructor
  · intro h
    refine ⟨?_, ?_, fun t => ?_, fun n => ?_, fun hs => ?_⟩ <;> simp [node, attrOut, ensureValid_eq_legal, *]
  · intro hw hl
    constructor
    · intro h
      rcases h with h | h <;> simp [node, hv, ensureValid_eq_legal, hl, hw, h]
    · intro h t ht
      simp [node, hv, ensureValid_eq_legal, hl, ht, hw, h]

/-- the current code (wfFix = false) does emit them, and in split mode it does not look at the characters of a
CDATA section at all (found by this check): `<!--a--b-->`, `<?t a?>b?>`, a CDATA section holding U+FFFE -/
theorem serializer_emits_illformed :
    let e : Env := { cd := utf8Coder, cfg := ⟨false, false⟩, encName := gUTF8, feat := {} }
    node e (.comment [97, 45, 45, 98]) = .ok (gStartComment ++ [97, 45, 45, 98] ++ gEndComment) ∧
    node e (.pi [116] [97, 63, 62, 98]) = .ok (gStartPI ++ [116, 32, 97, 63, 62, 98] ++ gEndPI) ∧
    node e (.cdata [0xFFFE]) = .ok (gStartCDATA ++ [0xFFFE] ++ gEndCDATA) ∧
    node e (.cdata [0xD83D]) = .error .hang := by
  decide +kernel

end Tree

/-! ### namespace fix-up (XV.Model.NsFixup; trees built through the API, no explicit xmlns attributes) -/
section Ns
open XV.Spec.Namespaces XV.Model.NsFixup XV.Lemmas.NsFixup

/-- **innermost binding wins**: `isNamespaceBindingActive(prefix, uri)` answers exactly "the prefix, resolved as
Namespaces in XML prescribes (innermost declaration first), denotes `uri`" — a binding of the prefix to `uri`
further out that is shadowed by a nearer declaration is NOT active. -/
theorem nsfixup_innermost_wins (stack : List Scope) (p u : Name) :
    isNamespaceBindingActive stack p u = (resolve stack p == some u) := active_iff stack p u

/-- **nsfixup_binds_all** (per element, for every enclosing scope stack — hence for every nesting depth and every
shadowing pattern): after the fix-up of an element whose own prefix uses do not contradict each other, its prefix
and the prefix of each of its prefixed attributes resolve to the namespace the node was built with.  Resolution is against
the serializer's own map (`St.scope`); what is written is `St.emitted`, and no theorem here relates the two. -/
theorem nsfixup_binds_all (stack : List Scope) (uses : List Use) (hc : Consistent uses) :
    ∀ x ∈ uses, resolve ((fixup stack uses).scope :: stack) x.1 = some x.2 :=
  fun x hx => foldl_resolve stack x.1 x.2 uses ⟨[], []⟩ (.inr hx) fun y hy h => hc y hy x hx h

/-- a single use `(p, u)` that is already in force on the enclosing stack is not declared again (stated for the one-element
list of uses) -/
theorem nsfixup_no_redundant_declaration (stack : List Scope) (p u : Name) (h : resolve stack p = some u) :
    (fixup stack [(p, u)]).emitted = [] := by
  have : isNamespaceBindingActive ([] :: stack) p u = true := by
    rw [active_iff]; simp [resolve, scopeGet, h]
  simp [fixup, step, this]

-- non-vacuity: prefix p bound U1 > U2 > U1 — the innermost element must (and does) re-declare it
example : isNamespaceBindingActive [[([112], [50])], [([112], [49])]] [112] [49] = false := by decide
example : (fixup [[([112], [50])], [([112], [49])]] [([112], [49]), ([113], [49])]).emitted = [([112], [49]), ([113], [49])] := by decide +kernel
example : Consistent [([112], [49]), ([113], [49]), ([112], [49])] := by
  intro x hx y hy h
  simp at hx hy
  rcases hx with rfl | rfl | rfl <;> rcases hy with rfl | rfl | rfl <;> simp_all

end Ns

/-! ### whole trees: composition with C02's parser (`parse_render`) and C03's `infoset` -/
section WholeTree
open XV.Model.TreeSyntax XV.Model.Serializer XV.Spec.Xml XV.Spec.Infoset XV.Spec.DomView
open XV.Lemmas.TreeUnits XV.Lemmas.TreeOut XV.Lemmas.TreeWF XV.Lemmas.TreeInfoset

/-- **reparse_equal_tree**: for every DOM tree of the fragment — a document element with arbitrarily nested elements,
attributes, text, CDATA sections, comments and PIs (no doctype, no entity references, no document-level comments /
PIs), XML 1.0 and 1.1 — that satisfies `okNode`, serialised in a Unicode-transparent encoding (UTF-8, UTF-16:
`Transparent`) by the serializer as it is now (`Fixed`, and `inEscapeList` repaired: `heol`):

* the serializer model reports no error and writes the UTF-16 units `us`;
* `us` is the character-for-character rendering of the concrete syntax tree `toDoc …` (which characters became
  which reference, where CDATA sections were cut, how tags and the XML declaration are spelled);
* that tree is a well-formed document (C02's `WF`), and C02's reference parser reads exactly it back from the output;
* what a processor reports for it (C03's `infoset`), seen as a DOM — element starts with their attributes and
  normalised values in order, ends, comments, PIs, character data coalesced across Text / CDATA boundaries
  (XV.Spec.DomView) — is the content of the original tree.

`okNode` = what the DOM guarantees (names are Names, attribute names distinct, PI target not `xml`) + what the
serializer checks itself (legal characters; no `--` in / `-` at the end of a comment; no `?>` in PI data) + the
three things XML cannot express and the real serializer writes without a report (recorded findings): CR (1.1: NEL,
LSEP) inside a CDATA section / comment / PI, and white space at the start of PI data.  `okDocCfg`: the encoding name
is an EncName, and an XML 1.1 document is written with its XML declaration. -/
theorem reparse_equal_tree (e : Env) (ht : Transparent e.cd) (hf : Fixed e)
    (heol : e.cfg.xml11 = true → e.cfg.eolFix = true)
    (enc n : Str) (as : List (Str × Str)) (kids : List CNode) (henc : e.encName = U enc)
    (hc : okDocCfg e.cfg e.feat.xmlDecl enc = true) (hok : okNode e.cfg.xml11 (.elem n as kids) = true) :
    ∃ us, document e false [unitsNode (.elem n as kids)] = .ok us ∧
      charsOf us = render (toDoc e.cfg e.feat.xmlDecl enc n as kids) ∧
      WF (toDoc e.cfg e.feat.xmlDecl enc n as kids) ∧
      parse (charsOf us) = .ok (toDoc e.cfg e.feat.xmlDecl enc n as kids) ∧
      domView (infoset (toDoc e.cfg e.feat.xmlDecl enc n as kids)) = treeView (.elem n as kids) := by
  have hout := document_out e ht hf enc n as kids henc hok
  have hwf := wf_toDoc e.cfg e.feat.xmlDecl enc n as kids hc hok
  refine ⟨_, hout, charsOf_U _, hwf, ?_, domView_toDoc e.cfg e.feat.xmlDecl enc n as kids hc heol hok⟩
  rw [charsOf_U]
  exact XV.Props.C02.parse_render _ hwf (XV.Lemmas.Xml.entOnlyDoc_of_none rfl)

/-- the same, read as the round trip: parse what was written, look at it as a DOM, get the tree's content -/
theorem reparse_equal_tree_roundtrip (e : Env) (ht : Transparent e.cd) (hf : Fixed e)
    (heol : e.cfg.xml11 = true → e.cfg.eolFix = true)
    (enc n : Str) (as : List (Str × Str)) (kids : List CNode) (henc : e.encName = U enc)
    (hc : okDocCfg e.cfg e.feat.xmlDecl enc = true) (hok : okNode e.cfg.xml11 (.elem n as kids) = true) :
    ∃ us c, document e false [unitsNode (.elem n as kids)] = .ok us ∧ parse (charsOf us) = .ok c ∧
      domView (infoset c) = treeView (.elem n as kids) := by
  obtain ⟨us, h1, _, _, h4, h5⟩ := reparse_equal_tree e ht hf heol enc n as kids henc hc hok
  exact ⟨us, _, h1, h4, h5⟩

/-- the line-end side condition of `okNode` is needed for the last conjunct of `reparse_equal_tree`: the syntax tree `toDoc` of
a comment holding a CR (the CR standing literally) is read back with LF.  The statement speaks of `toDoc` only: that the
serializer writes this tree is `document_out`, which is proved under `okNode` and so not for this one. -/
theorem reparse_cr_in_comment_lost :
    domView (infoset (toDoc ⟨false, true⟩ false [] ['r'] [] [.comment ['a', '\r']])) ≠ treeView (.elem ['r'] [] [.comment ['a', '\r']]) := by
  decide +kernel

-- non-vacuity: a nested tree with `<`, `&`, `]]>` (in text and in a CDATA section), a quote in an attribute value,
-- CR / TAB / LF in an attribute value and in text, non-ASCII and supplementary characters; XML 1.0 and 1.1
def exTree : CNode :=
  .elem ['r'] [(['a'], ['x', '"', '<', '\t', '\n', '\r', '&']), (['b'], ['é', Char.ofNat 0x1F600])]
    [.text ['a', '<', 'b', '&', 'c', ']', ']', '>', 'd', '\r', '\n', '\t', 'e'],
     .elem ['k'] [] [.elem ['m', ':', 'n'] [(['q'], [' ', Char.ofNat 0x85])] [.cdata ['p', ']', ']', '>', 'q'], .text ['x'], .cdata []]],
     .comment [' ', 'c', '-', ' '], .pi ['t'] ['d', ' ', '?']]

def exEnv (v11 : Bool) : Env :=
  { cd := utf8Coder, cfg := ⟨v11, true⟩, encName := U ['U', 'T', 'F', '-', '8'], feat := { cdataFix := true, wfFix := true } }

example : okNode false exTree = true ∧ okNode true exTree = true ∧ okDocCfg ⟨true, true⟩ true ['U', 'T', 'F', '-', '8'] = true := by decide +kernel
example (v11 : Bool) : Transparent (exEnv v11).cd ∧ Fixed (exEnv v11) := ⟨transparent_utf8, ⟨rfl, rfl, rfl⟩⟩
example : treeView exTree =
    [.start ['r'] [(['a'], ['x', '"', '<', '\t', '\n', '\r', '&']), (['b'], ['é', Char.ofNat 0x1F600])],
     .chars ['a', '<', 'b', '&', 'c', ']', ']', '>', 'd', '\r', '\n', '\t', 'e'], .start ['k'] [],
     .start ['m', ':', 'n'] [(['q'], [' ', Char.ofNat 0x85])], .chars ['p', ']', ']', '>', 'q', 'x'], .end_ ['m', ':', 'n'], .end_ ['k'],
     .comment [' ', 'c', '-', ' '], .pi ['t'] ['d', ' ', '?'], .end_ ['r']] := by decide

end WholeTree

/-! ### non-vacuity -/

example : legalUnits false [0x61, 0x26, 0x3C, 0x3E, 0xD, 0xA, 0x5D, 0x5D, 0x3E, 0x20AC, 0xD83D, 0xDE00] = true := by decide
example : formatBuf latin1Coder ⟨false, false⟩ .CharEscapes .UnRep_CharRef [0x26, 0xD, 0x20AC, 0xD83D, 0xDE00]
      = .ok ([38, 97, 109, 112, 59] ++ charRefText 0xD ++ charRefText 0x20AC ++ charRefText 0x1F600)
    ∧ parseText false ([38, 97, 109, 112, 59] ++ charRefText 0xD ++ charRefText 0x20AC ++ charRefText 0x1F600)
      = some [0x26, 0xD, 0x20AC, 0xD83D, 0xDE00] := by decide +kernel
example : parseAttr false [0x61, 0x9, 0x62] = some [0x61, 0x20, 0x62] := by decide   -- TAB must be escaped
example : legalUnits false [0x22, 0x9, 0xA, 0xD, 0xE9] = true ∧
    formatBuf asciiCoder ⟨false, false⟩ .AttrEscapes .UnRep_CharRef [0x22, 0x9, 0xA, 0xD, 0xE9]
      = .ok ([38, 113, 117, 111, 116, 59] ++ charRefText 9 ++ charRefText 10 ++ charRefText 13 ++ charRefText 0xE9) := by decide +kernel
example : legalUnits true [0x1, 0x85, 0x2028, 0x9F] = true := by decide
example : tblIbm1047 ∈ XV.Gen.ByteTables.all := by simp [XV.Gen.ByteTables.all]
example : Faithful (tableCoder tblIbm1047) [0x61, 0x20AC, 0xE9] :=
  table_faithful _ (by simp [XV.Gen.ByteTables.all]) _ (by decide) (by decide)
example : Faithful utf8Coder [0x85, 0xFF1C] := faithful_id _ rfl _
example : wfUnits [0x41, 0xD83D, 0xDE00] = true ∧ wfUnits [0x41, 0xD83D] = false := by decide
example : splitFixed [97, 93, 93, 62, 98] [] = [[97, 93, 93], [62, 98]] := by decide
example : hasEnd [97, 93, 93, 62, 98] = true := by decide
example : XV.Model.Serializer.node { cd := latin1Coder, cfg := ⟨false, false⟩, encName := [], feat := {} }
      (.elem [114] [([97], [34, 9]), ([98], [0x20AC])] [.text [60, 0xD]])
    = .ok ([60, 114] ++ [32, 97, 61, 34] ++ [38, 113, 117, 111, 116, 59] ++ charRefText 9 ++ [34]
          ++ [32, 98, 61, 34] ++ charRefText 0x20AC ++ [34] ++ [62] ++ [38, 108, 116, 59] ++ charRefText 0xD ++ [60, 47, 114, 62]) := by
  decide +kernel
example : XV.Lemmas.Serializer.NameOK latin1Coder [114, 0xE9] :=
  ⟨by intro u hu; simp at hu; rcases hu with rfl | rfl <;> exact ⟨by decide, rfl⟩, by intro h; cases h⟩
example : legalUnits false [0x61, 0xFFFE] = false ∧ legalUnits false [0xDC00] = false := by decide

end XV.Props.C12
