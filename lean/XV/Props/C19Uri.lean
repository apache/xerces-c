/-
C19 (URI part) — relative-reference resolution of XMLURL and XMLUri is RFC 2396 §5.2.

The theorems are about `conglomerate`/`setURL` (XMLURL), `xmlUriResolve` (XMLUri) and `weavePaths` of XV.Model.Uri: the
code after the minimal fixes D3–D6; the `…AsIs` variants are the code as it is.

All theorems are for arbitrary strings and lists, without bounds.  The cases in which the code after the fixes still
departs from the RFC are excluded by `urlDomain` / `uriDomain` (XV.Model.Uri); each has a counterexample below (by
evaluation), and so has every defect of the unchanged code (D3–D6).  The first three conjuncts of `uriDomain` exclude no
such case: they bound where the model is the code, and `XV.Lemmas.Uri.xmlUriResolve_eq_resolve` does without them.

The hypothesis "no empty segment except the last" asked for in the property text is NOT needed by any theorem here:
model and Spec agree on every list.  It limits where the *model* is the *code* (see the header of XV.Model.Uri) and
is applied by the correspondence check (tools/props/c19_uri.py).
-/
import XV.Lemmas.Uri
namespace XV.Props.C19Uri
open XV.Spec.Uri XV.Model.Uri XV.Lemmas.Uri

/-- 6e is complete, "until no matching pattern remains": after it no "<segment>/../" is left, so the iteration bound of
    the Spec suffices -/
theorem step6e_complete (l : List Seg) : removeLeftmost (step6e l) = none :=
  iterate_patFree _ _ (Nat.le_refl _)

/-- RFC 2396 §5.2 steps 6c–6f applied twice = applied once, for every segment list -/
theorem remove_dots_idempotent (l : List Seg) :
    removeDotSegments (removeDotSegments l) = removeDotSegments l := by
  -- the result of 6c–6f has no "." and no occurrence, and 6f does not fire on it again: every step is the identity on it
  unfold removeDotSegments
  have hnd : NoDot (step6f (step6e (step6d (step6c l)))) := by
    intro x hx
    rcases step6f_mem _ x hx with h | h
    · exact noDot_6d_6c l x (iterate_mem _ _ x h)
    · rw [h]; decide
  have hpf : removeLeftmost (step6f (step6e (step6d (step6c l)))) = none :=
    step6f_patFree (step6e_complete _)
  rw [step6c_of_noDot hnd, step6d_of_noDot hnd, step6e, iterate_of_patFree _ hpf, step6f_idem]

/-- removeDotDotSlash (and the identical loop of XMLUri step 6e): scanning left to right with
    `offset = segIndex` after a removal and `offset += 4` otherwise gives the iterated leftmost removal of the RFC -/
theorem zipper_eq_iterated_leftmost (l : List Seg) : removeDotDotSlash l = step6e l :=
  removeDotDotSlash_eq l

/-- weavePaths after the fix = RFC 2396 §5.2 steps 6a–6f, for all base and reference segment lists -/
theorem weave_eq_rfc (baseSegs relSegs : List Seg) :
    weavePaths baseSegs relSegs = removeDotSegments (merge baseSegs relSegs) :=
  weavePaths_eq baseSegs relSegs

/-- XMLURL::conglomerateWithBase, after the fixes D3 and D4, is RFC 2396 §5.2 (up to what an XMLURL can store:
    `ofUri`) on `urlDomain`:
      base.scheme defined, base path absolute and non-empty, and either rel.scheme is defined or
        rel well formed,  rel ≠ "",  rel is not "?query#fragment",
        rel.authority ≠ "" (or base without host and rel.absPath),
        base.scheme = "file" → rel.authority undefined ∨ (base without host ∧ rel.absPath),
        base.scheme ≠ "file" → base has a host ∨ rel.authority defined ∨ rel.absPath ∨ rel is "#fragment". -/
theorem resolve_rfc2396 (base rel : Uri) (hd : urlDomain base rel = true) :
    conglomerate (ofUri base) (ofUri rel) = some (ofUri (resolve base rel)) := by
  obtain ⟨bs, ba, bp, bsegs, bq, bf⟩ := base
  obtain ⟨rs, ra, rp, rsegs, rq, rf⟩ := rel
  simp only [urlDomain, Uri.WF, hostless, ofUri, Bool.and_eq_true, Bool.or_eq_true, Bool.not_eq_true',
    Option.isSome_iff_exists, List.isEmpty_eq_false_iff] at hd
  obtain ⟨⟨⟨⟨sch, rfl⟩, rfl⟩, hbsegs⟩, hrel⟩ := hd
  cases rs with
  | some s => simp [conglomerate, conglomerateWith, isRelative, ofUri, resolve, hbsegs]   -- step 3
  | none =>
    simp only [reduceCtorEq, exists_false, false_or] at hrel
    -- `hb`: the host XMLURL stores for the base
    obtain ⟨hb, hhb⟩ : ∃ hb, (if ba = some "" then none else ba) = hb := ⟨_, rfl⟩
    rw [hhb] at hrel
    -- the conjuncts of `urlDomain` about the reference: `hwf` well formed, `hne` not empty (else: the base directory),
    -- `hqf` not "?y#s" (else: the fragment-only exit keeps the base path), `hauth` no empty authority unless harmless
    -- (else: read as no authority), `hfile` the "file" / no-host exits (else: host or path taken from the wrong side)
    obtain ⟨⟨⟨⟨hwf, hne⟩, hqf⟩, hauth⟩, hfile⟩ := hrel
    -- the code's cascade of tests is unfolded once, the Spec's in each case
    conv => lhs; simp [conglomerate, conglomerateWith, isRelative, ofUri, weavePaths_eq, hbsegs, hhb]
    cases ra with
    | some a =>
      -- step 4; "file" and the empty authority take the long way round to the same result: the base has no host and
      -- the reference path is absolute (`hauth`, `hfile`), so nothing of the base but the scheme gets in
      by_cases ha : a = ""
      · subst ha
        simp at hauth
        have hseg : rsegs ≠ [] := by simpa [hauth.2] using hwf
        by_cases hf : sch = "file" <;> simp [ofUri, resolve, hf, hauth, hseg]
      · by_cases hf : sch = "file"
        · simp [hf] at hfile
          have hseg : rsegs ≠ [] := by simpa [hfile.2] using hwf
          simp [ofUri, resolve, ha, hf, hfile, hseg]
        · simp [ofUri, resolve, ha, hf]
    | none =>
      simp at hne hqf hfile
      cases rsegs with
      | nil =>
        simp at hwf hne hqf hfile
        subst hwf
        cases rq with
        | none =>
          -- step 2: a fragment only
          obtain ⟨f, rfl⟩ := Option.isSome_iff_exists.1 (hne rfl)
          simp [ofUri, resolve, hhb]
        | some q =>
          -- step 6 with an empty path ("?y"); `hfile`: with a base without host that is not "file" the code would
          -- return before the paths are woven
          obtain rfl : rf = none := by simpa using hqf
          simp at hfile
          cases hb <;> simp [ofUri, resolve, hhb] <;> simpa using hfile
      | cons s t =>
        -- step 5 (`rp`) or step 6; `hfile` as before, for the relative path
        cases rp <;> cases hb <;> simp [ofUri, resolve, hhb] <;> simpa using hfile

/-- XMLURL::setURL(base, rel): `if (isRelative()) conglomerateWithBase(base)` -/
theorem seturl_rfc2396 (base rel : Uri) (hd : urlDomain base rel = true) :
    setURL (ofUri base) (ofUri rel) = some (ofUri (resolve base rel)) := by
  unfold setURL setURLWith
  split
  · exact resolve_rfc2396 base rel hd
  · next h =>
    cases hrs : rel.scheme with
    | none => simp [isRelative, ofUri, hrs] at h
    | some s => simp [resolve, hrs]

/-- XMLUri::initialize(baseURI, uriSpec), after the fixes D5 and D6, is RFC 2396 §5.2 on `uriDomain`:
      base path absolute and non-empty,  rel well formed,
      rel is not a query-only reference "?y" / "?y#s" (deliberate RFC 3986 behaviour of XMLUri),
      rel = "" → base.fragment undefined. -/
theorem xmluri_resolve_rfc2396 (base rel : Uri) (hd : uriDomain base rel = true) :
    xmlUriResolve base rel = some (resolve base rel) := by
  simp only [uriDomain, Bool.and_eq_true, Bool.not_eq_true', Bool.and_eq_false_imp, Option.isNone_iff_eq_none,
    List.isEmpty_iff] at hd
  refine xmlUriResolve_eq_resolve base rel (fun h1 h2 h3 => ?_) (fun h1 h2 h3 h4 => ?_)
  · simpa using hd.1.2 ⟨⟨h1, h2⟩, h3⟩
  · have hq : rel.query = none := by simpa using hd.1.2 ⟨⟨h1, h2⟩, h3⟩
    simpa using hd.2 ⟨⟨⟨⟨h1, h2⟩, h3⟩, hq⟩, h4⟩

/-! ### Non-vacuity: RFC 2396 appendix C, all 42 examples, base "http://a/b/c/d;p?q" -/

/-- "http://a/b/c/d;p?q" -/
def rfcBase : Uri := ⟨some "http", some "a", true, ["b", "c", "d;p"], some "q", none⟩

/-- a relative reference without scheme and authority -/
def R (abs : Bool) (segs : List Seg) (q f : Option String) : Uri := ⟨none, none, abs, segs, q, f⟩
/-- "http://a" ++ absolute path ++ … -/
def A (segs : List Seg) (q f : Option String) : Uri := ⟨some "http", some "a", true, segs, q, f⟩

/-- (parsed reference, parsed expected result), in the order of appendix C.1 and C.2 -/
def appendixC : List (Uri × Uri) := [
  (⟨some "g", none, false, ["h"], none, none⟩, ⟨some "g", none, false, ["h"], none, none⟩),                      -- "g:h"           ↦ g:h
  (R false ["g"] none none, A ["b", "c", "g"] none none),                                                        -- "g"             ↦ http://a/b/c/g
  (R false [".", "g"] none none, A ["b", "c", "g"] none none),                                                   -- "./g"           ↦ http://a/b/c/g
  (R false ["g", ""] none none, A ["b", "c", "g", ""] none none),                                                -- "g/"            ↦ http://a/b/c/g/
  (R true ["g"] none none, A ["g"] none none),                                                                   -- "/g"            ↦ http://a/g
  (⟨none, some "g", false, [], none, none⟩, ⟨some "http", some "g", false, [], none, none⟩),                     -- "//g"           ↦ http://g
  (R false [] (some "y") none, A ["b", "c", ""] (some "y") none),                                                -- "?y"            ↦ http://a/b/c/?y
  (R false ["g"] (some "y") none, A ["b", "c", "g"] (some "y") none),                                            -- "g?y"           ↦ http://a/b/c/g?y
  (R false [] none (some "s"), A ["b", "c", "d;p"] (some "q") (some "s")),                                       -- "#s"            ↦ http://a/b/c/d;p?q#s
  (R false ["g"] none (some "s"), A ["b", "c", "g"] none (some "s")),                                            -- "g#s"           ↦ http://a/b/c/g#s
  (R false ["g"] (some "y") (some "s"), A ["b", "c", "g"] (some "y") (some "s")),                                -- "g?y#s"         ↦ http://a/b/c/g?y#s
  (R false [";x"] none none, A ["b", "c", ";x"] none none),                                                      -- ";x"            ↦ http://a/b/c/;x
  (R false ["g;x"] none none, A ["b", "c", "g;x"] none none),                                                    -- "g;x"           ↦ http://a/b/c/g;x
  (R false ["g;x"] (some "y") (some "s"), A ["b", "c", "g;x"] (some "y") (some "s")),                            -- "g;x?y#s"       ↦ http://a/b/c/g;x?y#s
  (R false ["."] none none, A ["b", "c", ""] none none),                                                         -- "."             ↦ http://a/b/c/
  (R false [".", ""] none none, A ["b", "c", ""] none none),                                                     -- "./"            ↦ http://a/b/c/
  (R false [".."] none none, A ["b", ""] none none),                                                             -- ".."            ↦ http://a/b/
  (R false ["..", ""] none none, A ["b", ""] none none),                                                         -- "../"           ↦ http://a/b/
  (R false ["..", "g"] none none, A ["b", "g"] none none),                                                       -- "../g"          ↦ http://a/b/g
  (R false ["..", ".."] none none, A [""] none none),                                                            -- "../.."         ↦ http://a/
  (R false ["..", "..", ""] none none, A [""] none none),                                                        -- "../../"        ↦ http://a/
  (R false ["..", "..", "g"] none none, A ["g"] none none),                                                      -- "../../g"       ↦ http://a/g
  (R false [] none none, A ["b", "c", "d;p"] (some "q") none),                                                   -- ""              ↦ http://a/b/c/d;p?q
  (R false ["..", "..", "..", "g"] none none, A ["..", "g"] none none),                                          -- "../../../g"    ↦ http://a/../g
  (R false ["..", "..", "..", "..", "g"] none none, A ["..", "..", "g"] none none),                              -- "../../../../g" ↦ http://a/../../g
  (R true [".", "g"] none none, A [".", "g"] none none),                                                         -- "/./g"          ↦ http://a/./g
  (R true ["..", "g"] none none, A ["..", "g"] none none),                                                       -- "/../g"         ↦ http://a/../g
  (R false ["g."] none none, A ["b", "c", "g."] none none),                                                      -- "g."            ↦ http://a/b/c/g.
  (R false [".g"] none none, A ["b", "c", ".g"] none none),                                                      -- ".g"            ↦ http://a/b/c/.g
  (R false ["g.."] none none, A ["b", "c", "g.."] none none),                                                    -- "g.."           ↦ http://a/b/c/g..
  (R false ["..g"] none none, A ["b", "c", "..g"] none none),                                                    -- "..g"           ↦ http://a/b/c/..g
  (R false [".", "..", "g"] none none, A ["b", "g"] none none),                                                  -- "./../g"        ↦ http://a/b/g
  (R false [".", "g", "."] none none, A ["b", "c", "g", ""] none none),                                          -- "./g/."         ↦ http://a/b/c/g/
  (R false ["g", ".", "h"] none none, A ["b", "c", "g", "h"] none none),                                         -- "g/./h"         ↦ http://a/b/c/g/h
  (R false ["g", "..", "h"] none none, A ["b", "c", "h"] none none),                                             -- "g/../h"        ↦ http://a/b/c/h
  (R false ["g;x=1", ".", "y"] none none, A ["b", "c", "g;x=1", "y"] none none),                                 -- "g;x=1/./y"     ↦ http://a/b/c/g;x=1/y
  (R false ["g;x=1", "..", "y"] none none, A ["b", "c", "y"] none none),                                         -- "g;x=1/../y"    ↦ http://a/b/c/y
  (R false ["g"] (some "y/./x") none, A ["b", "c", "g"] (some "y/./x") none),                                    -- "g?y/./x"       ↦ http://a/b/c/g?y/./x
  (R false ["g"] (some "y/../x") none, A ["b", "c", "g"] (some "y/../x") none),                                  -- "g?y/../x"      ↦ http://a/b/c/g?y/../x
  (R false ["g"] none (some "s/./x"), A ["b", "c", "g"] none (some "s/./x")),                                    -- "g#s/./x"       ↦ http://a/b/c/g#s/./x
  (R false ["g"] none (some "s/../x"), A ["b", "c", "g"] none (some "s/../x")),                                  -- "g#s/../x"      ↦ http://a/b/c/g#s/../x
  (⟨some "http", none, false, ["g"], none, none⟩, ⟨some "http", none, false, ["g"], none, none⟩)]                -- "http:g"        ↦ http:g
/-- the Spec reproduces the whole table of appendix C -/
example : appendixC.all (fun p => decide (resolve rfcBase p.1 = p.2)) = true := by decide +kernel

example : recompose (resolve rfcBase (R false ["..", "..", "..", "g"] none none)) = "http://a/../g" := by decide +kernel
example : recompose (resolve rfcBase (R false [] (some "y") none)) = "http://a/b/c/?y" := by decide +kernel

/-- the fixed XMLURL model gives the Spec's answer on every appendix C example inside `urlDomain`; the examples
    outside are exactly "" , "?y#s"-like ones: here only the empty reference -/
example : appendixC.all (fun p => !urlDomain rfcBase p.1 ||
    decide (setURL (ofUri rfcBase) (ofUri p.1) = some (ofUri p.2))) = true := by decide +kernel
example : (appendixC.filter (fun p => !urlDomain rfcBase p.1)).map (·.1) = [R false [] none none] := by decide +kernel

/-- the fixed XMLUri model gives the Spec's answer on every appendix C example except "?y" (outside `uriDomain`) -/
example : appendixC.all (fun p => !uriDomain rfcBase p.1 ||
    decide (xmlUriResolve rfcBase p.1 = some p.2)) = true := by decide +kernel
example : (appendixC.filter (fun p => !uriDomain rfcBase p.1)).map (·.1) = [R false [] (some "y") none] := by decide +kernel

-- non-vacuity of the single theorems, with non-trivial data
example : step6e ["a", "b", "..", "..", "..", "c", "..", "d"] = ["..", "d"] := by decide +kernel
example : removeLeftmost (step6e ["a", "b", "..", "..", "..", "c", "..", "d"]) = none := by decide +kernel
example : removeDotSegments [".", "a", ".", "b", "..", "..", "..", "c", ".."] = ["..", ""] := by decide +kernel
example : removeDotSegments ["..", ""] = ["..", ""] := by decide +kernel
example : removeDotDotSlash ["..", "a", "b", "..", "..", "..", "c", ".."] = ["..", "..", "c", ".."] := by decide +kernel
example : weavePaths ["b", "c", "d;p"] ["..", "x", ".", "..", "g", "."] = ["b", "g", ""] := by decide +kernel
example : urlDomain ⟨some "file", some "", true, ["tmp", "x", "main.xml"], none, none⟩
    (R false ["..", "dtd", ".", "a.dtd"] none (some "f")) = true := by decide +kernel
example : setURL (ofUri ⟨some "file", some "", true, ["tmp", "x", "main.xml"], none, none⟩)
    (ofUri (R false ["..", "dtd", ".", "a.dtd"] none (some "f")))
    = some ⟨some "file", none, true, ["tmp", "dtd", "a.dtd"], none, some "f"⟩ := by decide +kernel
example : uriDomain ⟨some "ftp", some "u@h:21", true, ["p", "q", ""], none, none⟩
    (R false ["..", "..", "..", "x"] (some "y") none) = true := by decide +kernel
example : xmlUriResolve ⟨some "ftp", some "u@h:21", true, ["p", "q", ""], none, none⟩
    (R false ["..", "..", "..", "x"] (some "y") none)
    = some ⟨some "ftp", some "u@h:21", true, ["..", "x"], some "y", none⟩ := by decide +kernel

/-! ### The defects of the unchanged code (each one contradicts the Spec on an appendix C example or next to it) -/

/-- D3: weavePaths has no step 6d / 6f — "." , "..", "../..", "./g/." -/
example : weavePathsAsIs ["b", "c", "d;p"] ["."] = ["b", "c", "."]
    ∧ removeDotSegments (merge ["b", "c", "d;p"] ["."]) = ["b", "c", ""] := by decide +kernel
example : weavePathsAsIs ["b", "c", "d;p"] [".."] = ["b", "c", ".."]
    ∧ removeDotSegments (merge ["b", "c", "d;p"] [".."]) = ["b", ""] := by decide +kernel
example : setURLAsIs (ofUri rfcBase) (ofUri (R false ["..", ".."] none none))
    ≠ some (ofUri (resolve rfcBase (R false ["..", ".."] none none))) := by decide +kernel

/-- D4: "#s" loses the base's query -/
example : setURLAsIs (ofUri rfcBase) (ofUri (R false [] none (some "s")))
      = some ⟨some "http", some "a", true, ["b", "c", "d;p"], none, some "s"⟩
    ∧ resolve rfcBase (R false [] none (some "s")) = A ["b", "c", "d;p"] (some "q") (some "s") := by decide +kernel

/-- D5: "//g" keeps no scheme -/
example : xmlUriResolveAsIs rfcBase ⟨none, some "g", false, [], none, none⟩
      = some ⟨none, some "g", false, [], none, none⟩
    ∧ resolve rfcBase ⟨none, some "g", false, [], none, none⟩
      = ⟨some "http", some "g", false, [], none, none⟩ := by decide +kernel

/-- D6: "../../.." — the buffer of step 6f is "/..": exception; the Spec (6g, first alternative) keeps it, and
    so does XMLUri itself for "../../../g" -/
example : xmlUriResolveAsIs rfcBase (R false ["..", "..", ".."] none none) = none
    ∧ resolve rfcBase (R false ["..", "..", ".."] none none) = A [".."] none none
    ∧ xmlUriResolveAsIs rfcBase (R false ["..", "..", "..", "g"] none none) = some (A ["..", "g"] none none) := by
  decide +kernel

/-! ### The cases excluded by `urlDomain`: the (fixed) code really deviates -/

/-- the empty reference (parse throws; conglomerateWithBase alone would give the base directory) -/
example : conglomerate (ofUri rfcBase) (ofUri (R false [] none none)) = some (ofUri (A ["b", "c", ""] (some "q") none))
    ∧ resolve rfcBase (R false [] none none) = rfcBase := by decide +kernel

/-- "?y#s": the fragment-only special case keeps the whole base path (RFC 3986); RFC 2396: "/b/c/?y#s" -/
example : conglomerate (ofUri rfcBase) (ofUri (R false [] (some "y") (some "s")))
      = some (ofUri (A ["b", "c", "d;p"] (some "y") (some "s")))
    ∧ resolve rfcBase (R false [] (some "y") (some "s")) = A ["b", "c", ""] (some "y") (some "s") := by decide +kernel

/-- "///x": an empty authority is no authority for XMLURL -/
example : conglomerate (ofUri rfcBase) (ofUri ⟨none, some "", true, ["x"], none, none⟩)
      = some (ofUri (A ["x"] none none))
    ∧ resolve rfcBase ⟨none, some "", true, ["x"], none, none⟩ = ⟨some "http", some "", true, ["x"], none, none⟩ := by
  decide +kernel

/-- file: a reference with an authority gets the base's host -/
example : conglomerate (ofUri ⟨some "file", some "h0", true, ["tmp", "x"], none, none⟩)
        (ofUri ⟨none, some "h", true, ["p"], none, none⟩)
      = some (ofUri ⟨some "file", some "h0", true, ["p"], none, none⟩)
    ∧ resolve ⟨some "file", some "h0", true, ["tmp", "x"], none, none⟩ ⟨none, some "h", true, ["p"], none, none⟩
      = ⟨some "file", some "h", true, ["p"], none, none⟩ := by decide +kernel

/-- file: "//h?q" — no path after the authority: the base directory is woven in -/
example : conglomerate (ofUri ⟨some "file", some "", true, ["tmp", "x"], none, none⟩)
        (ofUri ⟨none, some "h", false, [], some "q", none⟩)
      = some (ofUri ⟨some "file", some "h", true, ["tmp", ""], some "q", none⟩)
    ∧ resolve ⟨some "file", some "", true, ["tmp", "x"], none, none⟩ ⟨none, some "h", false, [], some "q", none⟩
      = ⟨some "file", some "h", false, [], some "q", none⟩ := by decide +kernel

/-- not file, base without host ("ftp:///a/b" + "c"): returns before the paths are woven -/
example : conglomerate (ofUri ⟨some "ftp", some "", true, ["a", "b"], none, none⟩) (ofUri (R false ["c"] none none))
      = some ⟨some "ftp", none, false, ["c"], none, none⟩
    ∧ resolve ⟨some "ftp", some "", true, ["a", "b"], none, none⟩ (R false ["c"] none none)
      = ⟨some "ftp", some "", true, ["a", "c"], none, none⟩ := by decide +kernel

/-- a base that is "relative" for XMLURL (no protocol, or a path not starting with a slash) is refused -/
example : conglomerate (ofUri ⟨some "file", none, false, ["a", "b"], none, none⟩) (ofUri (R false ["c"] none none))
    = none := by decide +kernel

/-! ### The cases excluded by `uriDomain` -/

/-- "?y": XMLUri deliberately keeps the base path ("identified as a bug in the RFC", RFC 3986 behaviour) -/
example : xmlUriResolve rfcBase (R false [] (some "y") none) = some (A ["b", "c", "d;p"] (some "y") none)
    ∧ resolve rfcBase (R false [] (some "y") none) = A ["b", "c", ""] (some "y") none := by decide +kernel

/-- the empty reference copies the base with its fragment -/
example : xmlUriResolve (A ["b"] none (some "f")) (R false [] none none) = some (A ["b"] none (some "f"))
    ∧ resolve (A ["b"] none (some "f")) (R false [] none none) = A ["b"] none none := by decide +kernel

end XV.Props.C19Uri
