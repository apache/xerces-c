/-
  C06 — namespace processing binds every name to the URI the declarations in scope imply.
  Models: XV.Model.ElemStack, XV.Model.NsScan, XV.Model.Sax2Prefix, XV.Model.DomLookup.  Spec: XV.Spec.Namespace.
  In this order: constants (reserved names, growth); `ElemStack` after any history and at a start tag, then `WFElemStack`
  after any history; the SAX2 events; the DOM lookups on the Spec's nodes `chainOf`, then that the nodes built from the
  scanner's output are those nodes; error detection (reserved names, collisions, a start tag, a document); last,
  evaluated instances that show the hypotheses can be met and the models compute.
-/
import XV.Lemmas.ElemStack
import XV.Lemmas.NsViews
import XV.Lemmas.WFElemStack
import XV.Lemmas.NsParse
import XV.Lemmas.NsDom
import XV.Lemmas.NsBuild
namespace XV.Props.C06
open XV.Model.ElemStack XV.Spec.Namespace XV.Gen.ElemStackConsts XV.Lemmas.ElemStack XV.Lemmas.NsViews
open XV.Model.NsScan XV.Model.Sax2Prefix

/-- The reserved names compiled into the library (XMLUni.cpp, regenerated) are the ones the Namespaces
    recommendation fixes. -/
theorem reserved_names_spec :
    xmlString = "xml" ∧ xmlnsString = "xmlns" ∧ xmlURIName = xmlURI ∧ xmlnsURIName = xmlnsURI ∧
    ofUnits fgXMLNSColonString = "xmlns:" :=
  ⟨xmlString_eq, xmlnsString_eq, xmlURIName_eq, xmlnsURIName_eq, by decide⟩

/-- The capacities and growth factors extracted from ElemStack.cpp make every expansion strictly larger, so the
    slot written by `addPrefix`/`addLevel` after "expand if full" exists (map growth and stack growth). -/
theorem growth_strict :
    (∀ cap, cap ≠ 0 → esMapInitCap ≤ cap → cap < cap * esMapGrowNum / esMapGrowDen) ∧ 0 < esMapInitCap ∧
    (∀ cap, esStackInitCap ≤ cap → cap < cap * esStackGrowNum / esStackGrowDen) ∧
    (∀ cap, cap ≠ 0 → wfMapInitCap ≤ cap → cap < cap * wfMapGrowNum / wfMapGrowDen) ∧ 0 < wfMapInitCap ∧
    (∀ cap, wfStackInitCap ≤ cap → cap < cap * wfStackGrowNum / wfStackGrowDen) := by
  exact ⟨fun cap _ => mapGrow_strict cap, mapInit_pos, stackGrow_strict,
    fun cap _ => XV.Lemmas.WFElemStack.wfMapGrow_strict cap, by decide, XV.Lemmas.WFElemStack.wfStackGrow_strict⟩

/-- **Every history.**  After ANY sequence of addLevel / popTop / addPrefix / addGlobalPrefix (failed operations
    included; rows reused after pops with whatever capacity and stale content they have; any number of prefixes per
    level, i.e. any number of map expansions; any depth, i.e. any number of stack expansions), for EVERY prefix,
    `ElemStack::mapPrefixToURI` answers with the namespace name the Spec's `inScopeG` gives for the global bindings and
    the chain of declaration lists the history denotes. -/
theorem mapPrefix_eq_inScope_history (xml11 : Bool) (ops : List Op) (p : String) :
    let S := (Scan.init xml11).run ops
    let a := (Abs.run {} ops)
    S.decode (mapPrefixToURI S.es p) = inScopeG a.g a.path p :=
  mapPrefix_of_rep (rep_run (init_rep xml11) ops) p

/-- the stack a scanner holds when it stands at the end of `path` -/
def stackOf (path : Path) : Scan := (Scan.init).run (opsOfPath path)

/-- **Every path** (unbounded depth and unbounded number of declarations per element): the lookup on the stack built
    for `path` is `inScope path`. -/
theorem mapPrefix_eq_inScope (path : Path) (p : String) :
    (stackOf path).decode (mapPrefixToURI (stackOf path).es p) = inScope path p := by
  have h := mapPrefix_eq_inScope_history false (opsOfPath path) p
  simp only [] at h
  rw [run_opsOfPath] at h
  simpa [stackOf, inScope, Abs.path] using h

/-- The "unknown" flag is only ever raised for a prefix that is not bound in scope (`inScope` gives none, which it also
    does below a visible `xmlns:p=""`). -/
theorem unknown_implies_undeclared (path : Path) (p : String) :
    (mapPrefixToURI (stackOf path).es p).2 = true → inScope path p = none := by
  intro h
  rw [← mapPrefix_eq_inScope path p]
  simp [Scan.decode, h]

/-- **pop restores.**  From any reachable state, processing a whole element (addLevel, a balanced body that may
    declare, push and pop arbitrarily inside, popTop) leaves every lookup as it was. -/
theorem pop_restores (xml11 : Bool) (ops body : List Op) (hb : relDepth 1 body = some 1) (p : String) :
    let S := (Scan.init xml11).run ops
    let S' := S.run ([.addLevel] ++ body ++ [.popTop])
    S'.decode (mapPrefixToURI S'.es p) = S.decode (mapPrefixToURI S.es p) := by
  intro S S'
  have h1 := rep_run (init_rep xml11) ops
  have h2 := rep_run h1 ([.addLevel] ++ body ++ [.popTop])
  rw [abs_frame _ body hb] at h2
  rw [mapPrefix_of_rep h2 p, mapPrefix_of_rep h1 p]

/-- **Two-pass start tag.**  After `scanStartTagNS`'s first pass (addLevel, then every `xmlns`/`xmlns:*` of the raw
    attribute list) every name of the tag is resolved against ALL declarations of the tag, wherever they stand in
    the attribute list. -/
theorem startTag_sees_whole_tag (xml11 : Bool) (ops : List Op) (attrs : List RawAttr) (p : String) :
    let S := (Scan.init xml11).run ops
    let a := Abs.run {} ops
    (S.startTag attrs).decode (mapPrefixToURI (S.startTag attrs).es p)
      = inScopeG a.g (a.path ++ [declsOfRaw attrs]) p := by
  intro S a
  have h := mapPrefix_of_rep (rep_startTag (rep_run (init_rep xml11) ops) attrs) p
  simpa [Abs.path] using h

/-- **A prefix used before its declaring attribute in the same tag resolves to that declaration**: whatever stands
    before (`pre`, e.g. the attribute `p:a` using the prefix) and after the declaration `xmlns:p="u"`, as long as no
    declaration of `p` stands before it, `p` resolves to `u` (for `p` not reserved and `u ≠ ""`). -/
theorem decl_after_use (xml11 : Bool) (ops : List Op) (pre post : List RawAttr) (p u : String)
    (hp : p ≠ "" ∧ p ≠ "xml" ∧ p ≠ "xmlns") (hu : u ≠ "")
    (h1 : declOf (declsOfRaw pre) p = none) :
    let S := ((Scan.init xml11).run ops).startTag (pre ++ [⟨xmlnsString, p, u⟩] ++ post)
    S.decode (mapPrefixToURI S.es p) = some u := by
  intro S
  rw [show S.decode (mapPrefixToURI S.es p) = _ from startTag_sees_whole_tag xml11 ops _ p]
  have hmid : declsOfRaw [⟨xmlnsString, p, u⟩] = [⟨p, u⟩] := by
    simp [declsOfRaw, RawAttr.isNSDecl, xmlnsString_ne_empty]
  -- the tag's own level answers, with the declaration in the middle
  have hL : declOf (declsOfRaw (pre ++ [⟨xmlnsString, p, u⟩] ++ post)) p = some u := by
    rw [declsOfRaw_append, declsOfRaw_append, hmid, declOf_append, declOf_append, h1]
    simp [declOf]
  unfold inScopeG
  simp only [hp.2.1, hp.2.2, ↓reduceIte, List.reverse_append, List.reverse_cons, List.reverse_nil, List.nil_append,
    List.cons_append, nearest, hL, hu]

/-- **Order of the attributes of a tag is irrelevant**: permuting the raw attribute list (declarations before or after
    their uses, in any order) does not change what any prefix resolves to, provided no prefix is declared twice. -/
theorem decl_order_irrelevant (xml11 : Bool) (ops : List Op) (attrs attrs' : List RawAttr)
    (hperm : attrs.Perm attrs') (hnd : ((declsOfRaw attrs).map (·.pre)).Nodup) (p : String) :
    let S := (Scan.init xml11).run ops
    (S.startTag attrs).decode (mapPrefixToURI (S.startTag attrs).es p)
      = (S.startTag attrs').decode (mapPrefixToURI (S.startTag attrs').es p) := by
  intro S
  rw [startTag_sees_whole_tag xml11 ops attrs p, startTag_sees_whole_tag xml11 ops attrs' p]
  unfold inScopeG
  simp only [List.reverse_append, List.reverse_cons, List.reverse_nil, List.nil_append, List.cons_append, nearest,
    declOf_perm (declsOfRaw_perm hperm) hnd p]

-- `hng` is not needed: `WFScan.step` ignores `addGlobalPrefix`, and `inScope a.path` does not read `a.g`
set_option linter.unusedVariables false in
/-- **WFElemStack, every history** (an exported sibling class — one shared map, a top index per level, levels popped
    by moving the index; no scanner of this version uses it).  After any sequence of addLevel / popTop / addPrefix (`hng`
    says so; the proof does not use it, `addGlobalPrefix` changes nothing in this class's model), with at least one level
    open and no level declaring a prefix twice (a well-formed tag cannot), `WFElemStack::mapPrefixToURI` answers with
    `inScope`. -/
theorem wf_mapPrefix_eq_inScope_history (ops : List Op) (hng : XV.Lemmas.WFElemStack.NoGlobal ops) (p : String) :
    let S := WFScan.init.run ops
    let a := Abs.run {} ops
    a.stack ≠ [] → (∀ l ∈ a.stack, (l.map (·.pre)).Nodup) →
    (WF.mapPrefixToURI S.es p).map S.decode = some (inScope a.path p) := by
  intro S a hne hnd
  open XV.Lemmas.WFElemStack in
  have hrep : RepWF S a.stack := wf_rep_run (a := {}) wf_init_rep ops
  obtain ⟨l, rest, hst⟩ := List.exists_cons_of_ne_nil hne
  rw [hst] at hrep hnd
  simpa [Abs.path, hst] using wf_mapPrefix_of_rep hrep hnd p

/-- **Stack discipline and scoping.**  For ANY document tree described faithfully (`TreeOK`; namespace-well-formed or not,
    any nesting, any number of declarations per element), whichever childless elements are written as empty-element tags,
    namespace-prefixes on or off: after the parse the reader's `fPrefixes` and `fPrefixCounts` are empty again, and the
    events it delivered are, up to namespace names and attribute lists, the Spec's event word: every element is preceded by
    startPrefixMapping for exactly its own declarations (in document order) and followed, right after its endElement, by
    endPrefixMapping for exactly those prefixes (innermost first). -/
theorem prefix_events_scoped (ue : Tag → Bool) (nsPrefixes v11 : Bool) (root : Node) (hok : TreeOK root) :
    let r := parseDocWith ue nsPrefixes v11 root
    r.fPrefixes = [] ∧ r.fPrefixCounts = [] ∧ r.out.map skM = (sax2Events nsPrefixes [] root).map skS := by
  intro r
  have hr : r = _ := congrArg Prod.snd (walk_eq_evs ue root (Scan.init v11) { fNamespacePrefix := nsPrefixes })
  rw [hr]
  exact ⟨rfl, rfl, evs_sk _ _ root hok _ []⟩

-- `hok` is not needed: the reader's events are well nested on every tree (`evs_wellNested`)
set_option linter.unusedVariables false in
/-- **The start/endPrefixMapping events of any document form a well-nested word** (the grammar `WellNested`: scopes opened
    before an element, well-nested content, the same scopes closed right after the matching endElement). -/
theorem prefix_events_dyck (ue : Tag → Bool) (nsPrefixes v11 : Bool) (root : Node) (hok : TreeOK root) :
    WellNested ((parseDocWith ue nsPrefixes v11 root).out.map skM) := by
  rw [parseDocWith, walk_eq_evs]
  exact evs_wellNested nsPrefixes root _

/-- **For every namespace-well-formed document (described faithfully, `TreeOK`) the modelled parse reports exactly what the
    Spec says**: the whole SAX2 event sequence — prefix mappings, element names with their namespace names, attribute
    lists with theirs (filtered or not according to namespace-prefixes) — computed through the ElemStack model,
    `resolvePrefix`, the two-pass start tag and the reader's prefix stacks equals `sax2Events`, i.e. every name is bound to
    the URI `inScope` implies.  (`normM` / `normS` write both sides as the text SAX2 hands over, "" for no namespace.) -/
theorem sax2_events_eq_spec (ue : Tag → Bool) (nsPrefixes v11 : Bool) (root : Node) (hok : TreeOK root)
    (hwf : nsWellFormed v11 root = true) :
    (parseDocWith ue nsPrefixes v11 root).out.map normM = (sax2Events nsPrefixes [] root).map normS := by
  have hb : BoundN [] root := bound_of_wellFormed v11 root [] (by simpa [nsWellFormed] using hwf)
  rw [parseDocWith, walk_eq_evs]
  exact (evs_full nsPrefixes root hok _ [] (At.init v11) hb).1

/-- `prefix_events_scoped` for a subtree: walking it from ANY scanner and reader state restores both stacks.  `b` is free
    and the Spec's events are taken at the empty path, whatever `r.fNamespacePrefix` and `s` are: the skeleton shows neither
    attribute lists nor namespace names. -/
theorem reader_stack_discipline (b : Bool) (ue : Tag → Bool) (n : Node) (hok : TreeOK n) (s : Scan) (r : Reader) :
    ((walk ue s r n).2.fPrefixes = r.fPrefixes) ∧ ((walk ue s r n).2.fPrefixCounts = r.fPrefixCounts) ∧
    ∃ es, (walk ue s r n).2.out = r.out ++ es ∧ es.map skM = (sax2Events b [] n).map skS := by
  rw [walk_eq_evs]
  exact ⟨rfl, rfl, _, rfl, evs_sk _ b n hok s []⟩

/-- **lookupNamespaceURI on the Spec's nodes** (`chainOf rtags`: an element with its ancestors `rtags`, innermost first, as
    a parse builds them, see `built_chain_eq_spec`; text, comment, PI, CDATA and attribute nodes delegate to that element)
    answers with the in-scope binding of the prefix (`none` = null argument = default namespace; the empty string, which
    is not a prefix, is excluded; as an answer `none` is null, which the model gives also where the C++ returns the empty
    string for `xmlns=""`, see Model/DomLookup).  Of
    `TagOK` only the `ItemsOK` half is used: where a tag repeats a declaration the first one counts on both sides. -/
theorem dom_lookup_eq_inScope (rtags : List Tag) (hok : ∀ t ∈ rtags, TagOK t) (sp : Option String) (hsp : sp ≠ some "") :
    XV.Model.DomLookup.lookupNamespaceURI (chainOf rtags) sp = inScope (pathOf rtags) (sp.getD "") := by
  rw [lookupNS_chainOf rtags (fun t ht => (hok t ht).1), if_neg hsp]

/-- **lookupPrefix is sound on the Spec's nodes**: an answer is a prefix whose in-scope binding is the namespace name. -/
theorem lookupPrefix_sound (rtags : List Tag) (hok : ∀ t ∈ rtags, TagOK t) (u p : String)
    (h : XV.Model.DomLookup.lookupPrefix (chainOf rtags) (some u) = some p) : inScope (pathOf rtags) p = some u := by
  have h1 := lookupPrefixFrom_sound u (chainOf rtags) (chainOf rtags) p h
  rw [lookupNS_chainOf rtags (fun t ht => (hok t ht).1)] at h1
  by_cases e : p = ""
  · simp [e] at h1
  · simpa [e] using h1

/-- … and on ANY DOM tree (parsed or built by hand) an answer is re-confirmed by lookupNamespaceURI at the same node. -/
theorem lookupPrefix_sound_any_tree (chain : List XV.Model.DomLookup.DElem) (u p : String)
    (h : XV.Model.DomLookup.lookupPrefix chain (some u) = some p) :
    XV.Model.DomLookup.lookupNamespaceURI chain (some p) = some u :=
  lookupPrefixFrom_sound u chain chain p h

/-- **lookupPrefix is complete on parsed trees.**  If some declared prefix `p` is in scope at the element and bound there to
    `u` (so it is not shadowed at the element), `lookupPrefix(u)` returns SOME prefix `p'`, and `p'` is bound to `u` in scope.
    (`p'` need not be `p`: the walk returns the first candidate that passes the re-check at the original element.)
    The reserved prefixes are excluded: `xml`/`xmlns` are in scope without any declaration attribute to find. -/
theorem lookupPrefix_complete (rtags : List Tag) (hok : ∀ t ∈ rtags, TagOK t) (u p : String)
    (hp0 : p ≠ "") (hp1 : p ≠ "xml") (hp2 : p ≠ "xmlns") (hin : inScope (pathOf rtags) p = some u) :
    ∃ p', XV.Model.DomLookup.lookupPrefix (chainOf rtags) (some u) = some p' ∧ inScope (pathOf rtags) p' = some u := by
  -- the declaration that binds `p` stands as an attribute `xmlns:p="u"` on one of the nodes
  obtain ⟨l, hl, hd⟩ := inScope_some_decl hp1 hp2 hin
  obtain ⟨t, ht, rfl⟩ := List.mem_map.mp (List.mem_reverse.mp hl)
  obtain ⟨e, he, ha⟩ := chainOf_has_decl_attr rtags t ht ⟨p, u⟩ (mem_declsOf_iff.mp hd)
  have hlk := (dom_lookup_eq_inScope rtags hok (some p) (by simpa using hp0)).trans hin
  have hsome := lookupPrefixFrom_complete u (chainOf rtags) (chainOf rtags)
    ⟨e, he, Or.inr ⟨_, ha, by simp [specAttr, hp0, isPrefixDeclFor, XV.Model.DomLookup.xeq], by simpa [specAttr, hp0] using hlk⟩⟩
  obtain ⟨p', hp'⟩ := Option.isSome_iff_exists.mp hsome
  exact ⟨p', hp', lookupPrefix_sound rtags hok u p' hp'⟩

/-- **… and on ANY DOM tree** (parsed or built by hand), with `lookupNamespaceURI` at the element as the meaning of "in
    scope": if the element or an ancestor is named with prefix `p` in namespace `u`, or carries `xmlns:p="u"`, and `p` is
    not shadowed at the element where the question is asked, the walk answers.  The C++ recursion is mirrored including the
    `originalElement` re-check: a candidate that fails it does not stop the attribute loop nor the walk to the ancestors —
    no shape on which the algorithm gives up early exists. -/
theorem lookupPrefix_complete_any_tree (chain : List XV.Model.DomLookup.DElem) (u : String)
    (h : ∃ e ∈ chain,
      (∃ p, e.ns = some u ∧ e.pre = some p ∧ XV.Model.DomLookup.lookupNamespaceURI chain (some p) = some u) ∨
      (∃ a ∈ e.attrs, isPrefixDeclFor u a = true ∧ XV.Model.DomLookup.lookupNamespaceURI chain (some a.loc) = some u)) :
    ∃ p', XV.Model.DomLookup.lookupPrefix chain (some u) = some p' ∧
          XV.Model.DomLookup.lookupNamespaceURI chain (some p') = some u := by
  obtain ⟨p', hp'⟩ := Option.isSome_iff_exists.mp (lookupPrefixFrom_complete u chain chain h)
  exact ⟨p', hp', lookupPrefixFrom_sound u chain chain p' hp'⟩

/-- **isDefaultNamespace on the Spec's nodes, for a chain that is `ChainWF`** (element prefixes bound, `xmlns` not declared
    as a prefix, no ordinary attribute in the xmlns namespace; its `TagOK` part is not used) says whether a non-empty `u` is
    the default namespace in scope. -/
theorem isDefaultNamespace_eq_inScope (rtags : List Tag) (hwf : ChainWF rtags) (u : String) (hu : u ≠ "") :
    XV.Model.DomLookup.isDefaultNamespace (chainOf rtags) (some u) = decide (inScope (pathOf rtags) "" = some u) := by
  open XV.Model.DomLookup (isDefaultNamespace xeq nonEmpty nullIfEmpty) in
  -- the induction goes in the model's own terms, `XMLString::equals` (null = ""); `hu` counts twice: a walk that runs out of
  -- ancestors answers false, and "no default namespace in scope" must not compare equal to `u`
  suffices h : isDefaultNamespace (chainOf rtags) (some u) = xeq (some u) (inScope (pathOf rtags) "") by
    rw [h]
    cases inScope (pathOf rtags) "" with
    | none => simp [xeq, hu]
    | some w => simp [xeq, eq_comm]; rfl
  induction rtags with
  | nil => simp [chainOf, isDefaultNamespace, inScope, inScopeG, pathOf, levelsOf, nearest, declOf, xeq, hu]
  | cons t outer ih =>
    obtain ⟨_, hbound, hnox, hnoattr, hrest⟩ := hwf
    simp only [chainOf, isDefaultNamespace, specElem_ns, (specElem_names _ t hbound).2.1]
    by_cases e0 : t.pre = ""
    · -- unprefixed element: its own namespace IS the default namespace in scope
      simp [nullIfEmpty, e0, elemNS]
    · -- the element's `xmlns` attribute, if any, is the tag's declaration of the default namespace
      have hval := find_declMatch (pathOf (t :: outer)) isDefaultDecl "" t.items (fun it hit =>
        isDefaultDecl_specAttr _ it (fun d hd => hnox d (mem_declsOf_iff.mpr (hd ▸ hit))) (fun p l hp => hnoattr p l (hp ▸ hit)))
      rw [← specElem_attrs] at hval
      simp only [nullIfEmpty, e0, ↓reduceIte, Option.isNone_some, Option.some.injEq, beq_iff_eq, Bool.false_or]
      rw [inScope_pathOf_cons t outer "" (by decide) (by decide), ← hval]
      show (match (specElem (pathOf (t :: outer)) t).attrs.find? isDefaultDecl with
        | some attr => xeq (some u) (some attr.value)
        | none => isDefaultNamespace (chainOf outer) (some u)) = _
      cases (specElem (pathOf (t :: outer)) t).attrs.find? isDefaultDecl with
      | none => exact ih hrest
      | some a => by_cases ev : a.value = "" <;> simp [xeq, nonEmpty, ev]

/-- **build_names.**  For a start tag whose prefixes are all bound (`TagBound`; `path'` = the declarations in
    scope including its own), described faithfully (`ItemsOK`) and scanned in any state that holds the declarations above it
    and no application-supplied bindings (`Rep`, `a.g = []`), the element node that the model of
    `AbstractDOMParser::startElement` creates from what the scanner hands over carries namespaceURI = the Spec's `elemNS`,
    prefix = the written prefix (null when none), localName = the written local part; and its attribute nodes are, up to
    the NamedNodeMap's ordering, exactly the Spec's expansions `attrExpansion` (namespaceURI, prefix, localName) of the
    written attribute names. -/
theorem build_names {S : Scan} {a : Abs} (h : Rep S a) (hg : a.g = []) (t : Tag) (hok : ItemsOK t.items)
    (hb : TagBound (a.path ++ [declsOf t.items]) t) :
    let e := XV.Model.DomLookup.mkElem (startTagNS S t).1 t (startTagNS S t).2.1 (startTagNS S t).2.2.1
    let path' := a.path ++ [declsOf t.items]
    e.ns = elemNS path' t.pre ∧ e.pre = XV.Model.DomLookup.nullIfEmpty t.pre ∧ e.loc = t.loc ∧
    (e.attrs.map (fun x => (x.ns, x.pre, x.loc))).Perm (t.items.map (attrExpansion path')) := by
  intro e path'
  have he : e = specElem path' t := mkElem_eq_specElem (At.of_rep h hg) t hok hb
  rw [he]
  exact specElem_names path' t hb.1

/-- **… all the way down one path of a document**: the chain of element nodes that `builtChain` makes with `mkElem` from
    the scanner's output for a path of start tags (root first) whose prefixes are all bound (`PathBound`) is the chain the
    DOM lookup theorems speak about, so `dom_lookup_eq_inScope`, `lookupPrefix_sound`, `lookupPrefix_complete` and
    `isDefaultNamespace_eq_inScope` hold for those nodes.  (`dumpNode`, which the driver runs over a whole tree, is not
    tied to `builtChain` by a theorem.) -/
theorem built_chain_eq_spec (v11 : Bool) (tags : List Tag) (hb : PathBound [] tags) :
    builtChain (Scan.init v11) [] tags = chainOf tags.reverse := by
  have := builtChain_eq tags (Scan.init v11) [] (At.init v11) hb
  simpa [chainOf] using this

/-- `dom_lookup_eq_inScope` for the nodes of `built_chain_eq_spec` -/
theorem dom_lookup_on_built_nodes (v11 : Bool) (tags : List Tag) (hb : PathBound [] tags)
    (hok : ∀ t ∈ tags, TagOK t) (sp : Option String) (hsp : sp ≠ some "") :
    XV.Model.DomLookup.lookupNamespaceURI (builtChain (Scan.init v11) [] tags) sp
      = inScope (pathOf tags.reverse) (sp.getD "") := by
  rw [built_chain_eq_spec v11 tags hb]
  exact dom_lookup_eq_inScope _ (fun t ht => hok t (List.mem_reverse.mp ht)) sp hsp

/-- **Illegal bindings of `xml` / `xmlns` are rejected**: the checks of `updateNSMap` flag a declaration attribute
    exactly when the Spec finds a reserved-name constraint (or the XML 1.0 empty-URI rule) violated. -/
theorem illegal_bindings_rejected (s : Scan) (d : Decl) :
    updateNSMapErrors s (if d.pre = "" then ⟨"", xmlnsString, d.uri⟩ else ⟨xmlnsString, d.pre, d.uri⟩)
      = !(declErrors s.xml11 d).isEmpty :=
  updateNSMap_eq_declErrors s d

/-- **collision detected ⇔ two attributes share (namespace id, local name)** -/
theorem collision_detected_iff (attrs : List XMLAttr) :
    dupExpanded attrs = true ↔ ¬ attrs.Pairwise (fun a b => ¬ (b.uriId = a.uriId ∧ b.name = a.name)) := by
  rw [← Bool.not_eq_false, dupExpanded_false_iff, List.Nodup, List.pairwise_map]
  exact not_congr (List.Pairwise.iff fun a b => not_congr
    ⟨fun e => ⟨(Prod.mk.inj e).2.symm, (Prod.mk.inj e).1.symm⟩, fun e => Prod.ext e.2.symm e.1.symm⟩)

/-- **below and above the hash threshold**: the duplicate check of the start tag is the quadratic loop for up to
    `attrDupHashThreshold` attributes and the registry loop above; with the registry as an abstract set of
    (name, uriId) keys both find the same collisions on every attribute list (hashing/rehashing not modelled). -/
theorem dup_check_threshold_independent (attrs : List XMLAttr) :
    dupCheck attrs = dupExpanded attrs ∧ dupRegistry [] attrs = dupExpanded attrs :=
  ⟨dupCheck_eq attrs, dupRegistry_nil_eq attrs⟩

/-- **collision detected ⇔ two attributes share an expanded name** (the Spec-level form of `collision_detected_iff`): for
    a tag that is described faithfully (`ItemsOK`), repeats no declaration and has all its attribute prefixes bound, in a
    context where nothing is bound to the xmlns namespace name and the application has supplied no bindings, the check on
    (uriId, name) keys over the whole attribute list agrees with the Spec's check on (namespace name, local name) of the
    ordinary attributes -/
theorem collision_detected_iff_spec {S : Scan} {a : Abs} (h : Rep S a) (hg : a.g = []) (items : List Item)
    (hok : ItemsOK items) (hb : ∀ p l, Item.attr p l ∈ items → p ≠ "" → attrNS a.path p ≠ none)
    (hk1 : ∀ l ∈ a.path, ∀ d ∈ l, d.uri ≠ xmlnsURI) (hnd : ((declsOf items).map (·.pre)).Nodup) :
    dupCheck (buildAttList S (rawOfItems items)).1 = hasDup (expandedAttrs a.path (attrsOf items)) := by
  rw [buildAttList_items, dupCheck_eq, dup_eq (At.of_rep h hg) items hok.mem hb hk1, (hasDup_false_iff _).mpr hnd]
  rfl

-- `hnd` is not needed: a repeated declaration is an error on both sides (`dup_eq`)
set_option linter.unusedVariables false in
/-- **error detection at a start tag ⇔ the Spec.**  The code-shaped two-pass start tag (declarations first with the
    `updateNSMap` checks, `resolvePrefix` for every attribute and for the element, then the duplicate check by either
    loop) emits an error iff `tagErrors` lists a violated namespace constraint for the tag.
    Side conditions: the application has supplied no bindings; the tree describes the tag faithfully (`ItemsOK`); the tag
    does not repeat a declaration (that is a duplicate attribute, plain well-formedness; the statement carries this
    hypothesis, the proof does not use it: the model reports such a tag and the Spec lists it); the declarations of the
    enclosing elements passed their checks (otherwise the fatal error has already ended the parse). -/
theorem start_tag_error_iff {S : Scan} {a : Abs} (h : Rep S a) (hg : a.g = []) (t : Tag) (hok : ItemsOK t.items)
    (hnd : ((declsOf t.items).map (·.pre)).Nodup)
    (hanc : ∀ l ∈ a.stack, ∀ d ∈ l, declErrors S.xml11 d = []) :
    (startTagNS S t).2.2.2 = true ↔ tagErrors S.xml11 (a.path ++ [declsOf t.items]) t ≠ [] := by
  rw [(At.of_rep h hg).startTag_error_iff t hok (fun l hl => hanc l (List.mem_reverse.mp hl))]
  cases hte : tagErrors S.xml11 (a.path ++ [declsOf t.items]) t <;> simp

-- `hnd` is not needed, see `start_tag_error_iff`
set_option linter.unusedVariables false in
/-- **the modelled scan reports a namespace error iff the document is not namespace-well-formed** (whole documents, any
    nesting, attribute counts on both sides of the hash threshold), for trees that describe documents faithfully and do
    not repeat a declaration inside one tag (a hypothesis the proof does not use, as in `start_tag_error_iff`). -/
theorem scan_errors_iff_not_wellformed (v11 : Bool) (root : Node) (hok : TreeOK root) (hnd : NoDupDecl root) :
    scanErrors v11 root = !nsWellFormed v11 root := by
  have := scanErrors_eq v11 root hok (Scan.init v11) [] (At.init v11) rfl (fun _ hl => nomatch hl)
  simpa [scanErrors, nsWellFormed] using this

/-- a history with shadowing, un-declaration, a pop, more than 16 prefixes on one level (map growth) -/
def demoOps : List Op :=
  [.addLevel, .addPrefix "" "u:a", .addPrefix "p" "u:b", .addLevel, .addPrefix "" "", .addPrefix "p" "u:c"] ++
  (List.range 18).map (fun i => .addPrefix ("q" ++ toString i) ("u:q" ++ toString i)) ++
  [.addLevel, .popTop]

example : let S := (Scan.init).run demoOps
    (S.decode (mapPrefixToURI S.es "p"), S.decode (mapPrefixToURI S.es ""), S.decode (mapPrefixToURI S.es "q17"),
     S.decode (mapPrefixToURI S.es "xml"), S.decode (mapPrefixToURI S.es "zz"))
    = (some "u:c", none, some "u:q17", some xmlURI, none) := by
  simp only [mapPrefix_eq_inScope_history false demoOps]
  decide +kernel

example : inScope [[⟨"", "u:a"⟩, ⟨"p", "u:b"⟩], [⟨"", ""⟩]] "p" = some "u:b" ∧
          inScope [[⟨"", "u:a"⟩, ⟨"p", "u:b"⟩], [⟨"", ""⟩]] "" = none ∧
          inScope [[⟨"", "u:a"⟩, ⟨"p", "u:b"⟩]] "" = some "u:a" := by decide +kernel

example : relDepth 1 [.addPrefix "p" "u", .addLevel, .addPrefix "p" "v", .popTop] = some 1 := by decide

example : let S := ((Scan.init).run [.addLevel]).startTag [⟨"p", "a", "1"⟩, ⟨xmlnsString, "p", "u:late"⟩]
    S.decode (mapPrefixToURI S.es "p") = some "u:late" := by
  simp only [startTag_sees_whole_tag false [.addLevel]]
  decide +kernel

example : ([⟨"p", "a", "1"⟩, ⟨xmlnsString, "p", "u"⟩] : List RawAttr).Perm [⟨xmlnsString, "p", "u"⟩, ⟨"p", "a", "1"⟩] :=
  List.Perm.swap _ _ _

-- SAX2: <a xmlns="u:a" xmlns:p="u:b"><p:b xmlns=""/></a>
def demoDoc : Node :=
  .elem ⟨"", "a", [.decl ⟨"", "u:a"⟩, .attr "p" "x", .decl ⟨"p", "u:b"⟩]⟩
    [.elem ⟨"p", "b", [.decl ⟨"", ""⟩]⟩ [], .text]

theorem demoDoc_ok : TreeOK demoDoc := by simp [demoDoc, TreeOK, TreesOK, ItemsOK]

example : TreeOK demoDoc := demoDoc_ok
example : (parseDoc true false demoDoc).map skM =
    [.spm "" "u:a", .spm "p" "u:b", .se "a", .spm "" "", .se "p:b", .ee "p:b", .epm "", .ee "a", .epm "p", .epm ""] := by
  rw [parseDoc, (prefix_events_scoped _ true false demoDoc demoDoc_ok).2.2]
  decide +kernel
example : nestedCheck ((parseDoc true false demoDoc).map skM) [] [] none = true := by
  rw [parseDoc, (prefix_events_scoped _ true false demoDoc demoDoc_ok).2.2]
  decide +kernel
example : nestedCheck [.spm "p" "u", .se "a", .ee "a"] [] [] none = false := by decide +kernel   -- a scope left open is rejected

-- DOM: the chain of <p:b xmlns=""> inside <a xmlns="u:a" xmlns:p="u:b">
def demoChain : List Tag := [⟨"p", "b", [.decl ⟨"", ""⟩]⟩, ⟨"", "a", [.decl ⟨"", "u:a"⟩, .attr "p" "x", .decl ⟨"p", "u:b"⟩]⟩]

example : ChainWF demoChain ∧ ∀ t ∈ demoChain, TagOK t := by
  simp [demoChain, ChainWF, TagOK, ItemsOK, declsOf, pathOf, levelsOf, elemNS, attrNS, inScope, inScopeG, nearest, declOf, xmlnsURI]
example : XV.Model.DomLookup.lookupNamespaceURI (chainOf demoChain) (some "p") = some "u:b" ∧
          XV.Model.DomLookup.lookupNamespaceURI (chainOf demoChain) none = none ∧
          XV.Model.DomLookup.lookupNamespaceURI (chainOf demoChain.tail) none = some "u:a" ∧
          XV.Model.DomLookup.lookupPrefix (chainOf demoChain) (some "u:b") = some "p" ∧
          XV.Model.DomLookup.isDefaultNamespace (chainOf demoChain.tail) (some "u:a") = true ∧
          XV.Model.DomLookup.isDefaultNamespace (chainOf demoChain) (some "u:a") = false := by decide +kernel

/-- The algorithm exactly as written in DOMNodeImpl.cpp (`lookupNamespaceURIElem`, without the reserved-prefix rule the
    model adds) does NOT satisfy the property for the pre-bound prefix `xml`: a concrete witness (reported as a defect). -/
example : XV.Model.DomLookup.lookupNamespaceURIElem (chainOf [⟨"", "a", []⟩]) (some "xml") = none ∧
          inScope (pathOf [⟨"", "a", []⟩]) "xml" = some xmlURI := by decide +kernel

example : dupExpanded [⟨5, "p", "x", "1"⟩, ⟨1, "", "y", "2"⟩, ⟨5, "q", "x", "3"⟩] = true ∧
          dupExpanded [⟨5, "p", "x", "1"⟩, ⟨6, "q", "x", "3"⟩] = false := by decide +kernel

example : let S := WFScan.init.run [.addLevel, .addPrefix "p" "u:a", .addLevel, .addPrefix "p" "u:b", .addLevel, .popTop]
    ((WF.mapPrefixToURI S.es "p").map S.decode, (WF.mapPrefixToURI S.es "").map S.decode) = (some (some "u:b"), some none) := by
  decide +kernel

example : updateNSMapErrors (Scan.init) ⟨xmlnsString, "xml", "u:wrong"⟩ = true ∧
          updateNSMapErrors (Scan.init) ⟨xmlnsString, "p", xmlURIName⟩ = true ∧
          updateNSMapErrors (Scan.init) ⟨xmlnsString, "p", ""⟩ = true ∧
          updateNSMapErrors (Scan.init true) ⟨xmlnsString, "p", ""⟩ = false ∧
          updateNSMapErrors (Scan.init) ⟨xmlnsString, "p", "u:fine"⟩ = false := by decide +kernel

theorem demoDoc_wf : nsWellFormed false demoDoc = true := by decide +kernel

example : nsWellFormed false demoDoc = true := demoDoc_wf
example : (parseDoc true false demoDoc).map normM =
    [.spm "" "u:a", .spm "p" "u:b",
     .se ("u:a", "a", "a") [("", "xmlns", "xmlns"), ("u:b", "x", "p:x"), (xmlnsURI, "p", "xmlns:p")],
     .spm "" "", .se ("u:b", "b", "p:b") [("", "xmlns", "xmlns")], .ee ("u:b", "b", "p:b"), .epm "",
     .ee ("u:a", "a", "a"), .epm "p", .epm ""] := by
  rw [parseDoc, sax2_events_eq_spec _ true false demoDoc demoDoc_ok demoDoc_wf]
  decide +kernel

-- two prefixes for one namespace, the nearer one shadowed at the inner element:
--   <r xmlns:q="u"><a xmlns:p="u"><b xmlns:p="v"/></a></r>     (innermost first below)
def shadowChain : List Tag := [⟨"", "b", [.decl ⟨"p", "v"⟩]⟩, ⟨"", "a", [.decl ⟨"p", "u"⟩]⟩, ⟨"", "r", [.decl ⟨"q", "u"⟩]⟩]

example : (∀ t ∈ shadowChain, TagOK t) := by simp [shadowChain, TagOK, ItemsOK, declsOf]
/-- at `b` the candidate `p` (declared for "u" on `a`) fails the re-check because `b` re-declares it; the walk goes on and
    finds `q` on `r`; at `a` it answers `p` -/
example : inScope (pathOf shadowChain) "q" = some "u" ∧ inScope (pathOf shadowChain) "p" = some "v" ∧
          XV.Model.DomLookup.lookupPrefix (chainOf shadowChain) (some "u") = some "q" ∧
          XV.Model.DomLookup.lookupPrefix (chainOf shadowChain.tail) (some "u") = some "p" := by decide +kernel
example : ∃ p', XV.Model.DomLookup.lookupPrefix (chainOf shadowChain) (some "u") = some p' ∧ inScope (pathOf shadowChain) p' = some "u" :=
  lookupPrefix_complete shadowChain (by simp [shadowChain, TagOK, ItemsOK, declsOf]) "u" "q" (by decide) (by decide) (by decide)
    (by decide)

-- <a xmlns:p="u:b"><p:b x="v"/></a>, root first
def builtDemo : List Tag := [⟨"", "a", [.decl ⟨"p", "u:b"⟩]⟩, ⟨"p", "b", [.attr "" "x"]⟩]
theorem builtDemo_bound : PathBound [] builtDemo := by
  simp [builtDemo, PathBound, ItemsOK, TagBound, pathOf, levelsOf, declsOf, elemNS, attrNS, inScope, inScopeG, nearest, declOf]

example : PathBound [] builtDemo := builtDemo_bound
example : (builtChain (Scan.init false) [] builtDemo).map (fun e => (e.ns, e.pre, e.loc)) =
            [(some "u:b", some "p", "b"), (none, none, "a")] ∧
          (builtChain (Scan.init false) [] builtDemo).map (fun e => e.attrs.map (fun x => (x.ns, x.pre, x.loc))) =
            [[(none, none, "x")], [(some xmlnsURI, some "xmlns", "p")]] := by
  rw [built_chain_eq_spec false builtDemo builtDemo_bound]
  decide +kernel

theorem demoDoc_nodup : NoDupDecl demoDoc := by simp [demoDoc, NoDupDecl, NoDupDeclL, declsOf]

example : NoDupDecl demoDoc := demoDoc_nodup
example : scanErrors false demoDoc = false ∧ nsWellFormed false demoDoc = true := by
  rw [scan_errors_iff_not_wellformed false demoDoc demoDoc_ok demoDoc_nodup, demoDoc_wf]
  exact ⟨rfl, rfl⟩
example : scanErrors false (.elem ⟨"", "a", [.decl ⟨"p", "u"⟩, .decl ⟨"q", "u"⟩, .attr "p" "x", .attr "q" "x"]⟩ []) = true ∧
          scanErrors false (.elem ⟨"zz", "a", []⟩ []) = true ∧
          scanErrors false (.elem ⟨"", "a", [.decl ⟨"p", ""⟩]⟩ []) = true ∧
          scanErrors true (.elem ⟨"", "a", [.decl ⟨"p", ""⟩]⟩ []) = false := by decide +kernel

theorem toString_inj {m n : Nat} (h : toString m = toString n) : m = n := by
  have := congrArg (fun s => Nat.ofDigitChars 10 s.toList 0) h
  simpa [Nat.toString_eq_repr, Nat.toList_repr, Nat.ofDigitChars_ten_toDigits] using this

def manyAttrs : List XMLAttr := (List.range 120).map (fun i => ⟨1, "", "n" ++ toString i, "v"⟩)
example : manyAttrs.length > attrDupHashThreshold := by decide
example : dupCheck (manyAttrs ++ [⟨1, "", "n7", "v"⟩]) = true ∧ dupCheck manyAttrs = false := by
  rw [dupCheck_eq, dupCheck_eq]
  constructor
  · -- the added attribute has the key of the eighth
    rw [collision_detected_iff]
    intro hp
    exact (List.pairwise_append.mp hp).2.2 ⟨1, "", "n" ++ toString 7, "v"⟩
      (List.mem_map.mpr ⟨7, List.mem_range.mpr (by decide), rfl⟩) _ (List.mem_singleton.mpr rfl) ⟨rfl, by decide⟩
  · -- the generated names are distinct: the number can be read back from its decimal digits
    rw [dupExpanded_false_iff, manyAttrs, List.map_map]
    exact List.pairwise_map.mpr (List.nodup_range.imp (fun hne he =>
      hne (toString_inj ((String.append_right_inj "n").mp (Prod.mk.inj he).1))))

-- a prefixed attribute whose LOCAL name is `xmlns` is an ordinary attribute ({uri of p}xmlns), not a declaration: no prefix
-- mapping is announced for it and it stays in the attribute list with namespace-prefixes off
--   <a xmlns="u:d" xmlns:p="u:p" p:xmlns="v"><b/></a>
def lookalikeDoc : Node :=
  .elem ⟨"", "a", [.decl ⟨"", "u:d"⟩, .decl ⟨"p", "u:p"⟩, .attr "p" "xmlns"]⟩ [.elem ⟨"", "b", []⟩ []]

theorem lookalikeDoc_ok : TreeOK lookalikeDoc ∧ nsWellFormed false lookalikeDoc = true :=
  ⟨by simp [lookalikeDoc, TreeOK, TreesOK, ItemsOK], by decide +kernel⟩

example : TreeOK lookalikeDoc ∧ nsWellFormed false lookalikeDoc = true := lookalikeDoc_ok
example : (parseDoc false false lookalikeDoc).map normM =
    [.spm "" "u:d", .spm "p" "u:p", .se ("u:d", "a", "a") [("u:p", "xmlns", "p:xmlns")],
     .se ("u:d", "b", "b") [], .ee ("u:d", "b", "b"), .ee ("u:d", "a", "a"), .epm "p", .epm ""] := by
  rw [parseDoc, sax2_events_eq_spec _ false false lookalikeDoc lookalikeDoc_ok.1 lookalikeDoc_ok.2]
  decide +kernel

end XV.Props.C06
