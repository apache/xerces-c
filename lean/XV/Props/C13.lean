/-
C13 — DOM mutation keeps the tree well-formed and equal to a reference DOM.
Model: XV.Model.Dom (reference DOM: store of node records, `step : Store → Op → Store × Result`, legality checks
in the order of the C++, hierarchy table regenerated from DOMDocumentImpl::isKidOK).
Spec:  XV.Spec.Dom  (`WF`: single parent, mutual consistency of child/parent links, duplicate-free child lists,
acyclicity, uniform ownerDocument, sorted back-linked attribute maps; DOM Core §1.1.1 hierarchy table; `LegalInsert`).
The invariant theorems quantify over ALL well-formed stores, ALL operations (29 kinds incl. clone/import/adopt/normalize/
rename) with arbitrary operands, and operation lists of ANY length; `exc_unchanged` over all stores.
-/
import XV.Lemmas.Dom
namespace XV.Props.C13
open XV.Model.Dom XV.Spec.Dom XV.Lemmas.Dom

/-- The table in DOMDocumentImpl::isKidOK (regenerated from the source) is the DOM Core structure model. -/
theorem kidok_table_spec : ∀ p c : Kind, kidOKTable p c = allowedChild p c := kidOKTable_eq

/-- `Kind.code` / `Exc.name` are the values of DOMNode::NodeType / names of DOMException::ExceptionCode in the
headers, and isKidOK still has its "white-space Text under a Document" clause. -/
theorem kind_codes_match_enum :
    XV.Gen.KidOK.nodeTypes =
      [("ELEMENT_NODE", Kind.element.code), ("ATTRIBUTE_NODE", Kind.attr.code), ("TEXT_NODE", Kind.text.code),
       ("CDATA_SECTION_NODE", Kind.cdata.code), ("ENTITY_REFERENCE_NODE", Kind.entityRef.code),
       ("ENTITY_NODE", Kind.entity.code), ("PROCESSING_INSTRUCTION_NODE", Kind.pi.code),
       ("COMMENT_NODE", Kind.comment.code), ("DOCUMENT_NODE", Kind.document.code),
       ("DOCUMENT_TYPE_NODE", Kind.doctype.code), ("DOCUMENT_FRAGMENT_NODE", Kind.fragment.code),
       ("NOTATION_NODE", Kind.notation.code)] ∧
    (∀ e, e ∈ Exc.all → e.name ∈ XV.Gen.KidOK.excCodes.map (·.1)) ∧
    XV.Gen.KidOK.docTextAllSpacesClause = true := by
  -- each name stands in the header's table at the place its exception code gives
  refine ⟨rfl, fun e _ => ?_, rfl⟩
  let pos : Nat := match e with
    | .indexSize => 0 | .hierarchy => 2 | .wrongDocument => 3 | .invalidCharacter => 4 | .noModification => 6
    | .notFound => 7 | .notSupported => 8 | .inuseAttribute => 9 | .namespaceErr => 13 | .invalidAccess => 14
  exact List.mem_of_getElem? (i := pos) (by cases e <;> rfl)

/-- Freshly created documents are well-formed. -/
theorem wf_init (n : Nat) : WF (init n) := by
  -- a live node of `init n` is a bare Document that owns itself
  have live : ∀ i r, (init n).get i = some r → r = { kind := .document, owner := i } := fun i r hi => by
    rw [get_init] at hi
    split at hi <;> cases hi
    rfl
  refine (wf_iff_nodeWF _).mpr ⟨fun i r hi => ?_, fun _ => 0, fun c rc p hc hp => ?_⟩
  · cases live i r hi
    exact .isolated rfl rfl rfl rfl (fun _ => rfl) ⟨_, hi, rfl, rfl⟩
  · cases live c rc hc
    cases hp

/-- Every operation, with any operands (legal or not, live or dead), preserves well-formedness. -/
theorem wf_step (s : Store) (h : WF s) (op : Op) : WF (step s op).1 := (step_sound s op).wf h

/-- Well-formedness after any history, of any length, from any well-formed start. -/
theorem wf_run (s : Store) (h : WF s) (ops : List Op) : WF (run s ops) := by
  induction ops generalizing s with
  | nil => exact h
  | cons op ops ih => exact ih (step s op).1 (wf_step s h op)

/-- Every state reachable from freshly created documents is well-formed. -/
theorem wf_reachable (n : Nat) (ops : List Op) : WF (run (init n) ops) := wf_run _ (wf_init n) ops

/-- An operation that raises a DOMException changes nothing (nor does one on a dead handle / wrong interface). -/
theorem exc_unchanged (s : Store) (op : Op) :
    (∀ c, (step s op).2 = .exc c → (step s op).1 = s) ∧
    ((step s op).2.isOk = false → (step s op).1 = s) := by
  have key : (step s op).2.isOk = false → (step s op).1 = s :=
    fun h => (step_sound s op).unch.resolve_right fun h1 => by rw [h1] at h; cases h
  exact ⟨fun c hc => key (by rw [hc]; rfl), key⟩

/-- CharacterData: substring/insert/delete/replace are the list operations of DOM Core; INDEX_SIZE_ERR is raised
exactly when the offset exceeds the length, and no other exception is. -/
theorem chardata_spec (l d : List Nat) (off cnt : Nat) :
    (∀ op, op = CDOp.substring off cnt ∨ op = CDOp.insert off d ∨ op = CDOp.delete off cnt ∨
        op = CDOp.replace off cnt d →
      (cdApply l op = .error .indexSize ↔ l.length < off) ∧ (∀ e, cdApply l op = .error e → e = .indexSize)) ∧
    (off ≤ l.length →
      cdApply l (.substring off cnt) = .ok (l, some ((l.drop off).take cnt)) ∧
      cdApply l (.insert off d) = .ok (l.take off ++ d ++ l.drop off, none) ∧
      cdApply l (.delete off cnt) = .ok (l.take off ++ l.drop (off + cnt), none) ∧
      cdApply l (.replace off cnt d) = .ok (l.take off ++ d ++ l.drop (off + cnt), none)) ∧
    cdApply l (.append d) = .ok (l ++ d, none) ∧ cdApply l (.set d) = .ok (d, none) := by
  -- every guarded method has the shape `if l.length < off then INDEX_SIZE_ERR else ok`
  have guard : ∀ x : List Nat × Option (List Nat),
      ((if l.length < off then Except.error Exc.indexSize else .ok x) = .error .indexSize ↔ l.length < off) ∧
      ∀ e, (if l.length < off then Except.error Exc.indexSize else .ok x) = .error e → e = .indexSize := by
    intro x; by_cases h : l.length < off <;> simp [h]
  refine ⟨?_, fun h => ?_, rfl, rfl⟩
  · rintro op (rfl | rfl | rfl | rfl) <;> exact guard _
  · simp only [cdApply, if_neg (Nat.not_lt.mpr h), insertAtOff_deleteRange l d off cnt h]
    exact ⟨rfl, rfl, rfl, trivial⟩

/-- … and they fit together: after the insertion of `d` at an offset within the data the length has grown by that of `d`,
the substring of that length at the offset is `d`, and deleting it restores the data. -/
theorem chardata_laws (l d : List Nat) (off : Nat) (h : off ≤ l.length) :
    (insertAtOff l off d).length = l.length + d.length ∧
    substr (insertAtOff l off d) off d.length = d ∧
    deleteRange (insertAtOff l off d) off d.length = l :=
  ⟨length_insertAtOff l d off h, substr_insertAtOff l d off h, delete_insertAtOff l d off h⟩

/-- substringData, insertData and deleteData as operations of `step`, on a live, writable Text/CDATASection/Comment node of
any store. -/
theorem chardata_step_spec (s : Store) (t : NodeId) (rt : NodeRec) (ht : s.get t = some rt)
    (hk : isCharData rt.kind = true) (hro : rt.readOnly = false) (off cnt : Nat) (d : List Nat) :
    step s (.substringData t off cnt) =
      (if rt.data.length < off then (s, .exc .indexSize) else (s, .ok (.str ((rt.data.drop off).take cnt)))) ∧
    step s (.insertData t off d) =
      (if rt.data.length < off then (s, .exc .indexSize)
       else (setDataOf s t (rt.data.take off ++ d ++ rt.data.drop off), .ok .null)) ∧
    step s (.deleteData t off cnt) =
      (if rt.data.length < off then (s, .exc .indexSize)
       else (setDataOf s t (rt.data.take off ++ rt.data.drop (off + cnt)), .ok .null)) := by
  simp only [step, charDataOp, ht, cdKindOK, hk, hro, cdApply]
  by_cases h : rt.data.length < off
  · simp only [h, if_true]
    exact ⟨rfl, rfl, rfl⟩
  · simp only [h, if_false]
    exact ⟨rfl, rfl, rfl⟩

/-- Inserting a node into itself or into one of its descendants never succeeds and changes nothing
(in the C++ as released `e->appendChild(e)` succeeds: DESIGN §5 F4; the model shows the repaired check, which /repo has
since its commit cde41ab). -/
theorem insert_ancestor_rejected (s : Store) (p n : NodeId) (ref : Option NodeId) (h : AncOrSelf s n p) :
    (step s (.insertBefore p n ref)).2.isOk = false ∧ (step s (.insertBefore p n ref)).1 = s ∧
    (step s (.appendChild p n)).2.isOk = false ∧ (step s (.appendChild p n)).1 = s := by
  have key : ∀ ref, (insertBeforeCore s p n ref false false).2.isOk = false := fun ref =>
    Bool.eq_false_iff.mpr fun hok =>
      not_anc_of_isAncOrSelf_false s n p (insertBeforeCore_ok_anc s p n ref false false hok) h
  have e1 := (exc_unchanged s (.insertBefore p n ref)).2
  have e2 := (exc_unchanged s (.appendChild p n)).2
  exact ⟨key ref, e1 (key ref), key none, e2 (key none)⟩

theorem insert_self_rejected (s : Store) (e : NodeId) (ref : Option NodeId) :
    (step s (.appendChild e e)).2.isOk = false ∧ (step s (.appendChild e e)).1 = s ∧
    (step s (.insertBefore e e ref)).2.isOk = false ∧ (step s (.insertBefore e e ref)).1 = s := by
  have := insert_ancestor_rejected s e e ref AncOrSelf.refl
  exact ⟨this.2.2.1, this.2.2.2, this.1, this.2.1⟩

/-- … with HIERARCHY_REQUEST_ERR when none of the earlier checks of the C++ fires first.  The "only one such child" test of
DOMDocumentImpl::insertBefore is not excluded: it stands before the ancestor test and raises the same code. -/
theorem insert_ancestor_code (s : Store) (p n : NodeId) (rp rn : NodeRec) (hp : s.get p = some rp)
    (hn : s.get n = some rn) (hleaf : isLeaf rp.kind = false) (hro : rp.readOnly = false)
    (hown : ownerDocOf rn = some rp.owner) (h : AncOrSelf s n p) :
    (step s (.appendChild p n)).2 = .exc .hierarchy := by
  simp only [step, insertBeforeCore, hp, hn, insertPlan, refDead, hleaf, hro, hown, isAncOrSelf_complete s n p h,
    Bool.false_eq_true, if_false, ne_eq, not_true_eq_false, if_true, ite_self]

/-- Conversely the repaired check rejects nothing else: in a well-formed store a type-correct insertion into a writable
target, at the end or before one of its children other than `n`, of a node of the same document that is not an inclusive
ancestor of the target succeeds, and does the list surgery (stated for a target that is not a Document and a node that is
not a DocumentFragment). -/
theorem insert_legal_accepted (s : Store) (h : WF s) (p n : NodeId) (ref : Option NodeId) (rp rn : NodeRec)
    (hp : s.get p = some rp) (hn : s.get n = some rn)
    (href : ref = none ∨ ∃ r rr, ref = some r ∧ r ≠ n ∧ s.get r = some rr ∧ rr.parent = some p)
    (hleaf : isLeaf rp.kind = false) (hdoc : rp.kind ≠ .document) (hro : rp.readOnly = false)
    (hown : ownerDocOf rn = some rp.owner) (hfrag : rn.kind ≠ .fragment) (hkid : isKidOK rp rn = true)
    (hna : ¬ AncOrSelf s n p) :
    step s (.insertBefore p n ref) = (moveNodes s [n] p ref, .ok (.node n)) := by
  have hplan : insertPlan s p n rp rn ref false false = .ok [n] := by
    rw [insertPlan_eq_ok, if_neg hfrag]
    refine ⟨?_, hleaf, fun hd => hdoc hd.1, hro, hown, fuel_suffices s h n p hna, ?_, ?_, hkid, rfl⟩
    all_goals rcases href with rfl | ⟨r, rr, rfl, hne, hr, hpar⟩
    · rfl
    · simp [refDead, hr]
    · rfl
    · simp [refNotChild, parentOf_eq_some.mpr ⟨rr, hr, hpar⟩]
    · exact nofun
    · exact fun hh => hne (Option.some.inj hh)
  simp only [step, insertBeforeCore, hp, hn, hplan]

/-- In a well-formed store `insertBefore` (all operands live) returns normally exactly when `LegalInsert` holds, XV.Spec.Dom's
reading of when DOM Core permits the insertion: no hierarchy violation (node type, second document element — `docOnce`,
which is the model's own `docConflict` —, insertion into itself or a descendant), no foreign-document node, refChild a
child, target not read-only.
That a call which does not return normally raises a DOMException (and is not `dead`/`mismatch`) is not part of the statement.
False of the C++ as released for `n = p` (F4: the ancestor walk started at the parent of `p`, and not at all for a childless
`n`); stated for the repaired check. -/
theorem exc_iff_forbidden (s : Store) (h : WF s) (p n : NodeId) (ref : Option NodeId) (rp rn : NodeRec)
    (hp : s.get p = some rp) (hn : s.get n = some rn) (href : refDead s ref = false) :
    (step s (.insertBefore p n ref)).2.isOk = true ↔ LegalInsert s p n rp rn ref := by
  show (insertBeforeCore s p n ref false false).2.isOk = true ↔ _
  rw [insertBeforeCore_isOk s p n rp rn ref false false hp hn, planOk_insertPlan, fragKidsBad_false_iff,
    isKidOK_iff, refNotChild_eq_false]
  constructor
  · rintro ⟨_, h1, h2, h3, h4, h5, h6, h7⟩
    exact ⟨h1, h3, h4, not_anc_of_isAncOrSelf_false s n p h5, h6, h7, h2⟩
  · rintro ⟨l1, l2, l3, l4, l5, l6, l7⟩
    exact ⟨href, l1, l7, l2, l3, fuel_suffices s h n p l4, l5, l6⟩

/-- a concrete non-trivial reachable store: two documents; in document 0 an element `a` with attribute `x="v"`
(attribute 5 with Text child 6), child element `b` and a Text "AB". -/
def sample : Store := run (init 2)
  [.createElement 0 [0x61], .createElement 0 [0x62], .createText 0 [0x41, 0x42], .appendChild 0 2,
   .appendChild 2 3, .appendChild 2 4, .setAttribute 2 [0x78] [0x76]]

example : WF sample := wf_reachable 2 _
example : (sample.get 2).map (·.children) = some [3, 4] ∧ (sample.get 3).map (·.parent) = some (some 2) ∧
    (sample.get 2).map (·.attrs) = some [5] ∧ (sample.get 6).map (·.parent) = some (some 5) := by decide +kernel
-- hypotheses of the rejection theorems are satisfiable: 2 is an ancestor of 3, and the model says HIERARCHY
example : AncOrSelf sample 2 3 := .step (q := 2) (by decide +kernel) .refl
example : (step sample (.appendChild 3 2)).2 = .exc .hierarchy ∧ (step sample (.appendChild 2 2)).2 = .exc .hierarchy := by
  decide
-- a legal move is accepted (hypotheses of insert_legal_accepted hold for p = 3, n = 4)
example : (step sample (.insertBefore 3 4 none)).2 = .ok (.node 4) := by decide +kernel
-- both sides of exc_iff_forbidden occur: a permitted insertion (and the theorem yields its legality) …
example : ∃ rp rn, sample.get 3 = some rp ∧ sample.get 4 = some rn ∧ LegalInsert sample 3 4 rp rn none :=
  ⟨_, _, rfl, rfl, (exc_iff_forbidden sample (wf_reachable 2 _) 3 4 none _ _ rfl rfl rfl).mp (by decide +kernel)⟩
-- … and a forbidden one (Text 4 cannot have children)
example : (step sample (.insertBefore 4 3 none)).2 = .exc .hierarchy := by decide +kernel
-- exc_unchanged is not vacuous: an exception does occur (4 is a child of 2, not of 3)
example : (step sample (.removeChild 3 4)).2 = .exc .notFound := by decide +kernel
example : cdApply [1, 2, 3] (.replace 1 1 [9, 9]) = .ok ([1, 9, 9, 3], none) ∧
    cdApply [1, 2, 3] (.substring 4 1) = .error .indexSize := ⟨rfl, rfl⟩

end XV.Props.C13
