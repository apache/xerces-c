/-
C07 — DTD validation reports a validity error iff a validity constraint is violated.
Property theorems only (+ non-vacuity examples).  All statements quantify over ALL content specs and
ALL child sequences (unbounded lists); nothing here is a bounded check.

  Spec    XV.Spec.ContentModel   `Lang : Spec → List Name → Prop` (declarative), `derivMatch` (executable judge)
          XV.Spec.DtdValid       `validDoc` (executable judge of the document tier; `validate_iff_partial` only)
  Model   XV.Model.ContentModel  code-shaped SimpleContentModel / MixedContentModel / DFAContentModel,
                                 DTDElementDecl::makeContentModel / createChildModel, DTDValidator::checkContent
-/
import XV.Lemmas.ContentModel
import XV.Lemmas.ContentModelSel
import XV.Lemmas.DfaFinal
import XV.Spec.DtdValid
namespace XV.Props.C07
open XV.Spec.ContentModel XV.Model.ContentModel

/-- nullable decides membership of the empty sequence (for the derivative machinery `Re`) -/
theorem nullable_iff (r : Re) : r.nullable = true ↔ XV.Lemmas.ContentModel.ReLang r [] :=
  XV.Lemmas.ContentModel.nullable_iff r

/-- one Brzozowski derivative step is exact -/
theorem deriv_step (r : Re) (x : Name) (w : List Name) :
    XV.Lemmas.ContentModel.ReLang (r.deriv x) w ↔ XV.Lemmas.ContentModel.ReLang r (x :: w) :=
  XV.Lemmas.ContentModel.deriv_iff_cons r x w

/-- `derivMatch` decides `Lang`, for every content spec (EMPTY, ANY, mixed, children with arbitrary
    nesting of `,` `|` `?` `*` `+`, deterministic or not) and every child sequence. -/
theorem deriv_iff (cs : Spec) (w : List Name) : derivMatch cs w = true ↔ Lang cs w := by
  unfold derivMatch
  rw [XV.Lemmas.ContentModel.matches_iff, XV.Lemmas.ContentModel.spec_toRe_iff]

-- non-vacuity: a non-deterministic model ((a,b)|(a,c)); both verdicts occur
example : derivMatch (.children (.choice (.seq (.leaf 0) (.leaf 1)) (.seq (.leaf 0) (.leaf 2)))) [0, 2] = true := by decide +kernel
example : Lang (.children (.choice (.seq (.leaf 0) (.leaf 1)) (.seq (.leaf 0) (.leaf 2)))) [0, 2] :=
  (deriv_iff _ _).1 (by decide +kernel)
example : ¬ Lang (.children (.choice (.seq (.leaf 0) (.leaf 1)) (.seq (.leaf 0) (.leaf 2)))) [0, 0] :=
  fun h => absurd ((deriv_iff _ _).2 h) (by decide +kernel)
example : Lang (.children (.seq (.star (.leaf 0)) (.leaf 0))) [0, 0, 0] := (deriv_iff _ _).1 (by decide +kernel)
example : Lang (.mixed [1, 2]) [2, 1, 2] ∧ ¬ Lang (.mixed [1, 2]) [2, 3] :=
  ⟨(deriv_iff _ _).1 (by decide +kernel), fun h => absurd ((deriv_iff _ _).2 h) (by decide +kernel)⟩
example : XV.Lemmas.ContentModel.ReLang (.cat (.star (.sym 0)) (.sym 0)) [0, 0] :=
  (deriv_step _ 0 [0]).1 ((deriv_step _ 0 []).1 ((nullable_iff _).1 (by decide +kernel)))

open XV.Lemmas.ContentModel XV.Lemmas.ContentModelSel in
/-- `SimpleContentModel::validateContent` succeeds exactly on the language of the particle, for every
    (model, particle) pair that `createChildModel` creates (`SimpleFor`) and every child sequence. -/
theorem simple_iff {m : Simple} {c : CM} (h : SimpleFor m c) (w : List Name) :
    simpleValidate m w = .ok ↔ CM.Lang c w := by
  cases h with
  | star n =>
    rw [lang_star_leaf, ← firstMismatch_none n w 0]
    simp only [simpleValidate]
    cases firstMismatch (QN.elem n) w 0 <;> simp
  | plus n =>
    rw [lang_plus_leaf, ← firstMismatch_none n w 0]
    simp only [simpleValidate]
    cases w with
    | nil => simp
    | cons c0 rest => cases firstMismatch (QN.elem n) (c0 :: rest) 0 <;> simp
  | _ =>
    -- leaf, `?`, `|`, `,`: finitely many words, none longer than two, so by the length of `w`
    simp only [lang_leaf, lang_opt_leaf, lang_choice_leaf, lang_seq_leaf]
    rcases w with _ | ⟨c0, _ | ⟨c1, _ | ⟨c2, w⟩⟩⟩ <;>
      simp [simpleValidate, nameEq_elem, ite_eq_ok, Decidable.or_iff_not_imp_left]

example : SimpleFor ⟨.Sequence, .elem 3, some (.elem 4)⟩ (.seq (.leaf 3) (.leaf 4)) := .seq 3 4
example : CM.Lang (.seq (.leaf 3) (.leaf 4)) [3, 4] := (simple_iff (.seq 3 4) _).1 (by decide +kernel)
example : ¬ CM.Lang (.plus (.leaf 3)) [3, 3, 4] := fun h => absurd ((simple_iff (.plus 3) _).2 h) (by decide +kernel)

open XV.Lemmas.ContentModel XV.Lemmas.ContentModelSel in
/-- `MixedContentModel::validateContent` (unordered, DTD) succeeds exactly on the sequences over the
    declared names, for the child list that the constructor's `buildChildList` extracts (`MixedFor`). -/
theorem mixed_iff {m : Mixed} {ns : List Name} (h : MixedFor m ns) (w : List Name) :
    mixedValidate m w = .ok ↔ Lang (.mixed ns) w := by
  rw [mixedValidate, mixedLoop_ok, h, lang_mixed]
  simp only [List.mem_cons, reduceCtorEq, List.mem_map, QN.elem.injEq, exists_eq_right, false_or]

example : MixedFor ⟨buildChildList (scanMixed [1, 2, 3] false)⟩ [1, 2, 3] := rfl
example : Lang (.mixed [1, 2, 3]) [3, 1] :=
  (mixed_iff (m := ⟨buildChildList (scanMixed [1, 2, 3] false)⟩) (ns := [1, 2, 3]) (show MixedFor _ _ from rfl) _).1 (by decide +kernel)

open XV.Lemmas.ContentModelSel in
/-- Every content spec (for both spellings `(#PCDATA)` / `(#PCDATA)*`) is routed — by the model of
    `DTDValidator::checkContent` → `DTDElementDecl::makeContentModel` → `createChildModel` — to a branch
    whose precondition it meets: EMPTY/ANY inline, mixed → MixedContentModel with `MixedFor`,
    children → SimpleContentModel with `SimpleFor` or DFAContentModel on the element-only tree.
    In particular `makeContentModel` returns a model (no `CM_…` exception) for every mixed and children declaration —
    the ones `checkContent` calls it for; on EMPTY/ANY it would throw `CM_MustBeMixedOrChildren` — and the simple
    models for `|` and `,` have their second child (`SimpleFor`); that `checkContent` never ends in an exception is
    not stated as a theorem. -/
theorem select_total (s : Spec) (star : Bool) : Routed s star := by
  cases s with
  | empty => rfl
  | any => rfl
  | mixed ns => exact ⟨⟨buildChildList (scanMixed ns star)⟩, rfl, buildChildList_scanMixed ns star⟩
  | children c =>
    -- `createChildModel` looks at the operator's arity and one level below it: all children leaves gives the
    -- simple model (one `SimpleFor` constructor per operator), anything else the DFA
    cases c with
    | leaf n => exact .inl ⟨_, rfl, .leaf n⟩
    | opt a | star a | plus a =>
      cases a with
      | leaf n => exact .inl ⟨_, rfl, by constructor⟩
      | _ => exact .inr rfl
    | seq a b | choice a b =>
      cases a with
      | leaf n =>
        cases b with
        | leaf m => exact .inl ⟨_, rfl, by constructor⟩
        | _ => exact .inr rfl
      | _ => exact .inr rfl

example : makeContentModel (declOf (.children (.choice (.leaf 0) (.leaf 1)))) = .ok (.simple ⟨.Choice, .elem 0, some (.elem 1)⟩) := rfl
example : makeContentModel (declOf (.children (.choice (.leaf 0) (.opt (.leaf 1)))))
    = .ok (.dfa (nodeOfCM (.choice (.leaf 0) (.opt (.leaf 1))))) := rfl

open XV.Lemmas.Glushkov in
/-- followpos soundness (of the analysis: first/last/follow contain every real successor): every word of the
    linearised particle (positions instead of names) is accepted by the first/last/follow position automaton
    (XV.Lemmas.Glushkov; that `buildSyntaxTree` computes exactly these relations is
    `XV.Lemmas.DfaTree.buildSyntaxTree_spec`) -/
theorem followpos_sound {c : CM} {lo : Nat} {π : List Nat} (h : PLang c lo π) : accepts c lo π = true :=
  accepts_of_plang h

open XV.Lemmas.Glushkov in
/-- followpos completeness (the analysis adds no successor that is not real): everything the position automaton
    accepts is a word of the linearised particle (the language of a linear expression is local) — no determinism
    assumption -/
theorem followpos_complete (c : CM) (lo : Nat) (π : List Nat) (h : accepts c lo π = true) : PLang c lo π :=
  plang_of_accepts c lo π h

open XV.Lemmas.Glushkov in
example : accepts (.seq (.star (.leaf 7)) (.leaf 7)) 0 [0, 0, 1] = true := by decide +kernel
open XV.Lemmas.Glushkov in
example : PLang (.seq (.star (.leaf 7)) (.leaf 7)) 0 [0, 0, 1] := followpos_complete _ _ _ (by decide +kernel)

/-- The code-shaped `DFAContentModel` — `buildSyntaxTree` (positions, nullable/firstpos/lastpos/followpos),
    `buildDFA` (element map, worklist subset construction with the state hash table that never contains the
    initial state), `validateContent` (table walk) — accepts exactly `CM.Lang c`, for EVERY particle `c`
    (ambiguous / non-deterministic ones included) and EVERY child sequence.  Includes termination of the
    construction within the model's fuel bound (`exc "dfa-fuel"` never happens). -/
theorem dfa_iff (c : CM) (w : List Name) : (Model.dfa (nodeOfCM c)).validate w = .ok ↔ CM.Lang c w :=
  XV.Lemmas.DfaFinal.dfa_iff' c w

-- non-vacuity: ((a,b)|(a,c)) and (a*,a) are not deterministic; the model is executable
example : (Model.dfa (nodeOfCM (.choice (.seq (.leaf 0) (.leaf 1)) (.seq (.leaf 0) (.leaf 2))))).validate [0, 2] = .ok := by decide +kernel
example : CM.Lang (.seq (.star (.leaf 0)) (.leaf 0)) [0, 0, 0] := (dfa_iff _ _).1 (by decide +kernel)
example : ¬ CM.Lang (.seq (.star (.leaf 0)) (.leaf 0)) [0, 1] := fun h => absurd ((dfa_iff _ _).2 h) (by decide +kernel)

/-- For every content spec (both spellings of `(#PCDATA)`), the model of `DTDValidator::checkContent`
    (inline EMPTY/ANY, model selection, Simple/Mixed/DFA content model) reports success exactly on the
    sequences of the declared language. -/
theorem checkContent_iff (s : Spec) (star : Bool) (w : List Name) :
    checkContent (declOf s star) w = .ok ↔ Lang s w := by
  have R := select_total s star
  cases s with
  | empty =>
    rw [XV.Lemmas.ContentModel.lang_empty]
    cases w <;> simp [checkContent, declOf]
  | any => exact ⟨fun _ => .any w, fun _ => rfl⟩
  | mixed ns =>
    obtain ⟨m, hm, hf⟩ := R
    have : (declOf (.mixed ns) star).modelType = .Mixed_Simple := rfl
    simp only [checkContent, this, hm]
    exact mixed_iff hf w
  | children c =>
    have : (declOf (.children c) star).modelType = .Children := rfl
    simp only [checkContent, this, XV.Lemmas.ContentModel.lang_children]
    rcases R with ⟨m, hm, hf⟩ | hm
    · rw [hm]; exact simple_iff hf w
    · rw [hm]; exact dfa_iff c w

example : checkContent (declOf (.children (.plus (.choice (.leaf 0) (.seq (.leaf 0) (.leaf 1)))))) [0, 0, 1, 0] = .ok := by decide +kernel
example : checkContent (declOf (.mixed [1, 2])) [3] = .fail 0 := by decide +kernel

open XV.Spec.DtdValid in
/-- PARTIAL.  Full statement intended by DESIGN §4/C07 (not proved, there is no code-shaped model of the
    scanners' attribute/ID validation):
      `validate_iff : validate dtd doc = [] ↔ Valid dtd doc`,  `violation_is_error_not_fatal`,
      `defaults_independent_of_validation`
    — these are covered by the document-tier correspondence (implementation vs `validDoc`) only.
    What is proved: whenever the executable Spec `validDoc` (the judge of the document tier) says "valid",
    the root element type matches the DOCTYPE and EVERY element of the document is declared, its child
    sequence is in the declarative language `Lang` of the declared content model, and it has character
    data only where the content model allows it. -/
theorem validate_iff_partial (d : Doc) (h : validDoc d = true) :
    d.root.name = d.doctype ∧
    ∀ e, e ∈ allElems d.root →
      ∃ decl, findDecl d.decls e.name = some decl ∧ Lang decl.content (e.children.map (·.name)) ∧
        (e.text = true → textAllowed decl.content = true) := by
  unfold validDoc at h
  rw [Bool.and_eq_true, List.isEmpty_iff, List.isEmpty_iff] at h
  have hv := h.2
  simp only [violations, List.append_eq_nil_iff, List.flatMap_eq_nil_iff] at hv
  obtain ⟨⟨⟨⟨⟨⟨⟨_, hroot⟩, hel⟩, _⟩, _⟩, _⟩, _⟩, _⟩ := hv
  refine ⟨by simpa using hroot, fun e he => ?_⟩
  have h1 := hel e he
  simp only [elemLocalViolations, List.append_eq_nil_iff] at h1
  replace h1 := h1.1.1
  cases hf : findDecl d.decls e.name with
  | none => rw [hf] at h1; cases h1
  | some decl =>
    simp only [hf, List.append_eq_nil_iff] at h1
    obtain ⟨⟨h2, h3⟩, _⟩ := h1
    refine ⟨decl, rfl, (deriv_iff _ _).1 (by simpa using h2), fun ht => ?_⟩
    have ht' : e.x.text = true := ht
    simpa [ht'] using h3

open XV.Spec.DtdValid in
example : validDoc { doctype := 0, decls := [⟨0, .children (.seq (.leaf 1) (.star (.leaf 1))), [⟨0, .id, .required, false, false⟩], false, false⟩, ⟨1, .mixed [1], [⟨0, .idref, .implied, false, false⟩, ⟨1, .enum [10, 11], .dflt [10], false, false⟩], false, false⟩], root := .mk 0 {} [⟨0, [20], false⟩] [.mk 1 { text := true } [⟨0, [20], false⟩] [], .mk 1 {} [⟨1, [11], false⟩] []] } = true := by decide +kernel
open XV.Spec.DtdValid in
example : violations { doctype := 0, decls := [⟨0, .children (.leaf 1), [⟨0, .enum [10, 11], .implied, false, false⟩], false, false⟩, ⟨1, .empty, [], false, false⟩], root := .mk 0 {} [⟨0, [10, 11], false⟩] [.mk 1 {} [] []] } = ["attribute-value-type:enumeration-list-of-members"] := by decide +kernel
-- VC Standalone Document Declaration: an omitted, externally declared #FIXED default
open XV.Spec.DtdValid in
example : violations { doctype := 0, standalone := true, hasExt := true, decls := [⟨0, .empty, [⟨0, .cdata, .fixed [1], true, false⟩], false, false⟩], root := .mk 0 {} [] [] } = ["standalone:externally-declared-default-needed"] := by decide +kernel
open XV.Spec.DtdValid in
example : validDoc { doctype := 0, standalone := false, hasExt := true, decls := [⟨0, .empty, [⟨0, .cdata, .fixed [1], true, false⟩], false, false⟩], root := .mk 0 {} [] [] } = true := by decide +kernel

-- an <!ELEMENT> delivered by a parameter entity referenced in the INTERNAL subset is an external markup declaration (2.9)
open XV.Spec.DtdValid in
example : violations { doctype := 0, standalone := true, decls := [⟨0, .children (.star (.leaf 1)), [], false, true⟩, ⟨1, .empty, [], false, false⟩], root := .mk 0 { ws := true } [] [.mk 1 {} [] []] } = ["standalone:white-space-in-externally-declared-element-content"] := by decide +kernel
-- an IDREF default naming a missing ID is harmless as long as it is never applied (element type never occurs) …
open XV.Spec.DtdValid in
example : validDoc { doctype := 0, decls := [⟨0, .empty, [], false, false⟩, ⟨1, .empty, [⟨0, .idref, .dflt [78], false, false⟩], false, false⟩], root := .mk 0 {} [] [] } = true := by decide +kernel
-- … and a violation of VC IDREF once it is applied
open XV.Spec.DtdValid in
example : violations { doctype := 0, decls := [⟨0, .empty, [⟨0, .idref, .dflt [78], false, false⟩], false, false⟩], root := .mk 0 {} [] [] } = ["idref-resolves"] := by decide +kernel

end XV.Props.C07
