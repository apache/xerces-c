/-
C05 — transcoders and encoding detection decode every supported encoding exactly.
UTF-8: XV.Model.Utf8 (code-shaped XMLUTF8Transcoder, tables regenerated from the source) against XV.Spec.Utf8 (Unicode
Tables 3-6 / 3-7, D91).  Code pages, fixed-width encodings, US-ASCII: XV.Model.ByteCodec and XV.Model.CodecStream against
the generated tables themselves, the same Spec and XV.Spec.Ascii.  Detection: XV.Model.Recognizer against XML 1.0
Appendix F.
-/
import XV.Lemmas.Utf8
import XV.Lemmas.ByteCodec2
import XV.Lemmas.Recognizer
import XV.Lemmas.Ascii
import XV.Lemmas.AsciiReader
import XV.Lemmas.ByteTables
namespace XV.Props.C05
open XV.Model.Utf8 XV.Spec.Utf8 XV.Lemmas.Utf8

/-- The tables of XMLUTF8Transcoder, as generated from the source, say what Tables 3-6 and 3-7 need them to say: for
every byte the count of trailing bytes `gUTFBytes`, the lead test (`gUTFByteIndicatorTest`, `gUTFByteIndicator`) and
`checkTrailingBytes`; for the lengths in use `gUTFOffsets` and `gFirstByteMark`. -/
theorem utf8_tables_spec :
    (∀ b, b < 256 → tb b = tbSpec b) ∧
    (∀ b, b < 256 → ((indTest (tb b) &&& b) != ind (tb b)) = decide ((0x80 ≤ b ∧ b < 0xC2) ∨ 0xFE ≤ b)) ∧
    (∀ b, b < 256 → trailBad b = !(cont b)) ∧
    (off 1 = 0x3080 ∧ off 2 = 0xE2080 ∧ off 3 = 0x3C82080) ∧
    (firstMark 1 = 0 ∧ firstMark 2 = 0xC0 ∧ firstMark 3 = 0xE0 ∧ firstMark 4 = 0xF0) :=
  ⟨tb_spec, lead_bad, trailBad_spec, off_vals, firstMark_vals⟩

/-- Spec consistency: Table 3-7 sequences are exactly the Table 3-6 encodings of scalar values. -/
theorem table37_iff_table36 (w : List Nat) :
    wellFormed w = true ↔ ∃ s, isScalar s ∧ w = encode s := by
  constructor
  · intro h
    obtain ⟨he, hs⟩ := wf_encode_value w h
    exact ⟨value w, hs, he.symm⟩
  · rintro ⟨s, hs, rfl⟩
    exact (scalar_wf_encode s hs).1

/-- One loop body: every well-formed multi-byte sequence decodes to its code point. -/
theorem utf8_step_complete (w rest : List Nat) (hw : wellFormed w = true) (h2 : 2 ≤ w.length) :
    decodeStep (w ++ rest) = .val (value w) w.length :=
  decodeStep_complete w rest hw h2

/-- One loop body never yields a value ≤ U+10FFFF for anything but a Table 3-7 sequence:
overlong forms, surrogates, stray/missing continuation bytes, 5/6-byte forms are all rejected. -/
theorem utf8_step_sound (bs : List Nat) (hb : AllBytes bs) (v n : Nat) (h : decodeStep bs = .val v n) :
    n ≤ bs.length ∧ 2 ≤ n ∧
      ((wellFormed (bs.take n) = true ∧ v = value (bs.take n) ∧ v ≤ 0x10FFFF) ∨ 0x10FFFF < v) :=
  decodeStep_sound bs hb v n h

/-- Whatever `transcodeFrom` returns normally is the UTF-16 form of a string of scalar values whose
UTF-8 encoding is exactly the consumed prefix: nothing ill-formed is ever decoded or skipped. -/
theorem utf8_decode_sound (src : List Nat) (hb : AllBytes src) (m : Nat) (c sz : List Nat) (e : Nat)
    (h : transcodeFrom src m = .ok c sz e) :
    ∃ ss rest, Scalars ss ∧ src = encodeAll ss ++ rest ∧ e = (encodeAll ss).length ∧ c = utf16All ss := by
  obtain ⟨ss, rest, h1, h2, h3, h4⟩ := run_sound (fromLoop_run _ _ _ _ _ _ (Nat.le_refl _)) hb h
  exact ⟨ss, rest, h1, h2, by simpa using h3, by simpa using h4⟩

/-- Every legal byte sequence is decoded completely and exactly (given room for the output). -/
theorem utf8_decode_complete (ss : List Nat) (hs : Scalars ss) (m : Nat) (hm : (utf16All ss).length ≤ m) :
    ∃ sz, transcodeFrom (encodeAll ss) m = .ok (utf16All ss) sz (encodeAll ss).length := by
  obtain ⟨sz, h⟩ := run_complete ss hs hm (fromLoop_run _ _ m [] [] 0 (Nat.le_refl _))
  exact ⟨sz, by simpa [transcodeFrom] using h⟩

/-- An exception is raised only for input that is not the encoding of a scalar string whose UTF-16 form fits in `m` units. -/
theorem utf8_exc_only_illformed (src : List Nat) (m : Nat) (e : Exc) (h : transcodeFrom src m = .exc e) :
    ¬ ∃ ss, Scalars ss ∧ src = encodeAll ss ∧ (utf16All ss).length ≤ m := by
  rintro ⟨ss, hs, rfl, hm⟩
  obtain ⟨sz, h'⟩ := utf8_decode_complete ss hs m hm
  rw [h'] at h; cases h

/-- Encoding yields exactly the legal byte sequence. -/
theorem utf8_encode_exact (thr : Bool) (ss : List Nat) (hs : Scalars ss) (room : Nat)
    (hr : (encodeAll ss).length ≤ room) (hne : utf16All ss ≠ []) (hroom : room ≠ 0) :
    transcodeTo (utf16All ss) room thr = .ok (encodeAll ss) (utf16All ss).length := by
  unfold transcodeTo
  have : ¬ (utf16All ss = [] ∨ room = 0) := by simp [hne, hroom]
  simp only [this, if_false]
  have := toLoop_complete thr ss (utf16All ss).length room [] 0 hs (Nat.le_refl _) hr
  simpa using this

/-- decode ∘ encode = id on every scalar string. -/
theorem utf8_roundtrip (thr : Bool) (ss : List Nat) (hs : Scalars ss) (room m : Nat)
    (hr : (encodeAll ss).length ≤ room) (hne : utf16All ss ≠ []) (hroom : room ≠ 0)
    (hm : (utf16All ss).length ≤ m) :
    ∃ bytes n sz, transcodeTo (utf16All ss) room thr = .ok bytes n ∧
      transcodeFrom bytes m = .ok (utf16All ss) sz bytes.length := by
  obtain ⟨sz, h⟩ := utf8_decode_complete ss hs m hm
  exact ⟨encodeAll ss, _, sz, utf8_encode_exact thr ss hs room hr hne hroom, h⟩

/-! ### single-byte code pages (Windows-1252, IBM037, IBM1047, IBM1140): generated tables -/
section ByteTables
open XV.Model.ByteCodec XV.Gen.ByteTables XV.Lemmas.ByteCodec

/-- shape facts of the generated tables: declared size = real size, keys strictly increasing (the
precondition of the binary search), first record (0,0), no undefined byte. -/
theorem bytetables_wellformed : ∀ t ∈ all,
    t.declaredToSize = t.toTable.length ∧ t.fromTable.length = 256 ∧ 0 < t.toTable.length ∧
    strictSorted (t.toTable.map (·.1)) = true ∧ t.toTable.getD 0 (1, 1) = (0, 0) ∧
    (∀ b, b < 256 → t.fromTable.getD b 0xFFFF ≠ 0xFFFF) :=
  fun t ht => (all_checked t ht).wellformed

/-- the do/while binary search of `xlatOneTo` is a dictionary lookup on every shipped table, for every unit -/
theorem xlatOneTo_is_lookup : ∀ t ∈ all, ∀ c, xlatOneTo t c = lookup t.toTable c := by
  intro t ht c
  obtain ⟨h1, _, h3, h4, h5, _⟩ := bytetables_wellformed t ht
  exact xlatOneTo_eq_lookup t h4 h1 h3 h5 c

/-- decode ∘ encode ∘ decode = decode for every byte of every table (the from/to tables are mutually
inverse up to bytes that decode to the same character; evaluation finds one such pair: bytes 0x15 and 0x25 of IBM1047
are both U+000A, which is written as 0x25) -/
theorem bytetables_roundtrip : ∀ t ∈ all, ∀ b, b < 256 →
    t.fromTable.getD (lookup t.toTable (t.fromTable.getD b 0xFFFF)) 0xFFFF = t.fromTable.getD b 0xFFFF :=
  fun t ht => (all_checked t ht).roundtrip

/-- every to-record whose character is decodable at all maps it to a byte that decodes back to it -/
theorem bytetables_to_consistent : ∀ t ∈ all, ∀ p ∈ t.toTable,
    p.2 < 256 ∧ p.1 < 65536 ∧ (p.1 ∈ t.fromTable → t.fromTable.getD p.2 0xFFFF = p.1) :=
  fun t ht => (all_checked t ht).to_consistent
end ByteTables

/-! ### fixed-width encodings (XMLUTF16Transcoder, XMLUCS4Transcoder, XML88591Transcoder) -/
section Fixed
open XV.Model.ByteCodec XV.Lemmas.ByteCodec

/-- UTF-16 LE/BE: decoding the encoding of any unit string gives it back, completely -/
theorem utf16_roundtrip (be : Bool) (us : List Nat) (h : ∀ u ∈ us, u < 65536) (m mb : Nat)
    (hm : us.length ≤ m) (hmb : 2 * us.length ≤ mb) :
    utf16To be us mb = .ok (us.flatMap (bytes16 be)) [] us.length ∧
    utf16From be (us.flatMap (bytes16 be)) m = .ok us (List.replicate us.length 2) (2 * us.length) := by
  constructor
  · unfold utf16To
    have : min us.length (mb / 2) = us.length := by omega
    simp [this]
  · unfold utf16From
    rw [flatMap_bytes16_length, units16_flatMap be us h]
    have e1 : 2 * us.length / 2 = us.length := by omega
    have e2 : min us.length m = us.length := by omega
    simp [e1, e2]

/-- UCS-4 LE/BE decodes the 4-byte form of every scalar string exactly -/
theorem ucs4_decode_exact (be : Bool) (ss : List Nat) (hs : Scalars ss) (m : Nat) (hm : (utf16All ss).length ≤ m) :
    ∃ sz, ucs4From be (ss.flatMap (bytes32 be)) m = .ok (utf16All ss) sz (4 * ss.length) := by
  unfold ucs4From
  rw [vals32_flatMap be ss (fun v hv => by have := hs v hv; unfold isScalar at this; omega)]
  obtain ⟨sz, h⟩ := ucs4FromLoop_scalars ss m [] [] 0 (fun s h => (hs s h).1) hm
  exact ⟨sz, by simpa using h⟩

/-- UCS-4 LE/BE encodes every scalar string as its 4-byte values in the stated byte order (supplementary
characters included — false of the unrepaired code for the non-host order) -/
theorem ucs4_encode_exact (be : Bool) (ss : List Nat) (hs : Scalars ss) (mb : Nat) (hmb : 4 * ss.length ≤ mb) :
    ucs4To be (utf16All ss) mb = .ok (ss.flatMap (bytes32 be)) [] (utf16All ss).length := by
  unfold ucs4To
  have := ucs4ToLoop_scalars be ss (utf16All ss).length (mb / 4) [] 0 hs (Nat.le_refl _) (by omega)
  simpa using this

/-- a UCS-4 value above U+10FFFF is rejected, never decoded -/
theorem ucs4_rejects_out_of_range (v : Nat) (hv : 0x10FFFF < v) (rest : List Nat) (room : Nat) (hr : room ≠ 0)
    (out sizes : List Nat) (eaten : Nat) :
    ucs4FromLoop (v :: rest) room out sizes eaten = .exc "Trans_BadSrcSeq" := by
  unfold ucs4FromLoop
  have h2 : v ≥ 65536 := by omega
  simp [hr, h2, hv]

/-- ISO-8859-1: units below 256 are written as themselves (for either unrepresentable-option) and read back -/
theorem latin1_roundtrip (cs : List Nat) (h : ∀ c ∈ cs, c < 256) (m : Nat) (hm : cs.length ≤ m) (thr : Bool) :
    latin1To cs m thr = .ok cs [] cs.length ∧ latin1From cs m = .ok cs (List.replicate cs.length 1) cs.length := by
  constructor
  · exact XV.Lemmas.Ascii.narrowTo_good 256 m thr h hm
  · unfold latin1From; simp [Nat.min_eq_left hm]
end Fixed

/-! ### US-ASCII (XMLASCIITranscoder) -/
section Ascii
open XV.Model.ByteCodec XV.Model.CodecStream XV.Spec.Ascii XV.Lemmas.Ascii

/-- One `transcodeFrom` call (block semantics).  A normal return delivers exactly the first `e` source
bytes, unchanged, one character per byte, all of them legal, `bytesEaten` = number of characters; it
stops short of `min maxChars srcCount` only directly in front of an illegal byte and only when more than
32 characters are already done (the deferred error).  A throw happens only for an illegal byte at an
index ≤ 32 of the block. -/
theorem ascii_block_exact (src : List Nat) (m : Nat) :
    (∀ o sz e, asciiFrom src m = .ok o sz e →
        o = src.take e ∧ sz = List.replicate e 1 ∧ e ≤ min m src.length ∧ AllLegal o ∧
        (e < min m src.length → 32 < e ∧ ¬ legal (src.getD e 0))) ∧
    (∀ n, asciiFrom src m = .exc n →
        n = "Trans_Unrepresentable" ∧ ∃ i, i ≤ 32 ∧ i < min m src.length ∧ AllLegal (src.take i) ∧ ¬ legal (src.getD i 0)) := by
  obtain ⟨g, r, rfl, hc⟩ := cut src
  have hlen : (g ++ r).length = g.length + r.length := List.length_append
  have hr : ¬ r = [] → 0 < r.length := List.length_pos_iff.2
  rw [asciiFrom_cut hc]
  split
  · rename_i hstop
    refine ⟨fun o sz e h => ?_, nofun⟩
    cases h
    refine ⟨(List.take_append_of_le_length (Nat.min_le_right _ _)).symm, rfl, by omega,
      fun x hx => hc.1 x (List.mem_of_mem_take hx), fun hlt => ?_⟩
    -- short of both bounds: the call stopped in front of `r`, so more than 32 are done
    have hne : r ≠ [] := fun h => by subst h; rw [List.length_nil] at hlen; omega
    have h32 : 32 < g.length := hstop.resolve_left fun h => h.elim (by omega) hne
    rw [Nat.min_eq_right (by omega)]
    exact ⟨h32, hc.bad hne⟩
  · rename_i hthrow
    refine ⟨nofun, fun n h => ?_⟩
    cases h
    have hne : r ≠ [] := fun h => hthrow (.inl (.inr h))
    have := hr hne
    exact ⟨rfl, g.length, by omega, by omega, by rw [List.take_left']; exact hc.1; rfl, hc.bad hne⟩

/-- Whole-input decoding (repeated calls on the unconsumed rest, any buffer size `blk ≥ 1` and room
`m ≥ 1` per call), judged by the Spec.  If every byte is legal the stream delivers exactly the input.
Otherwise, with `off` the Spec's offset of the first illegal byte, the stream ends with the exception,
raised by the call that started at byte offset `pos` with `pos ≤ off ≤ pos + 32`, and what was delivered
before is exactly the first `pos` bytes: delivered characters and error position account for every input
byte up to the illegal one — no byte is skipped, none behind the illegal byte is delivered. -/
theorem ascii_decode_exact (src : List Nat) (blk m : Nat) (hblk : 1 ≤ blk) (hm : 1 ≤ m) :
    (∀ cs, XV.Spec.Ascii.decode src = (cs, none) → cs = src ∧ asciiStream blk m src = .done src) ∧
    (∀ cs off, XV.Spec.Ascii.decode src = (cs, some off) →
        cs = src.take off ∧ off < src.length ∧ ¬ legal (src.getD off 0) ∧
        ∃ pos, pos ≤ off ∧ off ≤ pos + 32 ∧
          asciiStream blk m src = .exc (src.take pos) pos "Trans_Unrepresentable") := by
  obtain ⟨g, r, rfl, hc⟩ := cut src
  have hlen : (g ++ r).length = g.length + r.length := List.length_append
  obtain ⟨k, hk1, hk2, hk3⟩ := stream_cut blk m hm hblk ((g ++ r).length + 1) g r [] 0 hc (by omega)
  rw [List.nil_append, List.nil_append, Nat.zero_add] at hk3
  -- the Spec's two outcomes are the two shapes of `r`
  match r, hc with
  | [], hc =>
    rw [List.append_nil] at hk3 ⊢
    rw [decode_legal g hc.1]
    exact ⟨fun cs h => by cases h; exact ⟨rfl, hk3⟩, nofun⟩
  | b :: r, hc =>
    rw [decode_illegal g b r hc.1 (hc.2 b rfl)]
    refine ⟨nofun, fun cs off h => ?_⟩
    cases h
    exact ⟨(List.take_left' rfl).symm, by rw [List.length_cons] at hlen; omega, hc.bad (List.cons_ne_nil _ _),
      k, hk1, hk2, by rw [List.take_append_of_le_length hk1]; exact hk3⟩

/-- decode ∘ encode = id on every US-ASCII string: `transcodeTo` writes the code points as bytes (for
either unrepresentable-option), and those bytes decode — in one call with enough room, and as a stream
with any block size — to the same string. -/
theorem ascii_roundtrip (cs : List Nat) (h : ∀ c ∈ cs, c < 0x80) (m mb blk m' : Nat) (hm : cs.length ≤ m)
    (hmb : cs.length ≤ mb) (hblk : 1 ≤ blk) (hm' : 1 ≤ m') (thr : Bool) :
    XV.Spec.Ascii.encode cs = some cs ∧ asciiTo cs mb thr = .ok cs [] cs.length ∧
    asciiFrom cs m = .ok cs (List.replicate cs.length 1) cs.length ∧ asciiStream blk m' cs = .done cs := by
  have hl : AllLegal cs := h
  refine ⟨?_, ?_, ?_, ?_⟩
  · unfold XV.Spec.Ascii.encode
    have : cs.all (· < 0x80) = true := by simpa using h
    simp [this]
  · exact narrowTo_good 128 mb thr h hmb
  · have := asciiFrom_cut (.nil hl) m
    rwa [List.append_nil, if_pos (.inl (.inr rfl)), Nat.min_eq_right hm, List.take_length] at this
  · exact ((ascii_decode_exact cs blk m' hblk hm').1 cs (decode_legal cs hl)).2

-- `hg` is not needed: the call throws whatever precedes the unit
set_option linter.unusedVariables false in
/-- What `transcodeTo` does with a unit that US-ASCII cannot represent (≥ 0x80), as the code has it:
with UnRep_Throw the call throws Trans_Unrepresentable (whatever precedes the unit within the call); with
UnRep_RepChar every such unit becomes the substitute 0x1A and everything else is written unchanged.
`canTranscodeTo` is exactly the Spec's legality.  `g`, `c`, `r` and `hmb` serve the first and the last conjunct (the
Spec's `encode` refuses the string); the second is about any `us`. -/
theorem ascii_unrepresentable (g : List Nat) (c : Nat) (r : List Nat) (mb : Nat) (hg : ∀ x ∈ g, x < 0x80) (hc : ¬ c < 0x80)
    (hmb : g.length < mb) (us : List Nat) :
    asciiTo (g ++ c :: r) mb true = .exc "Trans_Unrepresentable" ∧
    asciiTo us mb false = .ok ((us.take mb).map (fun u => if u < 0x80 then u else 0x1A)) [] (min us.length mb) ∧
    (∀ u, asciiCan u = true ↔ legal u) ∧ XV.Spec.Ascii.encode (g ++ c :: r) = none := by
  refine ⟨?_, ?_, ?_, ?_⟩
  · have hin : c ∈ (g ++ c :: r).take mb :=
      List.mem_take_iff_getElem.2 ⟨g.length, by rw [List.length_append, List.length_cons]; omega, by simp⟩
    exact (narrowTo_eq ..).trans (if_pos ⟨rfl, c, hin, hc⟩)
  · exact (narrowTo_eq ..).trans (if_neg (nomatch ·.1))
  · intro u; simp [asciiCan, legal]
  · unfold XV.Spec.Ascii.encode
    have : (g ++ c :: r).all (· < 0x80) = false := by
      rw [List.all_eq_false]; exact ⟨c, by simp, by simpa using hc⟩
    simp [this]

/-- The reader model of C04 (`XV.Model.Reader.decAscii`, the block function `XMLReader::xcodeMoreChars` is
proved against) is this same function: what C04 proves about the reader's US-ASCII pipeline rests on the
block semantics stated above. -/
theorem ascii_model_eq_reader_model (src : List Nat) (m : Nat) :
    XV.Lemmas.AsciiReader.ofReader (XV.Model.Reader.decAscii src m) = asciiFrom src m := by
  rw [asciiFrom_eq, XV.Lemmas.AsciiReader.go_eq_asciiLoop src m []]
  unfold XV.Model.Reader.decAscii
  cases XV.Model.Reader.asciiLoop src m 0 <;> simp [XV.Lemmas.AsciiReader.ofReader, XV.Model.Utf8.Exc.name]
end Ascii

/-! ### encoding detection (XML 1.0 Appendix F) -/
section Probe
open XV.Model.Recognizer XV.Gen.Recognizer XV.Lemmas.Recognizer

/-- the recogniser's byte prefixes are exactly `<?xml ` in each encoding family (EBCDIC via the IBM037 table) -/
theorem probe_prefixes_are_encodings :
    fgASCIIPre = declText ∧
    fgUTF16BPre = declText.flatMap (XV.Model.ByteCodec.bytes16 true) ∧ fgUTF16LPre = declText.flatMap (XV.Model.ByteCodec.bytes16 false) ∧
    fgUCS4BPre = declText.flatMap (XV.Model.ByteCodec.bytes32 true) ∧ fgUCS4LPre = declText.flatMap (XV.Model.ByteCodec.bytes32 false) ∧
    fgEBCDICPre = declText.map (XV.Model.ByteCodec.lookup XV.Gen.ByteTables.toEbcdic037) ∧ fgUTF8BOM = [0xEF, 0xBB, 0xBF] := by decide +kernel

/-- any text that begins with the XML declaration opener in family E is sensed as E, whatever follows; for EBCDIC
something has to follow (`rawByteCount > fgEBCDICPreLen` in the code) -/
theorem probe_eq_appendixF_decl (rest : List Nat) :
    basicEncodingProbe (fgASCIIPre ++ rest) = .UTF_8 ∧ basicEncodingProbe (fgUTF16BPre ++ rest) = .UTF_16B ∧
    basicEncodingProbe (fgUTF16LPre ++ rest) = .UTF_16L ∧ basicEncodingProbe (fgUCS4BPre ++ rest) = .UCS_4B ∧
    basicEncodingProbe (fgUCS4LPre ++ rest) = .UCS_4L ∧ (rest ≠ [] → basicEncodingProbe (fgEBCDICPre ++ rest) = .EBCDIC) :=
  -- every test of the probe is settled by the bytes that are written out, so it evaluates with `rest` open; only the
  -- EBCDIC test reads a length
  ⟨rfl, rfl, rfl, rfl, rfl, fun h => match rest, h with | _ :: _, _ => rfl⟩

/-- any text that begins with a byte-order mark is sensed as the family of that mark, as the code decides it: `FE FF`
is UTF-16BE whatever follows (also before `00 00`, which Appendix F lists as UCS-4 in an unusual octet order), and the
UTF-8 mark is not tested for — UTF-8 is the answer when no test succeeds -/
theorem probe_eq_appendixF_bom (x y : Nat) (rest : List Nat) :
    basicEncodingProbe ([0x00, 0x00, 0xFE, 0xFF] ++ rest) = .UCS_4B ∧
    basicEncodingProbe ([0xFF, 0xFE, 0x00, 0x00] ++ rest) = .UCS_4L ∧
    basicEncodingProbe ([0xFE, 0xFF, x, y] ++ rest) = .UTF_16B ∧
    (¬ (x = 0 ∧ y = 0) → basicEncodingProbe ([0xFF, 0xFE, x, y] ++ rest) = .UTF_16L) ∧
    basicEncodingProbe ([0xEF, 0xBB, 0xBF] ++ rest) = .UTF_8 := by
  refine ⟨rfl, rfl, rfl, fun h => ?_, ?_⟩
  · -- evaluation stops at the test for the UCS-4 mark FF FE 00 00
    show (if _ ∧ _ ∧ x = 0 ∧ y = 0 then Enc.UCS_4L else _) = _
    exact (if_neg (fun h' => h h'.2.2)).trans rfl
  · match rest with
    | [] => rfl
    | _ :: _ =>
      -- evaluation stops at the last test, on the length; the prefix beside it fails on the first byte
      show (if _ ∧ hasPrefix fgEBCDICPre _ = true then Enc.EBCDIC else _) = _
      exact if_neg (fun h => Bool.false_ne_true h.2)
end Probe

/-! Non-vacuity: the hypotheses are met by concrete non-trivial data. -/
example : Scalars [0x41, 0xE9, 0x20AC, 0x1F600] ∧ encodeAll [0x41, 0xE9, 0x20AC, 0x1F600]
    = [0x41, 0xC3, 0xA9, 0xE2, 0x82, 0xAC, 0xF0, 0x9F, 0x98, 0x80] := by
  constructor
  · intro s hs; simp at hs; rcases hs with rfl | rfl | rfl | rfl <;> decide
  · decide
example : wellFormed [0xF4, 0x8F, 0xBF, 0xBF] = true ∧ wellFormed [0xED, 0xA0, 0x80] = false
    ∧ wellFormed [0xC0, 0x80] = false ∧ wellFormed [0xF4, 0x90, 0x80, 0x80] = false := by decide
example : transcodeFrom [0x41, 0xC3, 0xA9, 0xF0, 0x9F, 0x98, 0x80] 8 = .ok [0x41, 0xE9, 0xD83D, 0xDE00] [1, 2, 4, 0] 7 := by
  decide
example : transcodeFrom [0xED, 0xA0, 0x80] 8 = .exc .irregular3 := by decide

example : XV.Model.ByteCodec.ucs4To true (utf16All [0x41, 0x1F600]) 8 = .ok [0, 0, 0, 0x41, 0, 1, 0xF6, 0] [] 3 := by decide
example : XV.Model.Recognizer.basicEncodingProbe [0xFF, 0xFE, 0x3C, 0x00] = .UTF_16L := by decide

section AsciiExamples
open XV.Model.ByteCodec XV.Model.CodecStream

-- US-ASCII: a bad byte at index 40 of a block is not thrown by that call (deferred) but by the next one
example : asciiFrom (List.replicate 40 0x41 ++ [0xE9, 0x42]) 64 = .ok (List.replicate 40 0x41) (List.replicate 40 1) 40 := by decide
example : asciiFrom ([0xE9, 0x42]) 64 = .exc "Trans_Unrepresentable" := by decide
example : asciiStream 64 64 (List.replicate 40 0x41 ++ [0xE9, 0x42]) = .exc (List.replicate 40 0x41) 40 "Trans_Unrepresentable" ∧
    XV.Spec.Ascii.decode (List.replicate 40 0x41 ++ [0xE9, 0x42]) = (List.replicate 40 0x41, some 40) := by decide
example : asciiStream 64 64 (List.replicate 20 0x41 ++ [0x80]) = .exc [] 0 "Trans_Unrepresentable" ∧
    asciiStream 16 7 (List.replicate 20 0x41 ++ [0x80]) = .exc (List.replicate 14 0x41) 14 "Trans_Unrepresentable" := by decide
example : asciiStream 16 5 [0x3C, 0x61, 0x3E, 0x7F, 0x00, 0x41, 0x42] = .done [0x3C, 0x61, 0x3E, 0x7F, 0x00, 0x41, 0x42] := by decide
example : asciiTo [0x41, 0xE9, 0x42] 8 false = .ok [0x41, 0x1A, 0x42] [] 3 ∧ asciiTo [0x41, 0xE9, 0x42] 8 true = .exc "Trans_Unrepresentable" := by decide
end AsciiExamples

end XV.Props.C05
