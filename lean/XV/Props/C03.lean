/-
C03 — reported content equals the document's infoset; SAX, SAX2, DOM, DOMLSParser and progressive parse agree.

Spec: XV.Spec.Infoset (`infoset : Doc → List Event` over C02's `Doc`, the adapters).  Model: XV.Model.Normalize
(code-shaped `XMLReader::getNextChar/handleEOL`, `IGXMLScanner::normalizeAttValue/normalizeAttRawValue`,
`XMLScanner::scanCharRef` result).  What holds of the Spec by itself is in XV.Lemmas.Infoset; here it is tied to the model
and to C02's parser, and `filterEvents` to the tree filter (`filterEvents_walk`, stated with this file's `wfNode`/`wfForest`).
Which texts, values and documents a theorem covers is in its hypotheses (`litsOk`, `WF`, `entOnlyDoc`); a fuel hypothesis
asks for enough fuel and bounds no input.  The model's character constants `cCR cLF cNEL cLS cTab cSpace` (generated,
XV.Gen.NormConsts) and the Spec's `chCR chLF chNEL chLS`, `'\t'`, `' '` are the same characters by evaluation: statements
use either family and the proofs pass between them by `rfl`.
-/
import XV.Spec.Infoset
import XV.Model.Normalize
import XV.Props.C02
import XV.Lemmas.Infoset
namespace XV.Props.C03
open XV.Spec.Xml XV.Spec.Infoset XV.Lemmas.Xml XV.Lemmas.Infoset
open XV.Model.Normalize hiding Str

theorem eolFrom_nil (v p) : eolFrom v p [] = [] := rfl

theorem readFuel_cons {c : Char} {buf : Str} {more : List Str} {f : Nat} (h : readFuel (c :: buf) more ≤ f + 1) :
    readFuel buf more ≤ f := by
  rw [readFuel, List.length_cons, Nat.add_right_comm _ 1, Nat.add_right_comm _ 1] at h
  exact Nat.le_of_succ_le_succ h

theorem readFuel_refill {b : Str} {more : List Str} {f : Nat} (h : readFuel [] (b :: more) ≤ f + 1) :
    readFuel b more ≤ f := by
  rw [readFuel, List.map_cons, List.sum_cons, List.length_nil, Nat.zero_add, Nat.add_right_comm _ 1] at h
  exact Nat.le_of_succ_le_succ h

/-- the text that the loads still to come hold: an empty load is how `refreshCharBuffer()` reports the end of input -/
def loads : List Str → Str
  | [] => []
  | b :: more => if b = [] then [] else b ++ loads more

theorem loads_eq_flatten : ∀ {more : List Str}, (∀ b ∈ more, b ≠ []) → loads more = more.flatten
  | [], _ => rfl
  | b :: more, h => by
    have ⟨hb, hm⟩ := List.forall_mem_cons.1 h
    rw [loads, if_neg hb, loads_eq_flatten hm]; rfl

theorem readChars_eq (nel : Bool) : ∀ (fuel : Nat) (buf : Str) (more : List Str), readFuel buf more ≤ fuel →
    readChars nel fuel buf more = eol nel (buf ++ loads more) := by
  intro fuel
  induction fuel with
  | zero => intro buf more hf; exact absurd hf (Nat.not_succ_le_zero _)
  | succ f ih =>
    -- a CR and the character `d` it looks ahead to, once that character is in the buffer
    have cr : ∀ d x y, readFuel (d :: x) y ≤ f →
        readChars nel (f + 1) (chCR :: d :: x) y = eol nel (chCR :: d :: x ++ loads y) := by
      intro d x y hf
      have h1 := ih x y (readFuel_cons (Nat.le_succ_of_le hf))
      have h2 := ih (d :: x) y hf
      rw [eol] at h1 h2
      rw [eol, List.cons_append, List.cons_append, eolFrom_cr, eolFrom_true, readChars.eq_4,
        if_pos (show (chCR == cCR) = true from rfl)]
      show (if d == chLF || (d == chNEL && nel) then _ else _) = _
      split
      · rw [h1]; rfl
      · rw [h2]; rfl
    intro buf more hf
    cases buf with
    | nil =>
      cases more with
      | nil => rfl
      | cons b more =>
        rw [readChars, loads]
        split
        · rfl
        · exact ih b more (readFuel_refill hf)
    | cons c x =>
      cases hc : c == chCR with
      | true =>
        cases eq_of_beq hc
        cases x with
        | cons d x => exact cr d x more (readFuel_cons hf)
        | nil =>
          cases more with
          | nil => rfl
          | cons b y =>
            cases b with
            | nil => rfl
            | cons d x =>
              -- the look-ahead refills the buffer: the same step as with `d` already there
              exact cr d x y (readFuel_refill (Nat.le_succ_of_le (readFuel_cons hf)))
      | false =>
        have h := ih x more (readFuel_cons hf)
        rw [eol] at h
        rw [eol, List.cons_append, eolFrom_false _ _ _ hc, ← h, readChars.eq_def]
        exact if_neg (ne_true_of_eq_false hc)

/-- **eol_model_eq_spec.**  The reader (`getNextChar` + `handleEOL`, with the look-ahead after a CR possibly crossing a
    buffer refill) hands out exactly the §2.11 normalisation of the entity text, for every text, every way of cutting
    it into non-empty buffer loads, XML 1.0 and 1.1. -/
theorem eol_model_eq_spec (nel : Bool) : ∀ (fuel : Nat) (buf : Str) (more : List Str),
    (∀ b ∈ more, b ≠ []) → readFuel buf more ≤ fuel →
    readChars nel fuel buf more = eol nel (buf ++ more.flatten) :=
  fun fuel buf more hne hf => loads_eq_flatten hne ▸ readChars_eq nel fuel buf more hf

/-- `fCurLine` counts the line ends among the characters handed out (whatever the fuel and the buffer loads) -/
theorem countLines_eq (nel : Bool) (fuel : Nat) (buf : Str) (more : List Str) (line : Nat) :
    countLines nel fuel buf more line = line + countLF (readChars nel fuel buf more) := by
  have lf : ∀ r, countLF (cLF :: r) = 1 + countLF r := fun _ => rfl
  -- `countLines` is `readChars` with a counter in place of the output.  Along the recursion of the one the other takes
  -- the same branches (its tests are among the hypotheses `*`, as are the induction hypothesis and `lf`): a branch hands
  -- out nothing, or `cLF` with the counter bumped, or, in the two cases left over, the character read.
  fun_induction countLines nel fuel buf more line <;>
    simp only [readChars, *, if_true, if_false, Bool.false_eq_true, countLF.eq_1, Nat.add_assoc, Nat.add_zero]
  next h _ =>  -- an LF
    cases eq_of_beq h
    split <;> rfl
  next h _ _ =>  -- no line end
    rw [countLF, if_neg (show ¬ (_ == chLF) = true from h), Nat.zero_add]

/-- **eol_lines_model_eq_spec.**  `fCurLine` as maintained by `handleEOL` (incremented in the CR, LF and NEL/LS cases,
    with the CR look-ahead possibly crossing a refill) = the declarative count: start value + number of line ends of the
    normalised text. -/
theorem eol_lines_model_eq_spec (nel : Bool) : ∀ (fuel : Nat) (buf : Str) (more : List Str) (line : Nat),
    (∀ b ∈ more, b ≠ []) → readFuel buf more ≤ fuel →
    countLines nel fuel buf more line = line + countLF (eol nel (buf ++ more.flatten)) := by
  intro fuel buf more line hne hf
  rw [countLines_eq, eol_model_eq_spec nel fuel buf more hne hf]

/-- **eol_idempotent.**  Normalised text is a fixed point of the normalisation. -/
theorem eol_idempotent (v : Bool) (s : Str) : eol v (eol v s) = eol v s :=
  eolFrom_of_clean v _ (eolFrom_clean v s false)

/-- the normalised text contains no CR, and under 1.1 no NEL and no LS -/
theorem eol_no_cr (v : Bool) (s : Str) : ∀ c ∈ eol v s, c ≠ chCR ∧ (v = true → c ≠ chNEL ∧ c ≠ chLS) :=
  eolFrom_clean v s false

theorem feed_nil (v : Bool) (st : LineSt) : st.feed v [] = st := rfl

theorem feed_append' (v : Bool) : ∀ (a b : Str) (st : LineSt), st.feed v (a ++ b) = (st.feed v a).feed v b :=
  feed_append v

/-- the incremental line counter of the Spec (the shape of `fCurLine` maintenance) agrees with the declarative
    "1 + number of line ends of the normalised text" -/
theorem feed_init_line (v : Bool) (s : Str) : (LineSt.init.feed v s).line = lineOf v s := feed_spec v s _

/-- the raw value buffer that `basicAttrValueScan` hands to the normalisers: a character that came from a reference is
    preceded by the escape marker -/
def encode : List VTok → Str
  | [] => []
  | .lit c :: t => c :: encode t
  | .ref c :: t => cEsc :: c :: encode t

/-- what holds for the literal characters of a value read from the document entity: the marker itself is not among
    them (U+FFFF is not an XML character), and under XML 1.1 (`nel`) neither are NEL and LS (they were normalised to
    LF on input; they can only come back through references — or, the one case this hypothesis leaves out, through the
    replacement text of an internal entity declared with such a reference) -/
def litsOk (nel : Bool) (v : List VTok) : Prop :=
  ∀ c, VTok.lit c ∈ v → c ≠ cEsc ∧ (nel = true → c ≠ cNEL ∧ c ≠ cLS)

theorem isS4_eq_isWs (c : Char) : isS4 c = isWs c := rfl

theorem readerWs_eq_isWs (nel : Bool) (c : Char) (h : nel = true → c ≠ cNEL ∧ c ≠ cLS) : readerIsWhitespace nel c = isWs c := by
  rw [readerIsWhitespace, ← isS4_eq_isWs, isS4]
  cases nel with
  | false => exact Bool.or_false _
  | true => rw [beq_eq_false_iff_ne.2 (h rfl).1, beq_eq_false_iff_ne.2 (h rfl).2]; exact Bool.or_false _

/-- induction over a value whose literals are as `litsOk` says: all the normalisers see of a literal `c` is that it is
    not the marker and that the reader's white-space test agrees with `isWs` on it -/
theorem litsOk_induction {nel : Bool} {P : List VTok → Prop} (nil : P []) (ref : ∀ c t, P t → P (.ref c :: t))
    (lit : ∀ c t, ¬ (c == cEsc) = true → readerIsWhitespace nel c = isWs c → P t → P (.lit c :: t)) :
    ∀ v, litsOk nel v → P v
  | [], _ => nil
  | .ref c :: t, h => ref c t (litsOk_induction nil ref lit t fun d hd => h d (List.mem_cons_of_mem _ hd))
  | .lit c :: t, h =>
    lit c t (fun e => (h c List.mem_cons_self).1 (eq_of_beq e)) (readerWs_eq_isWs nel c (h c List.mem_cons_self).2)
      (litsOk_induction nil ref lit t fun d hd => h d (List.mem_cons_of_mem _ hd))

theorem cdata_char (c : Char) (l : Str) :
    (if c == cTab || c == cLF || c == cCR then cSpace :: l else c :: l) = (if isWs c then ' ' else c) :: l := by
  cases h : c == ' ' with
  | true => rw [eq_of_beq h]; rfl
  | false =>
    have : isWs c = (c == cTab || c == cLF || c == cCR) := by rw [isWs, h, Bool.false_or]; rfl
    rw [this]
    cases c == cTab || c == cLF || c == cCR <;> rfl

theorem normCData_encode (nel : Bool) : ∀ (v : List VTok), litsOk nel v → normCData (encode v) = step3 v :=
  litsOk_induction rfl (fun c _ ih => congrArg (c :: ·) ih) fun c t hc _ ih => by
    rw [encode, step3, ← ih, ← cdata_char, normCData.eq_def]
    exact if_neg hc

theorem normTokenized_encode (nel : Bool) : ∀ (v : List VTok), litsOk nel v → ∀ inWs fnw,
    normTokenized true nel inWs fnw (encode v) = mach inWs fnw (step3 v) := by
  refine litsOk_induction (fun _ _ => rfl) (fun c t ih inWs fnw => ?_) fun c t hc hws ih inWs fnw => ?_
  · rw [encode, step3, mach, ← ih, ← ih]; rfl
  · rw [encode, step3, mach, ← ih, ← ih, normTokenized.eq_def]
    show (if c == cEsc then _ else _) = _
    rw [if_neg hc, show tokWs true nel false c = isWs c from hws]
    cases hw : isWs c with
    | true => rfl
    | false =>
      have : (c == ' ') = false := by
        cases hs : c == ' ' with
        | false => rfl
        | true => rw [eq_of_beq hs] at hw; exact hw
      simp only [Bool.false_eq_true, if_false, this, bne, Bool.not_false]
      rfl

/-- **attnorm_model_eq_spec.**  `IGXMLScanner::normalizeAttValue` (after the repair: `fixed := true`), run on the raw
    buffer with its 0xFFFF escape markers, computes the §3.3.3 normal form — for every declared type (the numeric
    `XMLAttDef::AttTypes` value; CDATA and the schema types take the CDATA branch), every value that `litsOk` admits,
    XML 1.0 and 1.1. -/
theorem attnorm_model_eq_spec (nel : Bool) (ty : Nat) (v : List VTok) (h : litsOk nel v) :
    normalizeAttValue true nel ty (encode v) = attNorm (isCDataBranch ty) v := by
  rw [normalizeAttValue, attNorm, normCData_encode nel v h, normTokenized_encode nel v h, mach_init]

/-- `IGXMLScanner::normalizeAttRawValue` (undeclared attributes) computes the CDATA normal form -/
theorem attnorm_raw_model_eq_spec (nel : Bool) : ∀ (v : List VTok), litsOk nel v →
    normalizeAttRawValue nel (encode v) = attNorm true v :=
  litsOk_induction rfl (fun c _ ih => congrArg (c :: ·) ih) fun c t hc hws ih => by
    rw [encode, normalizeAttRawValue.eq_def]
    show (if c == cEsc then _ else _) = _
    rw [if_neg hc, hws, show normalizeAttRawValue nel (encode t) = step3 t from ih]
    rfl

/-- **attnorm_asis_deviates.**  The code as it stands (`fixed := false`) does NOT compute the §3.3.3 normal form: for a
    tokenised type it drops a line feed that was written as `&#10;` (the Recommendation keeps it: "the normalized value
    contains the referenced character itself").  Witness: NMTOKENS value `&#10;A`. -/
theorem attnorm_asis_deviates :
    normalizeAttValue false false XV.Gen.NormConsts.attNmTokens (encode [.ref '\n', .lit 'A']) ≠
      attNorm (isCDataBranch XV.Gen.NormConsts.attNmTokens) [.ref '\n', .lit 'A'] := by decide +kernel

/-- **attnorm_idempotent_tokenized.**  For a non-CDATA type the normal form is a fixed point: fed back as already
    resolved characters it is returned unchanged (an application may re-normalise a reported value). -/
theorem attnorm_idempotent_tokenized (v : List VTok) :
    attNorm false ((attNorm false v).map VTok.ref) = attNorm false v := by
  have h : ∀ s : Str, step3 (s.map VTok.ref) = s := by
    intro s; induction s with
    | nil => rfl
    | cons c t ih => exact congrArg (c :: ·) ih
  show collapse (step3 _) = _
  rw [h]
  exact collapse_idem _

/-- **charref_units_spec.**  The one or two code units that `scanCharRef` returns are the UTF-16 form of the value:
    a value up to #xFFFD is returned as itself (whether it is a Char is tested apart); a supplementary value as the
    surrogate pair that decodes to it. -/
theorem charref_units_spec (v hi lo : Nat) (h : charRefUnits v = some (hi, lo)) :
    (lo = 0 ∧ hi = v ∧ v ≤ 0xFFFD) ∨
    (0xD800 ≤ hi ∧ hi ≤ 0xDBFF ∧ 0xDC00 ≤ lo ∧ lo ≤ 0xDFFF ∧ 0x10000 + (hi - 0xD800) * 1024 + (lo - 0xDC00) = v) := by
  unfold charRefUnits at h
  split at h
  next hv =>
    cases h
    -- `v - 0x10000 < 2^20` is split into quotient and remainder by `2^10`
    have h1 := Nat.div_add_mod' (v - 0x10000) 1024
    have h2 := Nat.mod_lt (v - 0x10000) (show 0 < 1024 by decide)
    have h3 : (v - 0x10000) / 1024 < 1024 :=
      Nat.div_lt_of_lt_mul (Nat.sub_lt_left_of_lt_add hv.1 (Nat.lt_succ_of_le hv.2))
    refine Or.inr ⟨Nat.le_add_left .., Nat.add_le_add_right (Nat.le_of_lt_succ h3) _, Nat.le_add_left ..,
      Nat.add_le_add_right (Nat.le_of_lt_succ h2) _, ?_⟩
    rw [Nat.add_sub_cancel, Nat.add_sub_cancel, Nat.add_assoc, h1]
    exact Nat.add_sub_cancel' hv.1
  · split at h
    next hv => cases h; exact Or.inl ⟨rfl, rfl, hv⟩
    · cases h

theorem Balanced.append {u w : List Event} (hu : Balanced u) (hw : Balanced w) : Balanced (u ++ w) :=
  XV.Lemmas.Infoset.Balanced.append hu hw

theorem Balanced.single (a : Event) (h1 : a.isOpen = false) (h2 : a.isClose = false) : Balanced [a] :=
  XV.Lemmas.Infoset.Balanced.single a h1 h2

theorem walkL_append (a b : List DNode) : DNode.walkL (a ++ b) = DNode.walkL a ++ DNode.walkL b :=
  XV.Lemmas.Infoset.walkL_append a b

/-- **dom_walk_build.**  Building the tree from a balanced event word and walking it gives the word back: the DOM
    adapter loses nothing (and invents nothing). -/
theorem dom_walk_build (e : List Event) (h : Balanced e) : domWalk (buildDom e) = e := by
  obtain ⟨t, ht, rfl⟩ := Balanced.forest h
  exact congrArg domWalk (buildDom_domWalk ht)

/-- **sax1_sax2_agree.**  Forgetting namespaces and the Lexical/Decl-handler events of the SAX2 view gives the SAX1 view
    (with or without namespace processing). -/
theorem sax1_sax2_agree (ns : Bool) (e : List Event) : erase (toSAX2 ns e) = toSAX1 e := by
  rw [erase, toSAX2, toSAX1, List.flatMap_assoc]
  exact congrArg (fun f => mergeSax1 (e.flatMap f)) (funext (erase_toSAX2One ns))

/-- **pull_eq_push.**  The `parseFirst` / `parseNext` loop delivers, piece by piece, exactly the stream of a one-shot
    `parse` (every piece is non-empty, so the loop ends after at most `e.length` steps). -/
theorem pull_eq_push (e : List Event) : (pullAll e).flatten = e := pull_flatten _ _ (Nat.le_refl _)

theorem pull_pieces_nonempty : ∀ (fuel : Nat) (es : List Event), ∀ p ∈ pull fuel es, p ≠ [] := by
  intro fuel
  induction fuel with
  | zero => intro es p hp; cases hp
  | succ f ih =>
    intro es p hp
    cases es with
    | nil => cases hp
    | cons e t =>
      rw [pull] at hp
      cases hp with
      | tail _ hp => exact ih _ p hp
      | head =>
        rw [nextChunk]
        split <;> exact List.cons_ne_nil _ _

theorem ignPush_toks_balanced (cx : Ctx) : (n : Node) → ∀ stack, (Node.toks n).foldl (ignPush cx) stack = stack :=
  ignPush_toks cx

mutual
theorem semNode_tagsMatch (v : XV.Spec.XmlChar.Version) : (n : Node) → semNode v n = true → tagsMatch n = true
  | .leaf _, _ => rfl
  | .empty _, _ => rfl
  | .elem t kids en ew, h => by
    simp only [semNode, Bool.and_eq_true] at h
    rw [tagsMatch, Bool.and_eq_true]
    exact ⟨h.1.1.2, semNodes_tagsMatch v kids h.2⟩
theorem semNodes_tagsMatch (v : XV.Spec.XmlChar.Version) : (ns : List Node) → semNodes v ns = true → tagsMatchL ns = true
  | [], _ => rfl
  | n :: ns, h => by
    rw [semNodes, Bool.and_eq_true] at h
    rw [tagsMatchL, Bool.and_eq_true]
    exact ⟨semNode_tagsMatch v n h.1, semNodes_tagsMatch v ns h.2⟩
end

theorem wf_tagsMatch (d : Doc) (h : WF d) : tagsMatch d.root = true := by
  have hb := XV.Props.C02.semDocBool_of_semOk h.2
  rw [semDocBool, Bool.and_eq_true, Bool.and_eq_true] at hb
  exact semNode_tagsMatch _ _ hb.1.2

def rootPrefix (d : Doc) : Str :=
  declText d ++ renderLeaves d.pre ++
    (match d.doctype with
     | none => []
     | some (dt, misc) => renderDoctype dt ++ renderLeaves misc)

/-- the shape of `rawEvents`: the events of the root element's tokens, computed at the position after the text before
    the root element, between the balanced events of prolog and epilog -/
theorem rawEvents_eq (d : Doc) : ∃ A B, Balanced A ∧ Balanced B ∧
    rawEvents d = .startDocument :: (A ++ contentEvents (docCtx d) (expandEntity (docCtx d) (docCtx d).depth) true []
      (LineSt.init.feed (docCtx d).v11 (rootPrefix d)) d.root.toks ++ B ++ [.endDocument]) := by
  have hx : Balanced (xmlDeclEvents d) := by
    unfold xmlDeclEvents
    split
    · exact Balanced.nil
    · exact Balanced.single _ rfl rfl
  unfold rawEvents rootPrefix
  -- `rawEvents` feeds the pieces of that text one after the other
  cases d.doctype with
  | none =>
    rw [List.append_nil, feed_append]
    exact ⟨_, _, Balanced.append (Balanced.append hx (miscEvents_balanced ..)) Balanced.nil, miscEvents_balanced .., rfl⟩
  | some p =>
    rw [feed_append, feed_append, feed_append]
    exact ⟨_, _, Balanced.append (Balanced.append hx (miscEvents_balanced ..))
      (Balanced.append (doctypeEvents_balanced ..) (miscEvents_balanced ..)), miscEvents_balanced .., rfl⟩

theorem rawEvents_balanced (d : Doc) (h : tagsMatch d.root = true) : Balanced (rawEvents d) := by
  obtain ⟨A, B, hA, hB, e⟩ := rawEvents_eq d
  rw [e]
  exact Balanced.wrap1 _ _ _ rfl rfl rfl
    (Balanced.append (Balanced.append hA (node_balanced _ _ (expandEntity_balanced _ _) true d.root h _ _)) hB)

/-- **events_wellnested.**  The infoset of a well-formed document is a balanced event word: document, DOCTYPE, element,
    CDATA and entity brackets nest properly and element end events carry the name of their start event — also through
    entity expansions of any depth and after the merging of adjacent character data. -/
theorem events_wellnested (d : Doc) (h : WF d) : Balanced (infoset d) :=
  mergeChars_balanced (rawEvents_balanced d (wf_tagsMatch d h))

theorem render_split (d : Doc) : render d = rootPrefix d ++ renderToks d.root.toks ++ renderLeaves d.post := by
  show declText d ++ renderToks d.toks = _
  rw [Doc.toks, rootPrefix, renderToks_append, renderToks_append, renderToks_append, renderToks_leaves, renderToks_leaves]
  cases d.doctype with
  | none => simp only [List.append_assoc]; rfl
  | some p => rw [renderToks, renderToks_leaves]; simp only [List.append_assoc]; rfl

/-- the events of the token at any position of the root element's token stream: those computed at the position "document
    text before it", under the element-content flag that the tokens before it leave on top of the stack -/
theorem rawEvents_tok (d : Doc) (pre post : List Tok) (t : Tok) (h : d.root.toks = pre ++ t :: post) :
    ∃ before after, rawEvents d = before ++
      tokEvents (docCtx d) (expandEntity (docCtx d) (docCtx d).depth) true
        ((pre.foldl (ignPush (docCtx d)) []).head?.getD false)
        (LineSt.init.feed (docCtx d).v11 (rootPrefix d ++ renderToks pre)) t ++ after := by
  obtain ⟨A, B, -, -, e⟩ := rawEvents_eq d
  have assoc : ∀ (a x y z b e : List Event), a ++ (x ++ (y ++ z)) ++ b ++ e = a ++ x ++ y ++ (z ++ b ++ e) := by
    intros; simp only [List.append_assoc]
  rw [e, h, contentEvents_append, contentEvents, if_pos rfl, ← feed_append, assoc]
  exact ⟨.startDocument :: _, _, rfl⟩

/-- **line_numbers_spec.**  For every token `t` of the root element's token stream, at any position: `rawEvents d`
    contains, as one contiguous piece, the events that `tokEvents` computes for `t` at the position "document text before
    it" (under some element-content flag; `rawEvents_tok` says which); and the line of the position after the token —
    the one `tokEvents` writes on a start tag, comment or PI (SAX Locator convention) — is `lineOf` of the document text up
    to and including the token, i.e. 1 + the number of line ends of the §2.11-normalised text.  The second half speaks of
    the two texts alone; the `line_of_*` corollaries put the halves together. -/
theorem line_numbers_spec (d : Doc) (pre post : List Tok) (t : Tok) (h : d.root.toks = pre ++ t :: post) :
    (∃ before after ign, rawEvents d = before ++
        tokEvents (docCtx d) (expandEntity (docCtx d) (docCtx d).depth) true ign
          (LineSt.init.feed (docCtx d).v11 (rootPrefix d ++ renderToks pre)) t ++ after) ∧
    ((LineSt.init.feed (docCtx d).v11 (rootPrefix d ++ renderToks pre)).feed (docCtx d).v11 (renderTok t)).line =
      lineOf (docCtx d).v11 (rootPrefix d ++ renderToks pre ++ renderTok t) :=
  have ⟨before, after, e⟩ := rawEvents_tok d pre post t h
  ⟨⟨before, after, _, e⟩, by rw [← feed_append, feed_init_line]⟩

/-- the line of a start tag = 1 + the normalised line ends of the document text up to its `>` -/
theorem line_of_start_tag (d : Doc) (pre post : List Tok) (tg : Tag) (h : d.root.toks = pre ++ .stag tg :: post) :
    ∃ before after, rawEvents d = before ++ [Event.startElement tg.name (tagAttrs (docCtx d) true tg)
      (lineOf (docCtx d).v11 (rootPrefix d ++ renderToks pre ++ renderTok (.stag tg)))] ++ after := by
  obtain ⟨⟨b, a, ign, hr⟩, hl⟩ := line_numbers_spec d pre post (.stag tg) h
  exact ⟨b, a, hr.trans (hl ▸ rfl)⟩

theorem line_of_comment (d : Doc) (pre post : List Tok) (s : Str) (h : d.root.toks = pre ++ .leaf (.comment s) :: post) :
    ∃ before after, rawEvents d = before ++ [Event.comment (eol (docCtx d).v11 s)
      (lineOf (docCtx d).v11 (rootPrefix d ++ renderToks pre ++ renderTok (.leaf (.comment s))))] ++ after := by
  obtain ⟨⟨b, a, ign, hr⟩, hl⟩ := line_numbers_spec d pre post (.leaf (.comment s)) h
  exact ⟨b, a, hr.trans (hl ▸ rfl)⟩

theorem line_of_pi (d : Doc) (pre post : List Tok) (tg sp dt : Str) (h : d.root.toks = pre ++ .leaf (.pi tg sp dt) :: post) :
    ∃ before after, rawEvents d = before ++ [Event.pi tg (eol (docCtx d).v11 dt)
      (lineOf (docCtx d).v11 (rootPrefix d ++ renderToks pre ++ renderTok (.leaf (.pi tg sp dt))))] ++ after := by
  obtain ⟨⟨b, a, ign, hr⟩, hl⟩ := line_numbers_spec d pre post (.leaf (.pi tg sp dt)) h
  exact ⟨b, a, hr.trans (hl ▸ rfl)⟩

mutual
def wfNode : DNode → Bool
  | .atom e => !e.isOpen && !e.isClose
  | .node o kids c => o.isOpen && c.isClose && wfForest kids
def wfForest : List DNode → Bool
  | [] => true
  | n :: ns => wfNode n && wfForest ns
end

/-- the filter lemmas are stated with `wfNode`/`wfForest`, which ask of a forest only that an atom is no bracket and that
    the two events of a node are an opening and a closing one, not that they match; every `OkForest` passes -/
theorem OkForest.wf {f : List DNode} (h : OkForest f) : wfForest f = true := by
  induction h with
  | nil => rfl
  | atom a ns h1 h2 _ ih => rw [wfForest, wfNode, h1, h2, ih]; rfl
  | node o c kids ns h1 h2 _ _ _ ih1 ih2 => rw [wfForest, wfNode, h1, h2, ih1, ih2]; rfl

mutual
theorem filterEvents_walk (f : Filter) : (n : DNode) → wfNode n = true → ∀ stack rest,
    filterEvents f stack (n.walk ++ rest) = DNode.walkL (kept f (modeOf stack) n) ++ filterEvents f stack rest
  | .atom e, h => by
    intro stack rest
    rw [wfNode, Bool.and_eq_true, Bool.not_eq_true', Bool.not_eq_true'] at h
    rw [DNode.walk, List.singleton_append, filterEvents_atom f e h.1 h.2]
    cases modeOf stack with
    | filter => rw [kept, lsFilterNode, Filter.atAtom]; split <;> rfl
    | _ => rfl
  | .node o kids c, h => by
    intro stack rest
    rw [wfNode, Bool.and_eq_true, Bool.and_eq_true] at h
    rw [DNode.walk, List.cons_append, List.append_assoc, List.singleton_append, filterEvents_open f o h.1.1,
      kept_node f _ o c kids]
    generalize f.atOpen (modeOf stack) o = p
    obtain ⟨m, emit⟩ := p
    rw [filterEvents_walkL f kids h.2, filterEvents_close f c h.1.2]
    cases emit with
    | false => rfl
    | true => simp only [modeOf, DNode.walkL, DNode.walk, if_true, List.append_assoc, List.cons_append,
        List.nil_append, List.append_nil]
theorem filterEvents_walkL (f : Filter) : (ns : List DNode) → wfForest ns = true → ∀ stack rest,
    filterEvents f stack (DNode.walkL ns ++ rest) = DNode.walkL (keptL f (modeOf stack) ns) ++ filterEvents f stack rest
  | [], _ => by intro stack rest; cases modeOf stack <;> rfl
  | n :: ns, h => by
    intro stack rest
    rw [wfForest, Bool.and_eq_true] at h
    rw [DNode.walkL, List.append_assoc, filterEvents_walk f n h.1, filterEvents_walkL f ns h.2, ← List.append_assoc,
      ← walkL_append]
    cases modeOf stack <;> rfl
end

theorem drop_node (f : Filter) : (n : DNode) → wfNode n = true → ∀ stack, modeOf stack = .drop → ∀ rest,
    filterEvents f stack (n.walk ++ rest) = filterEvents f stack rest :=
  fun n h stack hm rest => by rw [filterEvents_walk f n h, hm]; rfl

theorem copy_node (f : Filter) : (n : DNode) → wfNode n = true → ∀ stack, modeOf stack = .copy → ∀ rest,
    filterEvents f stack (n.walk ++ rest) = n.walk ++ filterEvents f stack rest :=
  fun n h stack hm rest => by rw [filterEvents_walk f n h, hm, kept, DNode.walkL, DNode.walkL, List.append_nil]

theorem filter_node (f : Filter) : (n : DNode) → wfNode n = true → ∀ stack, modeOf stack = .filter → ∀ rest,
    filterEvents f stack (n.walk ++ rest) = DNode.walkL (lsFilterNode f n) ++ filterEvents f stack rest :=
  fun n h stack hm rest => by rw [filterEvents_walk f n h, hm]; rfl

theorem lsFilter_walk (f : Filter) (t : Tree) (h : wfForest t = true) :
    filterEvents f [] (domWalk t) = domWalk (lsFilter f t) := by
  have := filterEvents_walkL f t h [] []
  rw [List.append_nil] at this
  exact this.trans (List.append_nil _)

/-- **filter_spec.**  A DOMLSParserFilter applied to the tree (reject removes the subtree, skip splices the children in
    place, non-element nodes are dropped by kind, CDATA sections and the DOCTYPE are atomic) is the same as the
    corresponding surgery on the event word.  This is `lsFilter`, which puts every node to the decision; `lsFilterDoc`,
    which exempts the document element, has no theorem. -/
theorem filter_spec (f : Filter) (e : List Event) (h : Balanced e) :
    domWalk (lsFilter f (buildDom e)) = filterEvents f [] e := by
  obtain ⟨t, ht, rfl⟩ := Balanced.forest h
  rw [show buildDom (DNode.walkL t) = t from buildDom_domWalk ht]
  exact (lsFilter_walk f t (OkForest.wf ht)).symm

/-- **events_parse_render.**  C02's `parse_render` read through `infoset` (of which nothing is used): reading back the
    rendering of a well-formed tree and taking the infoset gives the infoset of the tree — what the reference processor
    reports for the text `render c` is `infoset c`, for every lexical variant `c` of C02's fragment (`entOnlyDoc`: no
    DOCTYPE, or an internal subset of internal general entities, comments and PIs; so no attribute defaults, declared
    types, notations or ignorable white space occur in it). -/
theorem events_parse_render (c : Doc) (hwf : WF c) (he : entOnlyDoc c = true) :
    (parse (render c)).map infoset = .ok (infoset c) := by
  rw [XV.Props.C02.parse_render c hwf he]; rfl

/-! ### non-vacuity: the theorems instantiated on non-trivial data, with the concrete values checked by evaluation -/

section Examples
open XV.Props.C02 (doc0 doc1 doc0_wf doc1_wf)

-- §2.11: CR LF across a refill, CR CR LF, CR at the very end
example : readChars false 12 ['a', '\r'] [['\n', 'b', '\r'], ['\r', '\n'], ['\r']] = ['a', '\n', 'b', '\n', '\n', '\n'] := by decide +kernel
example : readChars false 12 ['a', '\r'] [['\n', 'b', '\r'], ['\r', '\n'], ['\r']] = eol false ("a\r\nb\r\r\n\r".toList) :=
  (eol_model_eq_spec false 12 _ _ (by decide +kernel) (by decide +kernel)).trans
    (congrArg (eol false) (XV.Props.C02.toList_eq rfl).symm)
example : eol false "\r\r\n".toList = "\n\n".toList ∧ eol false "x\r".toList = "x\n".toList ∧
    eol true ['\r', chNEL, chNEL, chLS, 'x'] = "\n\n\nx".toList ∧ eol false [chNEL, chLS] = [chNEL, chLS] := by decide +kernel
example : countLines true 9 ['\r'] [[chNEL, chLS], ['x', '\n']] 1 = 4 ∧ lineOf true ['\r', chNEL, chLS, 'x', '\n'] = 4 := by decide +kernel
example : countLines true 9 ['\r'] [[chNEL, chLS], ['x', '\n']] 1 = 1 + countLF (eol true (['\r'] ++ [[chNEL, chLS], ['x', '\n']].flatten)) :=
  eol_lines_model_eq_spec true 9 _ _ 1 (by decide +kernel) (by decide +kernel)
example : eol false (eol false "a\r\nb\r".toList) = eol false "a\r\nb\r".toList ∧ eol false "a\r\nb\r".toList ≠ "a\r\nb\r".toList :=
  ⟨eol_idempotent _ _, by decide +kernel⟩
example : (LineSt.init.feed false "a\r\nb\rc\n".toList).line = 4 ∧ lineOf false "a\r\nb\rc\n".toList = 4 := by decide +kernel

-- §3.3.3: ` &#10;x<TAB> &#32;y ` as NMTOKENS: the referenced LF survives, the referenced space collapses
def vEx : List VTok := [.lit ' ', .ref '\n', .lit 'x', .lit '\t', .lit ' ', .ref ' ', .lit 'y', .lit ' ']
theorem vEx_ok : litsOk false vEx :=
  fun _ hc => ⟨fun e => absurd (e ▸ hc) (by decide +kernel), nofun⟩
example : attNorm false vEx = "\nx y".toList ∧ attNorm true vEx = " \nx   y ".toList := by decide +kernel
example : normalizeAttValue true false XV.Gen.NormConsts.attNmTokens (encode vEx) = "\nx y".toList := by
  rw [attnorm_model_eq_spec false _ vEx vEx_ok]; decide +kernel
example : normalizeAttValue false false XV.Gen.NormConsts.attNmTokens (encode vEx) = "x y".toList := by decide +kernel   -- the code as it stands
example : normalizeAttRawValue false (encode vEx) = " \nx   y ".toList := by
  rw [attnorm_raw_model_eq_spec false vEx vEx_ok]; decide +kernel
example : attNorm false ((attNorm false vEx).map VTok.ref) = "\nx y".toList := by
  rw [attnorm_idempotent_tokenized]; decide +kernel
example : charRefUnits 0x1F600 = some (0xD83D, 0xDE00) ∧ charRefUnits 0x41 = some (0x41, 0) ∧ charRefUnits 0xFFFE = none := by decide +kernel
example : 0x10000 + (0xD83D - 0xD800) * 1024 + (0xDE00 - 0xDC00) = 0x1F600 := by
  have := charref_units_spec 0x1F600 0xD83D 0xDE00 (by decide +kernel); omega

set_option maxRecDepth 100000 in
example : infoset doc0 =
    [.startDocument, .xmlDecl "1.0".toList (some "UTF-8".toList) (some true), .comment ['c'] 2, .pi ['p'] ['d'] 3,
     .startElement ['a'] [⟨['b'], "x<A".toList, true, "CDATA".toList⟩] 3, .characters ['t'],
     .startElement "c:d".toList [] 3, .endElement "c:d".toList, .characters ['A'],
     .startCDATA, .characters "]]".toList, .endCDATA,
     .startElement ['e'] [] 3, .characters ['&'], .endElement ['e'], .endElement ['a'],
     .comment "-x".toList 3, .endDocument] := by decide +kernel
set_option maxRecDepth 100000 in
example : infoset doc1 =
    [.startDocument, .doctype ['a'] none none, .entityDecl ['e'] (.internal "<b>t&#60;</b>".toList), .comment ['c'] 2,
     .pi ['p'] [] 2, .entityDecl ['f'] (.internal "v&g;".toList), .entityDecl ['g'] (.internal "&#60;".toList), .endDoctype,
     .startElement ['a'] [⟨['x'], "v<".toList, true, "CDATA".toList⟩] 3,
     .startEntity ['e'], .startElement ['b'] [] 3, .characters "t<".toList, .endElement ['b'], .endEntity ['e'],
     .startEntity ['f'], .characters ['v'], .startEntity ['g'], .characters ['<'], .endEntity ['g'], .endEntity ['f'],
     .endElement ['a'], .endDocument] := by decide +kernel
example : Balanced (infoset doc1) := events_wellnested doc1 doc1_wf
example : domWalk (buildDom (infoset doc1)) = infoset doc1 := dom_walk_build _ (events_wellnested doc1 doc1_wf)
set_option maxRecDepth 100000 in
example : (buildDom (infoset doc1)).length = 1 := by decide +kernel
example : erase (toSAX2 true (infoset doc0)) = toSAX1 (infoset doc0) := sax1_sax2_agree true _
set_option maxRecDepth 100000 in
example : toSAX1 (infoset doc1) =
    [.startDocument, .pi ['p'] [] 2, .startElement ['a'] [(['x'], "CDATA".toList, "v<".toList)] 3,
     .startElement ['b'] [] 3, .characters "t<".toList, .endElement ['b'], .characters "v<".toList, .endElement ['a'],
     .endDocument] := by decide +kernel
example : (pullAll (infoset doc1)).flatten = infoset doc1 := pull_eq_push _
set_option maxRecDepth 100000 in
example : (pullAll (infoset doc1)).length > 3 := by decide +kernel
-- a filter that rejects elements named b… and drops comments: acts inside the entity expansion of doc1
def fEx : Filter := ⟨fun n => if n.head? = some 'b' then .reject else .accept, .accept, .accept, .reject, .accept⟩
example : domWalk (lsFilter fEx (buildDom (infoset doc1))) = filterEvents fEx [] (infoset doc1) :=
  filter_spec fEx _ (events_wellnested doc1 doc1_wf)
set_option maxRecDepth 100000 in
example : (filterEvents fEx [] (infoset doc1)).length = 19 ∧ (infoset doc1).length = 22 := by decide +kernel
-- line numbers: doc0's root start tag is the first token of the root; its `>` is on line 3
example : ∃ before after, rawEvents doc0 = before ++ [Event.startElement ['a'] (tagAttrs (docCtx doc0) true ⟨['a'], [⟨[' '], ['b'], ⟨[], []⟩, .dq, [.ch 'x', .eref ['l', 't'], .cref ⟨false, ['6', '5']⟩]⟩], []⟩)
      (lineOf (docCtx doc0).v11 (rootPrefix doc0 ++ renderToks [] ++ renderTok (.stag ⟨['a'], [⟨[' '], ['b'], ⟨[], []⟩, .dq, [.ch 'x', .eref ['l', 't'], .cref ⟨false, ['6', '5']⟩]⟩], []⟩)))] ++ after :=
  line_of_start_tag doc0 [] _ _ rfl
set_option maxRecDepth 100000 in
example : lineOf false (rootPrefix doc0) = 3 := by decide +kernel
example : (parse (render doc1)).map infoset = .ok (infoset doc1) := events_parse_render doc1 doc1_wf rfl
example : render doc0 = rootPrefix doc0 ++ renderToks doc0.root.toks ++ renderLeaves doc0.post := render_split doc0

end Examples

end XV.Props.C03
