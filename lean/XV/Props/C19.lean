/-
C19 — no external resource is touched unless permitted; entity expansion is bounded.
Every statement quantifies over ALL entity tables / documents / worlds (file systems + resolvers) / configurations;
nothing here is a bounded check.

The entity half (expansion, recursion, limit) is proved in XV.Lemmas.Entity and read off here for `run`.  The fetch-gating
half is of another kind, by construction of the log: `parse` logs blocks of type `Fetched w cfg`, a `Block` with the
evidence `Block.WF`, which holds of what `mkBlock` makes at a site where the interpreter has tested `mayFetch` (the one
proof is `XV.Model.ExtGate.mkBlock_wf`).  Each gating theorem reads fields of that evidence; it holds of every `Fetched w cfg`, and
that `b` is in the log of a parse is not used.  That the log is complete (content is read only through the `used` source of
a logged block) and that the gates the interpreter tests are those of the code is by inspection of XV.Model.ExtGate and by
the correspondence check, not by a theorem.  The configuration histories (`settings_survive` …) are a third, independent
part; nothing of XV.Props.C19Uri is used here.
-/
import XV.Lemmas.Entity
import XV.Model.ExtGate
import XV.Gen.ErrCodes
import XV.Gen.ScannerCopy
import XV.Model.CfgHistory
import XV.Props.C19Uri
namespace XV.Props.C19
open XV.Spec.Entity XV.Model.Entity XV.Lemmas.Entity

theorem run_outcome {cfg : Cfg} {tbl : Table} {d : Doc} {e : Option Err} (h : (run cfg tbl d).err = e) :
    Outcome cfg tbl d.flatten e :=
  h ▸ scanDoc_outcome cfg tbl (fuelFor tbl) (Nat.le_refl _) d {} rfl

/-- **Expansion halts, for EVERY entity table, cyclic or not.**  The reader stack never gets deeper than
    `2·|table| + 1` (`fuelFor`): the recursion budget of the model is never exhausted, whatever the table, the
    document, the limit and the scanner.  Measure: the declared names not below the current reader plus those not on
    the reader stack at all — the test in `pushReader` skips the top of the stack, so a name leaves the two counts
    one push apart, which costs exactly one extra level per name (`XV.Lemmas.Entity.measure_push`). -/
theorem expansion_terminates (cfg : Cfg) (tbl : Table) (d : Doc) : (run cfg tbl d).err ≠ some .depth :=
  fun h => run_outcome h

/-- the same with any larger budget: the bound does not depend on the budget chosen -/
theorem expansion_terminates_any_budget (cfg : Cfg) (tbl : Table) (d : Doc) (fuel : Nat) (h : fuelFor tbl ≤ fuel) :
    (scanDoc cfg tbl fuel d {}).err ≠ some .depth :=
  fun he => (he ▸ scanDoc_outcome cfg tbl fuel h d {} rfl :)

/-- Without a limit the model computes exactly the declarative expansion: no error, the characters of the full
    expansion, and `count` = the number of expansions the document needs. -/
theorem expansion_correct {tbl : Table} {cs : Bool} {d : Doc} {o : List Nat} {k : Nat}
    (h : Expands tbl cs d.flatten o k) :
    (run ⟨none, cs⟩ tbl d).err = none ∧ (run ⟨none, cs⟩ tbl d).outRev = o.reverse ∧ (run ⟨none, cs⟩ tbl d).count = k := by
  obtain ⟨h1, h2, h3⟩ := scanDoc_of_expands tbl cs (2 * tbl.length) (Nat.le_refl _) d {} h rfl
  exact ⟨h1, h2.trans (List.append_nil _), h3.trans (Nat.zero_add k)⟩

/-- …and it reports no error only if the document has a (finite) expansion. -/
theorem expansion_ok_iff (cs : Bool) (tbl : Table) (d : Doc) :
    (run ⟨none, cs⟩ tbl d).err = none ↔ ∃ o k, Expands tbl cs d.flatten o k :=
  ⟨run_outcome, fun ⟨_, _, h⟩ => (expansion_correct h).1⟩

/-- **A directly or indirectly self-referential entity reachable from the document is always reported**: the parse
    ends with an error (and by `expansion_terminates` it does end), for every limit setting and scanner.  Which error
    is not said: the limit or an undeclared entity may be met before the recursion. -/
theorem recursion_always_reported {tbl : Table} {d : Doc} {n : Name} (cfg : Cfg) (h : SelfRef tbl d.flatten n) :
    ∃ e, (run cfg tbl d).err = some e ∧ e ≠ .depth := by
  cases he : (run cfg tbl d).err with
  | none => exact absurd (run_outcome he) (selfRef_not_expands h)
  | some e => exact ⟨e, rfl, fun hd => expansion_terminates cfg tbl d (hd ▸ he)⟩

/-- every entity referenced anywhere is declared -/
def Closed (tbl : Table) (t : Text) : Prop := ∀ n, Referenced tbl t n → tbl.get n ≠ none

/-- …and, when nothing else can go wrong (no limit; every entity referenced in the document or in the text of any
    declared entity, reachable or not, is declared: `Closed`), the error reported is a recursion error.  Its name `m` is
    not related to `n` by the statement. -/
theorem recursion_reported_as_such {tbl : Table} {d : Doc} {n : Name} (cs : Bool) (h : SelfRef tbl d.flatten n)
    (hc : Closed tbl d.flatten) : ∃ m, (run ⟨none, cs⟩ tbl d).err = some (.recursive m) := by
  obtain ⟨e, he, hne⟩ := recursion_always_reported ⟨none, cs⟩ h
  have ho := run_outcome he
  cases e with
  | recursive m => exact ⟨m, he⟩
  | depth => exact absurd rfl hne
  | limit => exact absurd rfl ho
  | notFound m => exact absurd ho.1 (hc m ho.2)

theorem run_sim (cs : Bool) (l : Nat) (tbl : Table) (d : Doc) : Sim l (run ⟨none, cs⟩ tbl d) (run ⟨some l, cs⟩ tbl d) :=
  scanDoc_sim tbl cs l (2 * tbl.length) d {} (Nat.zero_le _)

/-- **With limit `l` at most `l + 1` expansions are performed** (the code pushes the reader of the (l+1)-th
    expansion and then raises the error: `++fEntityExpansionCount > fEntityExpansionLimit`), for every document. -/
theorem limit_enforced_count (cs : Bool) (l : Nat) (tbl : Table) (d : Doc) :
    (run ⟨some l, cs⟩ tbl d).count ≤ l + 1 ∧ (run ⟨some l, cs⟩ tbl d).pushes ≤ l + 1 := by
  have hs := run_sim cs l tbl d
  have hcount : (run ⟨some l, cs⟩ tbl d).count ≤ l + 1 := by
    by_cases h : (run ⟨none, cs⟩ tbl d).count ≤ l
    · rw [hs.1 h]; omega
    · rw [(hs.2 (by omega)).2]; omega
  -- every push is counted
  have hp : (run ⟨some l, cs⟩ tbl d).pushes + 0 ≤ (run ⟨some l, cs⟩ tbl d).count + 0 :=
    (scanDoc_grow ⟨some l, cs⟩ tbl _ d {}).2
  exact ⟨hcount, by omega⟩

/-- **…and the limit error is raised iff the document needs more than `l` expansions**, stated for every document
    through the unlimited run… -/
theorem limit_enforced_general (cs : Bool) (l : Nat) (tbl : Table) (d : Doc) :
    (run ⟨some l, cs⟩ tbl d).err = some .limit ↔ l < (run ⟨none, cs⟩ tbl d).count := by
  refine ⟨fun h => Nat.lt_of_not_le fun hle => ?_, fun h => ((run_sim cs l tbl d).2 h).1⟩
  -- within the limit both runs are the same, and without a limit there is no limit error
  rw [(run_sim cs l tbl d).1 hle] at h
  exact run_outcome h rfl

/-- …and, for documents that have an expansion, through the declarative count `k`. -/
theorem limit_enforced {tbl : Table} {cs : Bool} {d : Doc} {o : List Nat} {k : Nat} (l : Nat)
    (h : Expands tbl cs d.flatten o k) : (run ⟨some l, cs⟩ tbl d).err = some .limit ↔ l < k := by
  rw [limit_enforced_general, (expansion_correct h).2.2]

/-- **Documents within the limit are unaffected**: the whole result (delivered characters, counters, no error) is the
    result without a limit. -/
theorem within_limit_unaffected {tbl : Table} {cs : Bool} {d : Doc} {o : List Nat} {k : Nat} {l : Nat}
    (h : Expands tbl cs d.flatten o k) (hk : k ≤ l) :
    run ⟨some l, cs⟩ tbl d = run ⟨none, cs⟩ tbl d ∧ (run ⟨some l, cs⟩ tbl d).err = none ∧
    (run ⟨some l, cs⟩ tbl d).outRev = o.reverse := by
  obtain ⟨e1, e2, e3⟩ := expansion_correct h
  have heq := (run_sim cs l tbl d).1 (e3 ▸ hk)
  exact ⟨heq, heq ▸ e1, heq ▸ e2⟩

/-- the same without assuming an expansion exists: whenever the unlimited run stays within `l` expansions (it may
    still end in a recursion error), the limited run is identical -/
theorem within_limit_unaffected_general (cs : Bool) (l : Nat) (tbl : Table) (d : Doc)
    (h : (run ⟨none, cs⟩ tbl d).count ≤ l) : run ⟨some l, cs⟩ tbl d = run ⟨none, cs⟩ tbl d :=
  (run_sim cs l tbl d).1 h

/-- Both errors are in the fatal range of the regenerated XMLErrs enum (so the parse really ends). -/
theorem limit_and_recursion_errors_are_fatal :
    XV.Gen.ErrCodes.F_LowBounds < XV.Gen.ErrCodes.EntityExpansionLimitExceeded ∧
    XV.Gen.ErrCodes.EntityExpansionLimitExceeded < XV.Gen.ErrCodes.F_HighBounds ∧
    XV.Gen.ErrCodes.F_LowBounds < XV.Gen.ErrCodes.RecursiveEntity ∧
    XV.Gen.ErrCodes.RecursiveEntity < XV.Gen.ErrCodes.F_HighBounds := by decide

/-! ### non-vacuity (entities 0,1,2 ; characters 97.. ) -/

/-- e0 = "a", e1 = "&e0;b&e0;", e2 = "&e1;&e1;" : `&e2;` needs 1 + 2·(1 + 2) = 7 expansions -/
def tblOK : Table := [(0, [.ch 97]), (1, [.ref 0, .ch 98, .ref 0]), (2, [.ref 1, .ref 1])]
def docOK : Doc := [(false, [.ref 0]), (true, [.ch 120, .ref 2])]

theorem docOK_expands : Expands tblOK false docOK.flatten [97, 120, 97, 98, 97, 97, 98, 97] 8 := by
  have e0 : Expands tblOK false [.ch 97] [97] 0 := .ch .nil
  have e1 : Expands tblOK false [.ref 0, .ch 98, .ref 0] [97, 98, 97] 2 :=
    Expands.ref (n := 0) rfl e0 (.ch (Expands.ref (n := 0) rfl e0 .nil))
  have e2 : Expands tblOK false [.ref 1, .ref 1] [97, 98, 97, 97, 98, 97] 6 :=
    Expands.ref (n := 1) rfl e1 (Expands.ref (n := 1) rfl e1 .nil)
  exact Expands.ref (n := 0) rfl e0 (.ch (Expands.ref (n := 2) rfl e2 .nil))

example : (run ⟨none, false⟩ tblOK docOK).count = 8 := (expansion_correct docOK_expands).2.2
example : (run ⟨some 7, false⟩ tblOK docOK).err = some .limit := (limit_enforced 7 docOK_expands).2 (by decide)
example : (run ⟨some 8, false⟩ tblOK docOK).err = none := (within_limit_unaffected docOK_expands (by decide)).2.1
example : (run ⟨some 7, false⟩ tblOK docOK).pushes = 8 := by decide +kernel        -- exactly l + 1 are performed
example : (run ⟨some 3, false⟩ tblOK docOK).se = 2 := by decide +kernel            -- two of them announced in content
example : (run ⟨some 2, true⟩ [] [(true, [.special 38, .special 60, .special 62])]).err = some .limit := by decide +kernel
example : (run ⟨some 2, false⟩ [] [(true, [.special 38, .special 60, .special 62])]).err = none := by decide +kernel

/-- e0 → e1 → e2 → e1 : a cycle of length 2 reached indirectly; e3 refers to itself directly -/
def tblCyc : Table := [(0, [.ref 1]), (1, [.ch 97, .ref 2]), (2, [.ref 1]), (3, [.ref 3])]

theorem cyc_selfref : SelfRef tblCyc (Doc.flatten [(true, [.ref 0])]) 1 :=
  ⟨[0], [2], [.ch 97, .ref 2], .cons (by decide) rfl (.one (by decide)), rfl,
    .cons (by decide) rfl (.one (by decide))⟩

example : ∃ e, (run ⟨none, false⟩ tblCyc [(true, [.ref 0])]).err = some e ∧ e ≠ .depth :=
  recursion_always_reported _ cyc_selfref
example : (run ⟨none, false⟩ tblCyc [(true, [.ref 0])]).err = some (.recursive 1) := by decide +kernel
example : (run ⟨none, false⟩ tblCyc [(false, [.ref 3])]).err = some (.recursive 3) := by decide +kernel
example : (run ⟨none, false⟩ tblCyc [(false, [.ref 3])]).pushes = 2 := by decide +kernel   -- the skipped top-of-stack test: one extra level
example : (run ⟨some 1, false⟩ tblCyc [(true, [.ref 0])]).err = some .limit := by decide +kernel
example : (run ⟨none, false⟩ tblCyc [(true, [.ref 0])]).err ≠ some .depth := expansion_terminates _ _ _

open XV.Spec.ExtGate XV.Model.ExtGate

/-- **Nothing is fetched at a site the configuration does not permit** — for every world, configuration and
    document tree (the table `mayFetch` is the property's list of switches). -/
theorem fetch_permitted (w : World) (cfg : XV.Spec.ExtGate.Cfg) (fuel : Nat) (sysId key : String) :
    ∀ b ∈ (parse w cfg fuel sysId key).log, mayFetch cfg b.1.ctx b.1.site = true :=
  fun b _ => b.2.permitted

theorem opened_none {w : World} {cfg : XV.Spec.ExtGate.Cfg} (b : Fetched w cfg) (hd : cfg.disableDefault = true) :
    b.1.opened = none := by
  cases ho : b.1.opened with
  | none => rfl
  | some t => exact nomatch hd.symm.trans (b.2.opened t ho).2.1

/-- **With default entity resolution disabled nothing is ever opened by the parser itself**; if moreover the
    resolver declines everything, no content other than the document is read. -/
theorem no_fetch_when_disabled (w : World) (cfg : XV.Spec.ExtGate.Cfg) (fuel : Nat) (sysId key : String)
    (hd : cfg.disableDefault = true) :
    (∀ b ∈ (parse w cfg fuel sysId key).log, b.1.opened = none) ∧
    ((∀ r, w.answer r = none) → ∀ b ∈ (parse w cfg fuel sysId key).log, b.1.used = none) := by
  refine ⟨fun b _ => opened_none b hd, fun hdecl b _ => ?_⟩
  have hsup : b.1.supplied = none := b.2.supplied.trans (Option.bind_eq_none_iff.2 fun r _ => hdecl r)
  cases hu : b.1.used with
  | none => rfl
  | some s =>
    -- a source is used only if it was supplied or opened
    rcases b.2.usedFrom s hu with h | ⟨t, h⟩
    · rw [hsup] at h; cases h
    · rw [opened_none b hd] at h; cases h

theorem mem_trace {w : World} {cfg : XV.Spec.ExtGate.Cfg} (st : St w cfg) (e : Event) :
    e ∈ trace st ↔ ∃ b ∈ st.log, e ∈ b.1.events := by
  simp only [trace, ← List.flatMap_def, List.mem_flatMap, List.mem_reverse]

/-- `no_fetch_when_disabled` on the observable trace: only resolver calls -/
theorem no_open_in_trace_when_disabled (w : World) (cfg : XV.Spec.ExtGate.Cfg) (fuel : Nat) (sysId key : String)
    (hd : cfg.disableDefault = true) :
    ∀ e ∈ trace (parse w cfg fuel sysId key), ∃ r, e = .resolve r := by
  intro e he
  obtain ⟨b, hb, hev⟩ := (mem_trace _ e).1 he
  simp only [Block.events, opened_none b hd, List.append_nil] at hev
  cases hoff : b.1.offered with
  | none => simp [hoff] at hev
  | some r => simp only [hoff, List.mem_singleton] at hev; exact ⟨r, hev⟩

/-! ### the gates: one lemma per switch of the property text (`gate_*`) -/

theorem mayFetch_schema {cfg : XV.Spec.ExtGate.Cfg} {x : Ctx} {s : Site} (h : mayFetch cfg x s = true) :
    (readsSchema cfg = true ∧ cfg.loadSchema = true) ∨
      (x = .instance ∧ (s = .extSubset ∨ s = .paramEntity ∨ s = .generalEntity)) := by
  cases x <;> cases s <;> simp_all [mayFetch]

section gates
variable (w : World) (cfg : XV.Spec.ExtGate.Cfg) (fuel : Nat) (sysId key : String)

/-- the scanners that ignore DTDs (WF, SG): no external subset, parameter entity or general entity of the
    instance document is fetched -/
theorem gate_scanner_ignores_dtd (h : cfg.scanner = .WF ∨ cfg.scanner = .SG) :
    ∀ b ∈ (parse w cfg fuel sysId key).log, b.1.ctx = .instance →
      b.1.site ≠ .extSubset ∧ b.1.site ≠ .paramEntity ∧ b.1.site ≠ .generalEntity := by
  intro b _ hc
  have hp := b.2.permitted
  rw [hc] at hp
  have hr : readsDTD cfg = false := by rcases h with h | h <;> simp [readsDTD, h]
  refine ⟨?_, ?_, ?_⟩ <;> intro hs <;> rw [hs] at hp <;> simp [mayFetch, hr] at hp

/-- external-DTD loading off and validation off: no external subset is fetched (neither the instance's nor a
    schema document's) -/
theorem gate_load_external_dtd (hl : cfg.loadExternalDTD = false) (hv : cfg.valScheme = .never) :
    ∀ b ∈ (parse w cfg fuel sysId key).log, b.1.site ≠ .extSubset := by
  intro b _ hs
  have hp := b.2.permitted
  rw [hs] at hp
  cases hc : b.1.ctx <;> rw [hc] at hp <;> simp [mayFetch, hl, validationOn, hv] at hp

/-- schema loading off: no schema is fetched, and nothing referenced from a schema document either -/
theorem gate_load_schema (hl : cfg.loadSchema = false) :
    ∀ b ∈ (parse w cfg fuel sysId key).log, b.1.ctx = .instance ∧
      (b.1.site = .extSubset ∨ b.1.site = .paramEntity ∨ b.1.site = .generalEntity) :=
  fun b _ => (mayFetch_schema b.2.permitted).resolve_left (by simp [hl])

/-- schema processing off (general scanner without fgXercesSchema, or the DTD-only / WF scanners): the same -/
theorem gate_do_schema (h : readsSchema cfg = false) :
    ∀ b ∈ (parse w cfg fuel sysId key).log, b.1.ctx = .instance ∧
      (b.1.site = .extSubset ∨ b.1.site = .paramEntity ∨ b.1.site = .generalEntity) :=
  fun b _ => (mayFetch_schema b.2.permitted).resolve_left (by simp [h])

/-- default entity resolution disabled: `mayOpen` is false everywhere and indeed nothing is opened -/
theorem gate_disable_default (hd : cfg.disableDefault = true) :
    (∀ x s, mayOpen cfg x s = false) ∧ ∀ b ∈ (parse w cfg fuel sysId key).log, b.1.opened = none :=
  ⟨fun x s => by simp [mayOpen, hd], fun b _ => opened_none b hd⟩

/-- the gates taken together: whatever is opened by default resolution is opened at a site where `mayOpen` holds -/
theorem gates_spec :
    ∀ b ∈ (parse w cfg fuel sysId key).log, b.1.opened.isSome = true → mayOpen cfg b.1.ctx b.1.site = true := by
  intro b _ ho
  cases hopen : b.1.opened with
  | none => rw [hopen] at ho; cases ho
  | some t =>
    have := (b.2.opened t hopen).2.1
    simp [mayOpen, b.2.permitted, this]

end gates

theorem opened_after_decline {w : World} {cfg : XV.Spec.ExtGate.Cfg} (b : Fetched w cfg) {r : ResId} {t : Target}
    (hoff : b.1.offered = some r) (ht : b.1.opened = some t) :
    w.answer r = none ∧ b.1.events = [.resolve r, t.event] := by
  refine ⟨?_, by simp [Block.events, hoff, ht]⟩
  have := b.2.supplied
  rw [(b.2.opened t ht).1, hoff] at this
  exact this.symm

/-- **Resolver first**: every fetch is offered to the installed resolver, with the identifier the interpreter built (system
    identifier as written, base as passed); a default open happens only after the resolver declined exactly that
    identifier, it is the very next observable event, and what is opened is the default resolution (`World.defaultSource`,
    uninterpreted) of (that base, that system id).  `container` is the identifier's base by construction of `fetch`, so
    the second conjunct holds of every block; that this base is the system id of the entity containing the external
    identifier is how `dtdItems` / `bodyItems` thread `cur` and record it in a declaration (`mkDecl`), not a statement. -/
theorem resolver_first (w : World) (cfg : XV.Spec.ExtGate.Cfg) (fuel : Nat) (sysId key : String)
    (hr : cfg.resolver = .xml) :
    ∀ b ∈ (parse w cfg fuel sysId key).log,
      b.1.offered = some b.1.rid ∧ b.1.rid.baseURI = b.1.container ∧
      ∀ t, b.1.opened = some t →
        w.answer b.1.rid = none ∧ b.1.events = [.resolve b.1.rid, t.event] ∧
        t = (w.defaultSource b.1.container b.1.rid.systemId).1 := by
  intro b _
  have hoff : b.1.offered = some b.1.rid := by rw [b.2.offered]; simp [offer, hr]
  exact ⟨hoff, b.2.base, fun t ht => ⟨(opened_after_decline b hoff ht).1, (opened_after_decline b hoff ht).2,
    b.2.base ▸ (b.2.opened t ht).2.2.1⟩⟩

/-- the same for a SAX `EntityResolver`, which is shown (publicId, systemId) only -/
theorem resolver_first_sax (w : World) (cfg : XV.Spec.ExtGate.Cfg) (fuel : Nat) (sysId key : String)
    (hr : cfg.resolver = .sax) :
    ∀ b ∈ (parse w cfg fuel sysId key).log,
      b.1.offered = some (saxView b.1.rid) ∧
      ∀ t, b.1.opened = some t → w.answer (saxView b.1.rid) = none ∧ b.1.events = [.resolve (saxView b.1.rid), t.event] := by
  intro b _
  have hoff : b.1.offered = some (saxView b.1.rid) := by rw [b.2.offered]; simp [offer, hr]
  exact ⟨hoff, fun t ht => opened_after_decline b hoff ht⟩

/-- **A source supplied by the resolver is used instead of the default**: nothing is opened for that identifier, and
    the content parsed (if the parser goes on to read it at all: schema de-duplication) is the supplied source. -/
theorem resolver_source_used (w : World) (cfg : XV.Spec.ExtGate.Cfg) (fuel : Nat) (sysId key : String) :
    ∀ b ∈ (parse w cfg fuel sysId key).log, ∀ s, b.1.supplied = some s →
      b.1.opened = none ∧ (b.1.used = some s ∨ b.1.used = none) ∧ ∃ r, b.1.events = [.resolve r] := by
  intro b _ s hs
  obtain ⟨h1, h2⟩ := b.2.used s hs
  -- an answer was supplied, so the resolver was asked
  obtain ⟨r, hoff, _⟩ := Option.bind_eq_some_iff.1 (b.2.supplied.symm.trans hs)
  exact ⟨h1, h2, r, by simp [Block.events, hoff, h1]⟩

section history
open XV.Model.CfgHistory

theorem foldl_step {copied : List String} {n : String} (hn : n ∈ copied) (h : List Op) (o : Obj) :
    h.foldl (step copied) o n = (lastSet h n).or (o n) := by
  induction h generalizing o with
  | nil => rfl
  | cons op rest ih =>
    simp only [List.foldl_cons, ih, lastSet]
    cases lastSet rest n with
    | some v => rfl
    | none =>
      cases op with
      | set m v => simp only [step, eq_comm (a := m)]; split <;> rfl
      | useScanner => simp [step, hn]

/-- **A setting whose setter is in the copy list of `setParseSettings` has, in the scanner that finally parses, the
    last value the application set — wherever scanner switches occur in the configuration history.** -/
theorem settings_survive (copied : List String) (h : List Op) (n : String) (hn : n ∈ copied) :
    XV.Model.CfgHistory.run copied h n = lastSet h n :=
  (foldl_step hn h _).trans (Option.or_none ..)

/-- the switches the property talks about (and the other fetch-relevant settings), by XMLScanner setter -/
def policySetters : List String :=
  ["setDisableDefaultEntityResolution", "setLoadExternalDTD", "setLoadSchema", "setDoSchema", "setDoNamespaces",
   "setValidationScheme", "setSkipDTDValidation", "setSecurityManager", "setEntityHandler", "setStandardUriConformant",
   "setDisallowDTD", "setExternalSchemaLocation", "setExternalNoNamespaceSchemaLocation",
   "cacheGrammarFromParse", "useCachedGrammarInParse", "setIgnoredCachedDTD", "setHandleMultipleImports", "setExitOnFirstFatal"]

/-- every policy setter has its copy line in the regenerated `setParseSettings` -/
theorem policy_setters_copied : ∀ s ∈ policySetters, s ∈ XV.Gen.ScannerCopy.copied := by
  -- both memberships become disjunctions of equations; every name is then met literally in the copy list, so no two
  -- different strings are ever compared (deciding that goes through the UTF-8 encodings of both)
  simp only [policySetters, XV.Gen.ScannerCopy.copied, List.mem_cons, List.not_mem_nil, or_false, forall_eq_or_imp,
    forall_eq, true_or, or_true, and_self]

/-- setters of XMLScanner that are not user settings (per-parse state, plumbing set by the parser itself) -/
def notUserSettings : List String :=
  ["setAttrDupChkRegistry", "setHasNoDTD", "setParseSettings", "setRootElemName", "setURIStringPool", "setValidator"]

/-- …and so has every other setter XMLScanner.hpp declares, except the six that are not user settings -/
theorem every_setter_copied :
    ∀ s ∈ XV.Gen.ScannerCopy.setters, s ∈ XV.Gen.ScannerCopy.copied ∨ s ∈ notUserSettings := by
  simp only [XV.Gen.ScannerCopy.setters, XV.Gen.ScannerCopy.copied, notUserSettings, List.mem_cons, List.not_mem_nil,
    or_false, forall_eq_or_imp, forall_eq, true_or, or_true, and_self]

/-- **For every configuration history** (any interleaving of policy settings and scanner switches) **the effective value
    of every policy switch is the last value set.** -/
theorem policy_survives_scanner_switch (h : List Op) :
    ∀ s ∈ policySetters, XV.Model.CfgHistory.run XV.Gen.ScannerCopy.copied h s = lastSet h s :=
  fun s hs => settings_survive _ h s (policy_setters_copied s hs)

-- non-vacuity: policy set BEFORE the switch survives; a setting that is not copied would be lost
example : XV.Model.CfgHistory.run XV.Gen.ScannerCopy.copied [.set "setDisableDefaultEntityResolution" 1, .useScanner, .set "setLoadSchema" 0, .useScanner]
    "setDisableDefaultEntityResolution" = some 1 := by
  rw [policy_survives_scanner_switch _ _ List.mem_cons_self]; decide +kernel
example : XV.Model.CfgHistory.run ["setLoadSchema"] [.set "setDisableDefaultEntityResolution" 1, .useScanner] "setDisableDefaultEntityResolution" = none ∧
    lastSet [.set "setDisableDefaultEntityResolution" 1, .useScanner] "setDisableDefaultEntityResolution" = some 1 := by decide +kernel

end history

/-! ### non-vacuity: a small world -/

/-- main document: external subset "e.dtd", internal subset declaring the external entity g = "g.ent", the root element
    carries xsi:noNamespaceSchemaLocation="s.xsd" and the content refers to &g;.  The resolver supplies the schema
    (which includes "i.xsd") and declines everything else; default resolution "opens" base|systemId. -/
def exWorld : World where
  answer := fun r => if r.systemId = "s.xsd" then some ⟨"mem:s", "s.xsd"⟩ else none
  defaultSource := fun b s => (.file (b ++ "|" ++ s), ⟨b ++ "|" ++ s, s⟩)
  content := fun k =>
    if k = "main" then some (.doc (some ⟨some ("e.dtd", ""), [.declGE "g" "g.ent" ""]⟩) [.noNsLoc "s.xsd", .refGE "g"])
    else if k = "e.dtd" then some (.dtd [])
    else if k = "g.ent" then some (.ent [])
    else if k = "s.xsd" then some (.schema none "" [.inc "i.xsd"] [])
    else none

def exCfg : XV.Spec.ExtGate.Cfg := { resolver := .xml, doSchema := true }

-- four fetch decisions; the supplied schema is used (its include is offered with base = the supplied source's id)
example : (parse exWorld exCfg 20 "main" "main").log.length = 4 := by decide +kernel
example : trace (parse exWorld exCfg 20 "main" "main") =
    [.resolve ⟨.externalEntity, "e.dtd", "main", "", ""⟩, .openFile "main|e.dtd",
     .resolve ⟨.schemaGrammar, "s.xsd", "main", "", ""⟩,
     .resolve ⟨.schemaInclude, "i.xsd", "mem:s", "", ""⟩, .openFile "mem:s|i.xsd",
     .resolve ⟨.externalEntity, "g.ent", "main", "", ""⟩, .openFile "main|g.ent"] := by decide +kernel
-- default resolution disabled: the first identifier the resolver declines ends the parse, nothing is opened
example : trace (parse exWorld { exCfg with disableDefault := true } 20 "main" "main") =
    [.resolve ⟨.externalEntity, "e.dtd", "main", "", ""⟩] := by decide +kernel
example : (parse exWorld { exCfg with disableDefault := true } 20 "main" "main").fatal = some "noopen" := by decide +kernel
-- the DTD-ignoring scanner: only the schema side is fetched, &g; is undefined
example : trace (parse exWorld { exCfg with scanner := .SG } 20 "main" "main") =
    [.resolve ⟨.schemaGrammar, "s.xsd", "main", "", ""⟩,
     .resolve ⟨.schemaInclude, "i.xsd", "mem:s", "", ""⟩, .openFile "mem:s|i.xsd"] := by decide +kernel
-- external-DTD loading off, validation off, schema loading off: only the entity declared in the internal subset
example : trace (parse exWorld { exCfg with loadExternalDTD := false, loadSchema := false } 20 "main" "main") =
    [.resolve ⟨.externalEntity, "g.ent", "main", "", ""⟩, .openFile "main|g.ent"] := by decide +kernel
example : ∀ b ∈ (parse exWorld exCfg 20 "main" "main").log, b.1.offered = some b.1.rid :=
  fun b hb => (resolver_first exWorld exCfg 20 "main" "main" rfl b hb).1

/-- a declaration produced by the replacement text of an INTERNAL parameter entity takes its base from the external
    entity being read (here the external subset "main|d/e.dtd"), not from the in-memory reader and not from the document -/
def exWorldPE : World where
  answer := fun _ => none
  defaultSource := fun b s => (.file (b ++ "|" ++ s), ⟨b ++ "|" ++ s, s⟩)
  content := fun k =>
    if k = "main" then some (.doc (some ⟨some ("d/e.dtd", ""), []⟩) [.refGE "v"])
    else if k = "d/e.dtd" then some (.dtd [.declIntPE "decls" [.declGE "v" "e.ent" ""], .refPE "decls"])
    else if k = "e.ent" then some (.ent [])
    else none

example : trace (parse exWorldPE { resolver := .xml } 20 "main" "main") =
    [.resolve ⟨.externalEntity, "d/e.dtd", "main", "", ""⟩, .openFile "main|d/e.dtd",
     .resolve ⟨.externalEntity, "e.ent", "main|d/e.dtd", "", ""⟩, .openFile "main|d/e.dtd|e.ent"] := by decide +kernel

end XV.Props.C19
