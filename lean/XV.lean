import XV.Props.C19Uri
import XV.Props.C11
import XV.Props.C07
import XV.Props.C06
import XV.Props.C05
import XV.Props.C10
import XV.Props.C17
import XV.Props.C19
import XV.Props.C20
import XV.Props.C18
import XV.Props.C13
import XV.Props.C02
import XV.Props.C09
import XV.Props.C16
import XV.Props.C12
import XV.Props.C01
import XV.Props.C08
import XV.Props.C04
import XV.Props.C15
import XV.Props.C03
import XV.Props.C14
import XV.Gen.ScannerCopy
import XV.Model.CfgHistory
import XV.Spec.Duration
import XV.Model.Duration
